import HL.Audit.Tool
import HL.Driver.AstJson
import HL.Driver.C01
import HL.Driver.C02
import HL.Driver.C02Core
import HL.Driver.C03
import HL.Driver.C03Core
import HL.Driver.C05
import HL.Driver.C05Core
import HL.Driver.C06H
import HL.Driver.C07
import HL.Driver.C08
import HL.Driver.C09
import HL.Driver.C09Docs
import HL.Driver.C10
import HL.Driver.C12
import HL.Driver.C13
import HL.Driver.C14
import HL.Driver.C15
import HL.Driver.C16
import HL.Driver.C17
import HL.Driver.C18
import HL.Driver.C19
import HL.Driver.C20Hover
import HL.Driver.GJson
import HL.Driver.Lex
import HL.Driver.Parse
import HL.Driver.Util
import HL.Generated.Access
import HL.Generated.AccessExpect
import HL.Generated.Expect.Analyzer
import HL.Generated.Expect.Completion
import HL.Generated.Expect.Dispatch
import HL.Generated.Expect.FeatureGate
import HL.Generated.Expect.Format
import HL.Generated.Expect.Lexer
import HL.Generated.Expect.PureDiag
import HL.Generated.Expect.PureLexer
import HL.Generated.Expect.PureTactics
import HL.Generated.Expect.PureText
import HL.Generated.Expect.Text
import HL.Generated.Facts
import HL.Generated.Pure
import HL.Generated.Unicode
import HL.Lemmas.AList
import HL.Lemmas.AccountBalance
import HL.Lemmas.Balance
import HL.Lemmas.BalanceDiag
import HL.Lemmas.Completion
import HL.Lemmas.Counter
import HL.Lemmas.Dec
import HL.Lemmas.DecString
import HL.Lemmas.Edges
import HL.Lemmas.EditApply
import HL.Lemmas.FmtText
import HL.Lemmas.Format
import HL.Lemmas.FormatGCore
import HL.Lemmas.Formats
import HL.Lemmas.GCoreBytes
import HL.Lemmas.GCoreCrlf
import HL.Lemmas.GCoreValue
import HL.Lemmas.Hover
import HL.Lemmas.HoverDec
import HL.Lemmas.Index
import HL.Lemmas.Init
import HL.Lemmas.LexCache
import HL.Lemmas.LexCover
import HL.Lemmas.LexCrlf
import HL.Lemmas.LexCrlfFile
import HL.Lemmas.LexCrlfLine
import HL.Lemmas.LexExt
import HL.Lemmas.LexExtent
import HL.Lemmas.LexExtentLook
import HL.Lemmas.LexExtentMore
import HL.Lemmas.LexExtentTok
import HL.Lemmas.LexGCore
import HL.Lemmas.LexGCoreL
import HL.Lemmas.LexGCoreP
import HL.Lemmas.LexLexeme
import HL.Lemmas.LexLines
import HL.Lemmas.LexLocal
import HL.Lemmas.LexMisc
import HL.Lemmas.LexShift
import HL.Lemmas.LexTextExact
import HL.Lemmas.LexTrim
import HL.Lemmas.Lexer
import HL.Lemmas.Load
import HL.Lemmas.Loader
import HL.Lemmas.Lockset
import HL.Lemmas.MapOrder
import HL.Lemmas.MeaningGCore
import HL.Lemmas.Num
import HL.Lemmas.Number
import HL.Lemmas.ParseGCore
import HL.Lemmas.ParseGCoreL
import HL.Lemmas.ParseGCoreNum
import HL.Lemmas.Parser
import HL.Lemmas.ParserAmountRange
import HL.Lemmas.ParserErrPre
import HL.Lemmas.ParserFuel
import HL.Lemmas.ParserList
import HL.Lemmas.ParserReach
import HL.Lemmas.ParserShift
import HL.Lemmas.ParserSync
import HL.Lemmas.ParserTwin
import HL.Lemmas.ParserYear
import HL.Lemmas.PayeeRange
import HL.Lemmas.Ranges
import HL.Lemmas.Reach
import HL.Lemmas.ReachIdx
import HL.Lemmas.Refresh
import HL.Lemmas.Refs
import HL.Lemmas.Root
import HL.Lemmas.Run
import HL.Lemmas.SemTok
import HL.Lemmas.SemTokCuts
import HL.Lemmas.SemTokGeom
import HL.Lemmas.SemTokLines
import HL.Lemmas.SemTokPlace
import HL.Lemmas.SemTokUtf
import HL.Lemmas.SemTokWitness
import HL.Lemmas.Settings
import HL.Lemmas.SettingsSpec
import HL.Lemmas.SettingsSrv
import HL.Lemmas.Srv
import HL.Lemmas.Text
import HL.Lemmas.Undeclared
import HL.Lemmas.Update
import HL.Lemmas.Utf8
import HL.Lemmas.View
import HL.Lemmas.WsDocs
import HL.Lemmas.WsInv
import HL.Model.Ast
import HL.Model.Balance
import HL.Model.BalanceDiag
import HL.Model.Classes
import HL.Model.Completion
import HL.Model.CompletionPinned
import HL.Model.Dec
import HL.Model.Derived
import HL.Model.FmtText
import HL.Model.FmtWidth
import HL.Model.Format
import HL.Model.Hover
import HL.Model.HoverText
import HL.Model.Index
import HL.Model.Lexer
import HL.Model.LexerPinned
import HL.Model.Loader
import HL.Model.Lockset
import HL.Model.MapOrder
import HL.Model.Num
import HL.Model.Parser
import HL.Model.ParserNum
import HL.Model.ParserStr
import HL.Model.ParserUnicode
import HL.Model.PayeeRange
import HL.Model.Pipeline
import HL.Model.Ranges
import HL.Model.Refs
import HL.Model.SemTok
import HL.Model.SemTokPinned
import HL.Model.Settings
import HL.Model.Srv
import HL.Model.Text
import HL.Model.Undeclared
import HL.Model.Utf8
import HL.Model.Workspace
import HL.Model.WsDocs
import HL.Props.C01
import HL.Props.C01Fresh
import HL.Props.C02
import HL.Props.C02Pipeline
import HL.Props.C03
import HL.Props.C03Cex
import HL.Props.C03Crlf
import HL.Props.C03Faithful
import HL.Props.C04
import HL.Props.C04Core
import HL.Props.C05
import HL.Props.C05Core
import HL.Props.C06
import HL.Props.C06Parser
import HL.Props.C07
import HL.Props.C08
import HL.Props.C09
import HL.Props.C10
import HL.Props.C11
import HL.Props.C12
import HL.Props.C13
import HL.Props.C14
import HL.Props.C14Alias
import HL.Props.C15
import HL.Props.C16
import HL.Props.C17
import HL.Props.C17Lexer
import HL.Props.C18
import HL.Props.C19
import HL.Props.C20
import HL.Props.C20Hover
import HL.Spec.BalanceSpec
import HL.Spec.Bg
import HL.Spec.CompletionSpec
import HL.Spec.Contained
import HL.Spec.Converge
import HL.Spec.EditSpec
import HL.Spec.EraseRanges
import HL.Spec.G
import HL.Spec.GCore
import HL.Spec.GCoreLayout
import HL.Spec.GCoreValue
import HL.Spec.HeaderG
import HL.Spec.HoverSpec
import HL.Spec.LexSpec
import HL.Spec.Meaning
import HL.Spec.Number
import HL.Spec.NumberRead
import HL.Spec.Occurrences
import HL.Spec.RangeSpec
import HL.Spec.Reach
import HL.Spec.Rebuild
import HL.Spec.RefBuffer
import HL.Spec.SemTokSpec
import HL.Spec.SettingsSpec
import HL.Spec.UndeclaredSpec
