import HL.Props.C02
import HL.Props.C03Faithful
import HL.Lemmas.GCoreValue
import HL.Lemmas.BalanceDiag
/-!
  C02 "Unbalanced-transaction verdicts are exact" — the composed theorem from TEXT to VERDICT
  for the core grammar `GCore` (HL/Spec/GCore.lean), unbounded in every dimension.

  `C02_pipeline_core`: for EVERY well-formed `GCore` journal `j` — any number of transactions,
  postings, digits — the balance diagnostics that the model of `Analyzer.Analyze`
  (`Balance.analyzeBalance`, HL/Model/BalanceDiag.lean) computes on the model of
  `parser.Parse` applied to the printed text `GCore.print j` are, transaction by transaction in
  the order written, each attached to its transaction's range in the text, exactly the codes the
  exact-sum rule `Spec.Bal.verdict` demands for the values WRITTEN (`GCore.txImage`, positional
  value of the digit strings): UNBALANCED iff no posting lacks an amount and the exact rational
  sum of the written values differs from zero in some commodity, MULTIPLE_INFERRED iff more
  than one posting lacks an amount, nothing otherwise (`core_code_iff`).  The analysis never
  panics on such a journal (no costs, so no `decimal.Mul`; `not_overflows_expected`).

  `C02_pipeline_core_messages`: each published diagnostic, whole: range, severity, code, the
  fixed MULTIPLE_INFERRED text, and for UNBALANCED the message assembled from a list of
  (commodity, number) pairs, each commodity once, such that the number text printed after
  "off by" (`Decimal.String()`), read back as a decimal, is the exact absolute value of the
  written sum of that commodity, and exactly the commodities with a non-zero sum are named.

  Put together from `C03_faithful_core` (text → tree), `quantity_toRat` / `image_expected`
  (tree → written values), `check_exact` / `message_numbers_exact` (tree → verdict) and
  `Num.toString_roundtrip` (numbers in the message).

  `analyzeBalance_exact` / `analyzeBalance_codes` are the same statements for ANY syntax tree
  whose transactions do not overflow `decimal.Mul` (verdict of the rational image of the tree).
-/
namespace HL.Props.C02
open HL HL.Ast HL.Balance HL.Spec.Bal

/-- The UNBALANCED message names residuals `res`: it is assembled from a list of
    (commodity, decimal) pairs, each commodity once; the number named for `c`, as `read`, is
    the absolute residual of `c`, and exactly the commodities with a non-zero residual occur. -/
def NamesResiduals (read : Dec → Option Rat) (msg : Bytes) (res : Bytes → Rat) : Prop :=
  ∃ named : Sums,
    msg = bs "transaction does not balance: " ++ messageParts named ∧
    (KV.keys named).Nodup ∧
    ∀ c, (KV.find? named c).bind read = if res c = 0 then none else some (rabs (res c))

/-- Diagnostic `d` is the one the exact-sum rule demands for the transaction `tx` (as exact
    rationals) standing at `rng`. -/
structure States (read : Dec → Option Rat) (d : BalDiag) (rng : Rng) (tx : RTx) : Prop where
  range : d.range = rng
  severity : d.severity = 0
  code : some d.code = codeOf (verdict tx)
  multiple : d.code = .multipleInferred →
    d.message = bs "transaction has multiple postings without amounts"
  unbalanced : d.code = .unbalanced → NamesResiduals read d.message (residual totalBySignum tx)

/-- element-wise relation between two lists of the same length (core has no `List.Forall₂`) -/
inductive Matched {α β} (R : α → β → Prop) : List α → List β → Prop
  | nil : Matched R [] []
  | cons {a b as bs} : R a b → Matched R as bs → Matched R (a :: as) (b :: bs)

/-- the decimal itself -/
def readDec (v : Dec) : Option Rat := some (Dec.toRat v)
/-- the decimal as PRINTED in the message (`Decimal.String()`) and read back -/
def readPrinted (v : Dec) : Option Rat := (Dec.ofString (Dec.toString v)).map Dec.toRat

/-- `CheckBalance` + `createBalanceDiagnostic` on one transaction: a diagnostic is made exactly
    when the verdict demands one, and it states that verdict. -/
theorem txDiag_exact (read : Dec → Option Rat) (tx : Transaction) (h : ¬ Overflows tx)
    (hread : ∀ r, check tx = some r → ∀ kv ∈ r.differences, read kv.2 = some (Dec.toRat kv.2)) :
    ∃ r, check tx = some r ∧
      (r.balanced = true → codeOf (verdict (image tx)) = none) ∧
      (r.balanced = false → (codeOf (verdict (image tx))).isSome = true ∧
        States read (mkBalDiag tx r) tx.range (image tx)) := by
  -- `check_exact` gives the result of `CheckBalance` in each of the three verdicts; what is added
  -- here is `balanceDiagnostic` on that result, and for UNBALANCED the numbers of the message
  have hc := check_exact tx
  cases hr : check tx with
  | none => rw [hr] at hc; exact absurd hc h
  | some r =>
    refine ⟨r, rfl, ?_⟩
    have hc' := hc
    rw [hr] at hc'
    cases hv : verdict (image tx) with
    | ok =>
      rw [hv] at hc'
      refine ⟨fun _ => rfl, fun hb => ?_⟩
      rw [hc'.1] at hb; cases hb
    | multiple =>
      rw [hv] at hc'
      obtain ⟨h1, h2, h3⟩ := hc'
      refine ⟨fun hb => (by rw [h1] at hb; cases hb), fun _ => ⟨rfl, ?_⟩⟩
      have hbd : balanceDiagnostic r =
          (.multipleInferred, bs "transaction has multiple postings without amounts") := by
        unfold balanceDiagnostic
        simp [h2, h3]
      refine ⟨rfl, rfl, ?_, ?_, ?_⟩
      · show some (balanceDiagnostic r).1 = _
        rw [hbd, hv]; rfl
      · intro _
        show (balanceDiagnostic r).2 = _
        rw [hbd]
      · intro hcode
        have : (balanceDiagnostic r).1 = .unbalanced := hcode
        rw [hbd] at this
        cases this
    | unbalanced d =>
      rw [hv] at hc'
      obtain ⟨h1, h2, h3, _⟩ := hc'
      refine ⟨fun hb => (by rw [h1] at hb; cases hb), fun _ => ⟨rfl, ?_⟩⟩
      have hne : r.differences.isEmpty = false := by
        cases hh : r.differences with
        | nil => exact absurd hh h2
        | cons _ _ => rfl
      have hbd : balanceDiagnostic r =
          (.unbalanced, bs "transaction does not balance: " ++ messageParts (sortedDifferences r.differences)) := by
        unfold balanceDiagnostic
        simp [hne]
      refine ⟨rfl, rfl, ?_, ?_, ?_⟩
      · show some (balanceDiagnostic r).1 = _
        rw [hbd, hv]; rfl
      · intro hcode
        have : (balanceDiagnostic r).1 = .multipleInferred := hcode
        rw [hbd] at this
        cases this
      · intro _
        refine ⟨sortedDifferences r.differences, ?_, ?_, ?_⟩
        · show (balanceDiagnostic r).2 = _
          rw [hbd]
        · rw [keys_sortedDifferences]
          exact (sortStrings_perm' _).nodup_iff.2 h3
        · intro c
          rw [find?_sortedDifferences _ h3]
          have hm := message_numbers_exact tx r hr h1 h2 c
          cases hf : KV.find? r.differences c with
          | none => rw [hf] at hm; simpa using hm
          | some v =>
            rw [hf] at hm
            simp only [Option.bind_some]
            rw [hread r hr (c, v) (KV.mem_of_find? _ _ _ hf)]
            simpa using hm

/-- the transactions for which the exact-sum rule demands a diagnostic -/
def flagged (txs : List Transaction) : List Transaction :=
  txs.filter fun tx => (codeOf (verdict (image tx))).isSome

theorem analyzeTxs_exact (read : Dec → Option Rat) (txs : List Transaction)
    (h : ∀ tx ∈ txs, ¬ Overflows tx)
    (hread : ∀ tx ∈ txs, ∀ r, check tx = some r → ∀ kv ∈ r.differences, read kv.2 = some (Dec.toRat kv.2)) :
    ∃ ds, analyzeTxs txs = some ds ∧
      Matched (fun d tx => States read d tx.range (image tx)) ds (flagged txs) := by
  induction txs with
  | nil => exact ⟨[], rfl, Matched.nil⟩
  | cons tx rest ih =>
    obtain ⟨ds, hds, hall⟩ := ih (fun t ht => h t (List.mem_cons_of_mem _ ht))
      (fun t ht => hread t (List.mem_cons_of_mem _ ht))
    obtain ⟨r, hr, hb1, hb2⟩ := txDiag_exact read tx (h tx List.mem_cons_self) (hread tx List.mem_cons_self)
    unfold analyzeTxs
    rw [hr, hds]
    simp only
    unfold flagged
    rw [List.filter_cons]
    cases hbal : r.balanced with
    | true =>
      rw [hb1 hbal]
      exact ⟨ds, rfl, hall⟩
    | false =>
      obtain ⟨hs, hst⟩ := hb2 hbal
      rw [hs]
      exact ⟨mkBalDiag tx r :: ds, rfl, Matched.cons hst hall⟩

/-- Any tree: if no transaction overflows `decimal.Mul`, the analysis returns, in order, one
    diagnostic for each transaction the exact-sum rule flags on the rational image of the tree
    and none for the others; each states its verdict. -/
theorem analyzeBalance_exact (j : Journal) (h : ∀ tx ∈ j.transactions, ¬ Overflows tx) :
    ∃ ds, analyzeBalance j = some ds ∧
      Matched (fun d tx => States readDec d tx.range (image tx)) ds (flagged j.transactions) :=
  analyzeTxs_exact readDec j.transactions h (fun _ _ _ _ _ _ => rfl)

/-- (range, code) of the diagnostics a list of transactions demands -/
def demandedOf (txs : List Transaction) : List (Rng × Code) :=
  txs.filterMap fun tx => (codeOf (verdict (image tx))).map fun c => (tx.range, c)

theorem matched_codes {α} (read : Dec → Option Rat) (rngOf : α → Rng) (imgOf : α → RTx)
    (ds : List BalDiag) (l : List α)
    (h : Matched (fun d x => States read d (rngOf x) (imgOf x)) ds
      (l.filter fun x => (codeOf (verdict (imgOf x))).isSome)) :
    ds.map (fun d => (d.range, d.code)) =
      l.filterMap fun x => (codeOf (verdict (imgOf x))).map fun c => (rngOf x, c) := by
  induction l generalizing ds with
  | nil => cases h; rfl
  | cons x l ih =>
    rw [List.filter_cons] at h
    rw [List.filterMap_cons]
    cases hx : codeOf (verdict (imgOf x)) with
    | none =>
      rw [hx] at h
      simp only [Option.isSome_none, Bool.false_eq_true, if_false] at h
      simp only [Option.map_none]
      exact ih ds h
    | some c =>
      rw [hx] at h
      simp only [Option.isSome_some, if_true] at h
      cases h with
      | cons hd htl =>
        rename_i d ds'
        simp only [Option.map_some, List.map_cons]
        rw [ih ds' htl]
        have := hd.code
        rw [hx] at this
        cases this
        rw [hd.range]

/-- Any tree: the list of (range, code) published. -/
theorem analyzeBalance_codes (j : Journal) (h : ∀ tx ∈ j.transactions, ¬ Overflows tx) :
    (analyzeBalance j).map (List.map fun d => (d.range, d.code)) = some (demandedOf j.transactions) := by
  obtain ⟨ds, hds, hall⟩ := analyzeBalance_exact j h
  rw [hds]
  simp only [Option.map_some, Option.some.injEq]
  exact matched_codes readDec (fun tx : Transaction => tx.range) image ds j.transactions hall

open HL.GCore in
/-- A tree of the core grammar holds no cost, so `decimal.Mul` is never called:
    `CheckBalance` cannot panic, whatever the digit counts. -/
theorem not_overflows_expected (t : GCore.Tx) (ln o : Nat) : ¬ Overflows (t.expected ln o) := by
  rintro ⟨_, p, hp, a, c, _, hc, _⟩
  have hp' : p ∈ (t.expected ln o).postings := (List.mem_filter.1 hp).1
  have := cost_expectedPostings t.postings _ _ p hp'
  rw [this] at hc
  cases hc

theorem mem_expectedTxs (ts : List GCore.Tx) (ln o : Nat) (tx : Transaction)
    (h : tx ∈ GCore.expectedTxs ts ln o) : ∃ t ∈ ts, ∃ ln' o', tx = t.expected ln' o' := by
  induction ts generalizing ln o with
  | nil => cases h
  | cons t ts ih =>
    simp only [GCore.expectedTxs, List.mem_cons] at h
    rcases h with h | h
    · exact ⟨t, List.mem_cons_self, ln, o, h⟩
    · obtain ⟨t', ht', r⟩ := ih _ _ h
      exact ⟨t', List.mem_cons_of_mem _ ht', r⟩

theorem check_differences (tx : Transaction) (r : Result) (h : check tx = some r) :
    r.differences = [] ∨
    ∃ sums, sumByCommodity (filterReal tx.postings) [] = some sums ∧ r.differences = differencesOf sums := by
  unfold check at h
  simp only at h
  generalize countInferred (filterReal tx.postings) 0 (0, -1) = ci at h
  obtain ⟨cnt, idx⟩ := ci
  simp only at h
  by_cases h1 : cnt > 1
  · simp only [h1, if_true, Option.some.injEq] at h
    subst h
    exact Or.inl rfl
  · simp only [h1, if_false] at h
    cases hs : sumByCommodity (filterReal tx.postings) [] with
    | none => rw [hs] at h; cases h
    | some sums =>
      rw [hs] at h
      simp only at h
      cases h2 : (cnt == 1) with
      | true =>
        simp only [h2, if_true, Option.some.injEq] at h
        subst h
        exact Or.inl rfl
      | false =>
        simp only [h2, Bool.false_eq_true, if_false, Option.some.injEq] at h
        subst h
        exact Or.inr ⟨sums, rfl, rfl⟩

/-- In a well-formed transaction of the core grammar every difference `CheckBalance` reports
    has a decimal exponent of at least -1000 (minus a number of decimals written). -/
theorem differences_exp_expected (t : GCore.Tx) (ln o : Nat) (hwf : t.wf = true) (r : Result)
    (h : check (t.expected ln o) = some r) : ∀ kv ∈ r.differences, -1000 ≤ kv.2.exp := by
  intro kv hkv
  rcases check_differences _ r h with e | ⟨sums, hs, e⟩
  · rw [e] at hkv; cases hkv
  · rw [e] at hkv
    obtain ⟨v0, hv0, hv⟩ := mem_differencesOf sums kv hkv
    rw [hv, abs_exp]
    have hps : t.postings.all GCore.Posting.wf = true := by
      unfold GCore.Tx.wf at hwf
      simp only [Bool.and_eq_true] at hwf
      exact hwf.2
    refine sum_exp_lower _ [] sums hs (-1000) (by omega) (fun _ hm => by cases hm) ?_ (kv.1, v0) hv0
    intro p hp k q hc
    have hp' : p ∈ (t.expected ln o).postings := (List.mem_filter.1 hp).1
    have hcost := GCore.cost_expectedPostings t.postings _ _ p hp'
    unfold contribution at hc
    cases ha : p.amount with
    | none => rw [ha] at hc; cases hc
    | some a =>
      rw [ha, hcost] at hc
      simp only [Option.some.injEq, Prod.mk.injEq] at hc
      rw [← hc.2]
      exact (GCore.exp_expectedPostings t.postings _ _ hps p hp' a ha).1

/-- so the number printed for it reads back as its exact value -/
theorem readPrinted_expected (t : GCore.Tx) (ln o : Nat) (hwf : t.wf = true) (r : Result)
    (h : check (t.expected ln o) = some r) :
    ∀ kv ∈ r.differences, readPrinted kv.2 = some (Dec.toRat kv.2) := by
  intro kv hkv
  have := differences_exp_expected t ln o hwf r h kv hkv
  exact Num.toString_roundtrip kv.2 (by unfold Dec.int32Min; omega)

theorem real_txImage (t : GCore.Tx) : real (GCore.txImage t) = GCore.txImage t := by
  unfold real GCore.txImage
  apply List.filter_eq_self.2
  intro a ha
  obtain ⟨p, _, rfl⟩ := List.mem_map.1 ha
  rfl

/-- the "missing" postings of the rule are the postings written without an amount -/
theorem missing_txImage (t : GCore.Tx) : missing (GCore.txImage t) = GCore.amountless t := by
  unfold missing
  rw [real_txImage]
  unfold GCore.txImage GCore.amountless
  rw [List.filter_map, List.length_map]
  congr 1
  apply List.filter_congr
  intro p _
  simp [GCore.postingImage]

/-- the residual of the rule is the exact sum of the values written in that commodity -/
theorem residual_txImage (rule : TotalRule) (t : GCore.Tx) (c : Bytes) :
    residual rule (GCore.txImage t) c = GCore.writtenSum t c := by
  unfold residual contributions
  rw [real_txImage]
  unfold GCore.txImage GCore.writtenSum
  rw [List.filterMap_map]
  congr 2
  funext p
  simp only [Function.comp, converted, GCore.postingImage]
  cases p.amount with
  | none => rfl
  | some a => rfl

theorem diffs_ne_nil_iff (rule : TotalRule) (tx : RTx) :
    diffs rule tx ≠ [] ↔ ∃ c, residual rule tx c ≠ 0 := by
  constructor
  · intro h
    cases hd : diffs rule tx with
    | nil => exact absurd hd h
    | cons kv rest =>
      obtain ⟨k, v⟩ := kv
      refine ⟨k, fun hz => ?_⟩
      have := find?_diffs rule tx k
      rw [hd, hz] at this
      simp [KV.find?] at this
  · rintro ⟨c, hc⟩ hd
    have := find?_diffs rule tx c
    rw [hd] at this
    simp [KV.find?, hc] at this

/-- The verdict on a transaction of the core grammar, in words:
    MULTIPLE_INFERRED iff more than one posting is written without an amount; UNBALANCED iff
    every posting has an amount and the exact sum of the written values differs from zero in
    some commodity; nothing otherwise. -/
theorem core_code_iff (t : GCore.Tx) :
    (codeOf (verdict (GCore.txImage t)) = some .multipleInferred ↔ GCore.amountless t > 1) ∧
    (codeOf (verdict (GCore.txImage t)) = some .unbalanced ↔
      GCore.amountless t = 0 ∧ ∃ c, GCore.writtenSum t c ≠ 0) ∧
    (codeOf (verdict (GCore.txImage t)) = none ↔
      GCore.amountless t = 1 ∨ (GCore.amountless t = 0 ∧ ∀ c, GCore.writtenSum t c = 0)) := by
  have hd := diffs_ne_nil_iff totalBySignum (GCore.txImage t)
  simp only [residual_txImage] at hd
  have hm := missing_txImage t
  -- the verdict in each of the four cases of the rule; the rest is propositional
  by_cases h1 : GCore.amountless t > 1
  · have hv : verdict (GCore.txImage t) = .multiple := by
      unfold verdict verdictWith
      rw [hm, if_pos h1]
    rw [hv]
    exact ⟨by simp [codeOf, h1], by simp [codeOf]; omega, by simp [codeOf]; omega⟩
  · by_cases h2 : GCore.amountless t = 1
    · have hv : verdict (GCore.txImage t) = .ok := by
        unfold verdict verdictWith
        rw [hm, if_neg h1, if_pos h2]
      rw [hv]
      exact ⟨by simp [codeOf]; omega, by simp [codeOf]; omega, by simp [codeOf, h2]⟩
    · have h0 : GCore.amountless t = 0 := by omega
      cases hdd : diffs totalBySignum (GCore.txImage t) with
      | nil =>
        have hall : ∀ c, GCore.writtenSum t c = 0 := fun c =>
          Classical.byContradiction fun hc => hd.2 ⟨c, hc⟩ hdd
        have hv : verdict (GCore.txImage t) = .ok := by
          unfold verdict verdictWith
          rw [hm, if_neg h1, if_neg h2]
          simp only [hdd, List.isEmpty_nil, if_true]
        rw [hv]
        exact ⟨by simp [codeOf, h0], by simp [codeOf, hall], by simp [codeOf, h0, hall]⟩
      | cons kv rest =>
        have hex : ∃ c, GCore.writtenSum t c ≠ 0 := hd.1 (by rw [hdd]; exact List.cons_ne_nil _ _)
        have hv : verdict (GCore.txImage t) = .unbalanced (kv :: rest) := by
          unfold verdict verdictWith
          rw [hm, if_neg h1, if_neg h2]
          simp only [hdd, List.isEmpty_cons, Bool.false_eq_true, if_false]
        rw [hv]
        refine ⟨by simp [codeOf, h0], by simp [codeOf, h0, hex], ?_⟩
        obtain ⟨c, hc⟩ := hex
        simp only [codeOf, reduceCtorEq, false_iff, not_or, not_and, h0]
        exact ⟨not_false, fun _ hall => hc (hall c)⟩

/-- (range, code) of the diagnostics the exact-sum rule demands for the journal as WRITTEN:
    for each transaction, in order, with its range in the printed text. -/
def demanded (j : GCore.Journal) : List (Rng × Code) :=
  (GCore.located j).filterMap fun tr => (codeOf (verdict (GCore.txImage tr.1))).map fun c => (tr.2, c)

/-- the located transactions for which the rule demands a diagnostic -/
def flaggedCore (j : GCore.Journal) : List (GCore.Tx × Rng) :=
  (GCore.located j).filter fun tr => (codeOf (verdict (GCore.txImage tr.1))).isSome

theorem matched_expected (read : Dec → Option Rat) (ts : List GCore.Tx) (ln o : Nat) (ds : List BalDiag)
    (h : Matched (fun d tx => States read d tx.range (image tx)) ds (flagged (GCore.expectedTxs ts ln o))) :
    Matched (fun d (tr : GCore.Tx × Rng) => States read d tr.2 (GCore.txImage tr.1)) ds
      ((ts.zip (GCore.txRanges ts ln o)).filter fun tr => (codeOf (verdict (GCore.txImage tr.1))).isSome) := by
  induction ts generalizing ln o ds with
  | nil => cases h; exact Matched.nil
  | cons t ts ih =>
    unfold flagged at h
    simp only [GCore.expectedTxs, GCore.txRanges, List.zip_cons_cons] at h ⊢
    rw [List.filter_cons] at h ⊢
    rw [GCore.image_expected] at h
    simp only
    cases hx : (codeOf (verdict (GCore.txImage t))).isSome with
    | false =>
      rw [hx] at h
      simp only [Bool.false_eq_true, if_false] at h ⊢
      exact ih _ _ ds h
    | true =>
      rw [hx] at h
      simp only [if_true] at h ⊢
      cases h with
      | cons hd htl =>
        refine Matched.cons ?_ (ih _ _ _ htl)
        rw [GCore.image_expected] at hd
        exact hd

/-- Text → published balance diagnostics, whole: for every
    well-formed journal of the core grammar the analysis of the parsed text returns (never
    panics), and its diagnostics are, in order, one for each transaction the exact-sum rule flags
    on the written values — at that transaction's range, severity error, with the demanded code,
    the fixed text for MULTIPLE_INFERRED, and for UNBALANCED a message naming exactly the
    commodities whose written sum is not zero, each once, the printed number reading back as the
    exact absolute value of that sum. -/
theorem C02_pipeline_core_messages (j : GCore.Journal) (h : GCore.WF j = true) :
    ∃ ds, analyzeBalance (Pipeline.parseText Classes.go (GCore.print j)).1 = some ds ∧
      Matched (fun d (tr : GCore.Tx × Rng) => States readPrinted d tr.2 (GCore.txImage tr.1))
        ds (flaggedCore j) := by
  rw [C03.C03_faithful_core j h]
  show ∃ ds, analyzeTxs (GCore.expectedTxs j 1 0) = some ds ∧ _
  have hwf : ∀ t ∈ j, t.wf = true := List.all_eq_true.1 h
  obtain ⟨ds, hds, hall⟩ := analyzeTxs_exact readPrinted (GCore.expectedTxs j 1 0)
    (by
      intro tx htx
      obtain ⟨t, _, ln, o, rfl⟩ := mem_expectedTxs j 1 0 tx htx
      exact not_overflows_expected t ln o)
    (by
      intro tx htx r hr
      obtain ⟨t, ht, ln, o, rfl⟩ := mem_expectedTxs j 1 0 tx htx
      exact readPrinted_expected t ln o (hwf t ht) r hr)
  exact ⟨ds, hds, matched_expected readPrinted j 1 0 ds hall⟩

/-- Text → verdict: the (range, code) pairs of the balance diagnostics
    that the analysis publishes for the parsed text of a well-formed journal of the core grammar
    are exactly, in order, those the exact-sum rule demands for the values written
    (`demanded`; `core_code_iff` spells the rule out). -/
theorem C02_pipeline_core (j : GCore.Journal) (h : GCore.WF j = true) :
    (analyzeBalance (Pipeline.parseText Classes.go (GCore.print j)).1).map
        (List.map fun d => (d.range, d.code)) = some (demanded j) := by
  obtain ⟨ds, hds, hall⟩ := C02_pipeline_core_messages j h
  rw [hds]
  simp only [Option.map_some, Option.some.injEq]
  exact matched_codes readPrinted (fun tr : GCore.Tx × Rng => tr.2) (fun tr => GCore.txImage tr.1) ds
    (GCore.located j) hall

/-- The numbers of an UNBALANCED message, separately: if the analysis of the parsed text attaches
    an UNBALANCED diagnostic to the `i`-th flagged transaction, the message is assembled from
    pairs (commodity, number) in which `c` occurs iff the written sum of `c` is not zero, and
    then the text printed after "off by" reads back as exactly |written sum of c|. -/
theorem C02_pipeline_core_numbers (j : GCore.Journal) (h : GCore.WF j = true)
    (ds : List BalDiag) (hds : analyzeBalance (Pipeline.parseText Classes.go (GCore.print j)).1 = some ds)
    (i : Nat) (d : BalDiag) (tr : GCore.Tx × Rng) (hd : ds[i]? = some d) (ht : (flaggedCore j)[i]? = some tr)
    (hu : d.code = .unbalanced) :
    ∃ named : Sums, d.message = bs "transaction does not balance: " ++ messageParts named ∧
      (KV.keys named).Nodup ∧
      ∀ c, (KV.find? named c).bind readPrinted =
        if GCore.writtenSum tr.1 c = 0 then none else some (rabs (GCore.writtenSum tr.1 c)) := by
  obtain ⟨ds', hds', hall⟩ := C02_pipeline_core_messages j h
  rw [hds] at hds'
  cases hds'
  have hst : States readPrinted d tr.2 (GCore.txImage tr.1) := by
    clear hds
    generalize flaggedCore j = fl at hall ht
    induction hall generalizing i with
    | nil => simp at hd
    | cons hx _ ih =>
      cases i with
      | zero =>
        simp only [List.getElem?_cons_zero, Option.some.injEq] at hd ht
        subst hd; subst ht
        exact hx
      | succ i =>
        simp only [List.getElem?_cons_succ] at hd ht
        exact ih i hd ht
  obtain ⟨named, h1, h2, h3⟩ := hst.unbalanced hu
  refine ⟨named, h1, h2, fun c => ?_⟩
  rw [h3 c, residual_txImage]

/-- the codes alone depend on the written values only (not on where the text stands) -/
theorem demanded_codes (j : GCore.Journal) :
    (demanded j).map (·.2) = (j.map GCore.txImage).filterMap fun x => codeOf (verdict x) := by
  unfold demanded GCore.located
  generalize (1 : Nat) = ln
  generalize (0 : Nat) = o
  induction j generalizing ln o with
  | nil => rfl
  | cons t ts ih =>
    simp only [GCore.txRanges, List.zip_cons_cons, List.filterMap_cons, List.map_cons]
    cases hx : codeOf (verdict (GCore.txImage t)) with
    | none => simp only [Option.map_none]; exact ih _ _
    | some c => simp only [Option.map_some, List.map_cons]; rw [ih]

/-- Two well-formed journals of the core grammar that write the
    same values — however many leading zeros, trailing decimal zeros, `5` or `5.0` or `05.00`;
    whatever dates and descriptions — get the same sequence of balance codes. -/
theorem core_notation_invariant (j₁ j₂ : GCore.Journal) (h₁ : GCore.WF j₁ = true) (h₂ : GCore.WF j₂ = true)
    (himg : j₁.map GCore.txImage = j₂.map GCore.txImage) :
    (analyzeBalance (Pipeline.parseText Classes.go (GCore.print j₁)).1).map (List.map (·.code)) =
    (analyzeBalance (Pipeline.parseText Classes.go (GCore.print j₂)).1).map (List.map (·.code)) := by
  have e₁ := congrArg (Option.map (List.map (·.2))) (C02_pipeline_core j₁ h₁)
  have e₂ := congrArg (Option.map (List.map (·.2))) (C02_pipeline_core j₂ h₂)
  simp only [Option.map_map, Option.map_some, demanded_codes] at e₁ e₂
  have hf : ((List.map fun (x : Rng × Code) => x.2) ∘ List.map fun (d : BalDiag) => (d.range, d.code)) =
      List.map (·.code) := by
    funext l
    simp [List.map_map, Function.comp]
  rw [hf] at e₁ e₂
  rw [e₁, e₂, himg]

/-- ```
    2024-01-15 grocery store
        assets:cash  -12.50 USD
        expenses:food

    2024-02-01 rent
        assets:bank  -100.00 EUR
        expenses:rent  100.01 EUR
    ```
    The first transaction balances with an inferred posting; the second is off by 0.01 EUR. -/
def sample : GCore.Journal := [
  { date := ⟨[50, 48, 50, 52], [48, 49], [49, 53]⟩
    words := [[103, 114, 111, 99, 101, 114, 121], [115, 116, 111, 114, 101]]
    postings := [
      ⟨[[97, 115, 115, 101, 116, 115], [99, 97, 115, 104]], some ⟨true, [49, 50], some [53, 48], some [85, 83, 68]⟩⟩,
      ⟨[[101, 120, 112, 101, 110, 115, 101, 115], [102, 111, 111, 100]], none⟩] },
  { date := ⟨[50, 48, 50, 52], [48, 50], [48, 49]⟩
    words := [[114, 101, 110, 116]]
    postings := [
      ⟨[[97, 115, 115, 101, 116, 115], [98, 97, 110, 107]], some ⟨true, [49, 48, 48], some [48, 48], some [69, 85, 82]⟩⟩,
      ⟨[[101, 120, 112, 101, 110, 115, 101, 115], [114, 101, 110, 116]], some ⟨false, [49, 48, 48], some [48, 49], some [69, 85, 82]⟩⟩] }]

example : GCore.WF sample = true := by decide

/-- the hypotheses hold and the demanded list is not trivial: one UNBALANCED, at the second
    transaction (lines 5–8 of the text; the text is 147 bytes long) -/
example : demanded sample = [(⟨⟨5, 1, 72⟩, ⟨8, 1, 147⟩⟩, .unbalanced)] := by decide +kernel

/-- the model chain itself, evaluated (no theorem involved): lexer, parser, `CheckBalance`,
    `createBalanceDiagnostic` on the printed text -/
example : analyzeBalance (Pipeline.parseText Classes.go (GCore.print sample)).1 =
    some [⟨⟨⟨5, 1, 72⟩, ⟨8, 1, 147⟩⟩, 0, .unbalanced, bs "transaction does not balance: EUR off by 0.01"⟩] := by
  decide +kernel

/-- non-vacuity of `core_notation_invariant`: `-12.50 USD` / `12.5 USD` against
    `-012.5 USD` / `12.500 USD` (other date, other words) -/
example :
    let mk (d : Bytes) (a b : GCore.Amount) : GCore.Journal :=
      [⟨⟨[50, 48, 50, 52], [48, 49], d⟩, [[120]], [⟨[[97], [98]], some a⟩, ⟨[[99], [100]], some b⟩]⟩]
    let j₁ := mk [49, 53] ⟨true, [49, 50], some [53, 48], some [85, 83, 68]⟩ ⟨false, [49, 50], some [53], some [85, 83, 68]⟩
    let j₂ := mk [49, 54] ⟨true, [48, 49, 50], some [53], some [85, 83, 68]⟩ ⟨false, [49, 50], some [53, 48, 48, 48], some [85, 83, 68]⟩
    GCore.WF j₁ = true ∧ GCore.WF j₂ = true ∧ j₁ ≠ j₂ ∧ j₁.map GCore.txImage = j₂.map GCore.txImage := by
  decide +kernel

end HL.Props.C02

#print axioms HL.Props.C02.C02_pipeline_core
#print axioms HL.Props.C02.C02_pipeline_core_messages
#print axioms HL.Props.C02.C02_pipeline_core_numbers
#print axioms HL.Props.C02.core_code_iff
#print axioms HL.Props.C02.core_notation_invariant
#print axioms HL.Props.C02.analyzeBalance_exact
