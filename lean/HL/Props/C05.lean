/-
  C05 — Formatting is idempotent, aligned and returns well-formed edits.
  The property theorems, with the facts about `formatDocument` they share (shape of the posting
  edits, the alignment column); lemmas about text widths and line edits are in
  HL/Lemmas/FmtText.lean and HL/Lemmas/Format.lean.

  The theorems speak about `HL.Fmt.formatText`, the model of `server.formatText`
  (= `Server.Format` after the document, the workspace formats and the settings have been
  looked up): parse, skip the lines with parse errors, `FormatDocumentWithOptions`.
  The syntax tree is an input of the model; what the theorems need from the parser is the
  explicit, decidable hypothesis `TreeFits`.
-/
import HL.Lemmas.Format
import HL.Generated.Facts
namespace HL.Props.C05
open HL HL.Ast HL.FmtText HL.Fmt HL.EditSpec HL.Lemmas.FmtText HL.Lemmas.Format

/-- What the formatter needs from the parser: every posting starts on a line of the document,
    no two postings start on the same line, and the document is smaller than 4 GiB
    (LSP positions are `uint32`). -/
def TreeFits (doc : Bytes) (j : Journal) : Prop :=
  doc.length < 4294967296 ∧
  (∀ p ∈ allPostings j, 1 ≤ p.range.start.line ∧ p.range.start.line ≤ (splitLines doc).length) ∧
  ((allPostings j).map (·.range.start.line)).Nodup

instance (doc : Bytes) (j : Journal) : Decidable (TreeFits doc j) := by
  unfold TreeFits; infer_instance

/-- The model's constants are the ones extracted from formatter.go (`minSpaces`,
    `defaultIndentSize`); if the source changes them this stops compiling. -/
theorem constants_match : Fmt.minSpaces = HL.Generated.Facts.minSpaces ∧
    Fmt.defaultIndentSize = HL.Generated.Facts.defaultIndentSize := by decide

/-- The postings that are rewritten: those whose line has no parse error. -/
def kept (j : Journal) (skip : List Int) : List Posting :=
  j.transactions.flatMap fun tx => tx.postings.filter fun p => !skip.contains (postingLine p)

theorem not_skipped {skip : List Int} {x : Int} (h : (!skip.contains x) = true) : x ∉ skip := fun hm => by
  rw [List.contains_iff_mem.mpr hm] at h; cases h

theorem kept_sublist (j : Journal) (skip : List Int) : (kept j skip).Sublist (allPostings j) := by
  unfold kept allPostings
  induction j.transactions with
  | nil => simp
  | cons tx txs ih =>
    simp only [List.flatMap_cons]
    exact List.Sublist.append List.filter_sublist ih

def txEdits (j : Journal) (content : Bytes) (formats : Formats) (o : Options) (skip : List Int) : List Edit :=
  j.transactions.flatMap fun tx =>
    formatTransaction tx content (splitLines content) (some formats) (effGlobalCol j o) (effIndent o)
      o.alignAmounts skip

/-- The formats in force: the given map, or (Go's nil map) those declared in the journal. -/
def effFormats (j : Journal) (formats : Option Formats) : Formats :=
  match formats with
  | some m => m
  | none => extractCommodityFormats j

theorem formatDocument_eq (j : Journal) (content : Bytes) (formats : Option Formats) (o : Options)
    (skip : List Int) :
    formatDocument j content formats o skip =
      txEdits j content (effFormats j formats) o skip ++
        trimTrailingSpacesEdits (splitLines content) ((allPostings j).map postingLine) skip := by
  cases formats <;> rfl

theorem formatText_eq (j : Journal) (errs : List ParseError) (doc : Bytes) (formats : Option Formats)
    (o : Options) :
    formatText j errs doc formats o =
      txEdits j doc (effFormats j formats) o (errs.map fun e => (e.pos.line : Int) - 1) ++
        trimTrailingSpacesEdits (splitLines doc) ((allPostings j).map postingLine)
          (errs.map fun e => (e.pos.line : Int) - 1) :=
  formatDocument_eq ..

/-- `es` are posting edits for the postings `ps`, one each, in order. -/
inductive EditsFor (lines : List Bytes) : List Edit → List Posting → Prop
  | nil : EditsFor lines [] []
  | cons (p : Posting) (t : Bytes) {es : List Edit} {ps : List Posting} :
      EditsFor lines es ps → EditsFor lines (postingEdit lines p t :: es) (p :: ps)

theorem EditsFor.append {lines : List Bytes} {es1 es2 : List Edit} {ps1 ps2 : List Posting}
    (h1 : EditsFor lines es1 ps1) (h2 : EditsFor lines es2 ps2) : EditsFor lines (es1 ++ es2) (ps1 ++ ps2) := by
  induction h1 with
  | nil => exact h2
  | cons p t _ ih => exact EditsFor.cons p t ih

/-- Every posting edit is `postingEdit` of a kept posting, in order. -/
theorem txEdits_shape (j : Journal) (content : Bytes) (formats : Formats) (o : Options) (skip : List Int) :
    EditsFor (splitLines content) (txEdits j content formats o skip) (kept j skip) := by
  unfold txEdits kept
  induction j.transactions with
  | nil => exact EditsFor.nil
  | cons tx txs ih =>
    simp only [List.flatMap_cons]
    apply EditsFor.append ?_ ih
    unfold formatTransaction
    simp only
    generalize (tx.postings.filter fun p => !skip.contains (postingLine p)) = ps
    induction ps with
    | nil => exact EditsFor.nil
    | cons p ps ihp => exact EditsFor.cons p _ ihp

theorem editsFor_spec (lines : List Bytes) (hs : SmallLines lines) (es : List Edit) (ps : List Posting)
    (hr : EditsFor lines es ps)
    (hl : ∀ p ∈ ps, 1 ≤ p.range.start.line ∧ p.range.start.line ≤ lines.length) :
    (∀ e ∈ es, LineEditOK lines e) ∧ es.map (·.sl.toNat) = ps.map (fun p => p.range.start.line - 1) := by
  induction hr with
  | nil => exact ⟨fun _ h => (nomatch h), rfl⟩
  | cons p t _ ih =>
    obtain ⟨ok, hline⟩ := postingEdit_ok lines hs p t (hl p (by simp)).1 (hl p (by simp)).2
    obtain ⟨ih1, ih2⟩ := ih (fun q hq => hl q (by simp [hq]))
    refine ⟨?_, by simp only [List.map_cons, hline, ih2]⟩
    intro x hx
    rcases List.mem_cons.mp hx with rfl | hx
    · exact ok
    · exact ih1 x hx

/-- Every posting edit sits on the line of a kept posting. -/
theorem editsFor_line (lines : List Bytes) (hs : SmallLines lines) (es : List Edit) (ps : List Posting)
    (hr : EditsFor lines es ps)
    (hl : ∀ p ∈ ps, 1 ≤ p.range.start.line ∧ p.range.start.line ≤ lines.length) :
    ∀ e ∈ es, ∃ p ∈ ps, (e.sl.toNat : Int) = postingLine p := by
  intro e he
  have : e.sl.toNat ∈ ps.map (fun p => p.range.start.line - 1) :=
    (editsFor_spec lines hs es ps hr hl).2 ▸ List.mem_map_of_mem he
  obtain ⟨p, hp, h⟩ := List.mem_map.mp this
  have := (hl p hp).1
  exact ⟨p, hp, by unfold postingLine; omega⟩

theorem nodup_map_pred (l : List Nat) (h1 : ∀ x ∈ l, 1 ≤ x) (h : l.Nodup) : (l.map (· - 1)).Nodup := by
  induction l with
  | nil => simp
  | cons a l ih =>
    simp only [List.nodup_cons, List.map_cons, List.mem_map, not_exists, not_and] at *
    refine ⟨?_, ih (fun x hx => h1 x (by simp [hx])) h.2⟩
    intro x hx heq
    have := h1 x (by simp [hx]); have := h1 a (by simp)
    have : x = a := by omega
    subst this; exact h.1 hx

/-- **Well-formed edits.** For every tree that fits the document, every set of parse errors,
    every configuration and every set of formats: each edit's range lies inside the document,
    on rune boundaries, with start ≤ end, and no two edits overlap. -/
theorem edits_wellformed (j : Journal) (errs : List ParseError) (doc : Bytes)
    (formats : Option Formats) (o : Options) (h : TreeFits doc j) :
    editsWellFormed doc (formatText j errs doc formats o) = true := by
  obtain ⟨hsize, hlines, hnodup⟩ := h
  have hs := smallLines_of_doc doc hsize
  rw [formatText_eq]
  generalize effFormats j formats = fm
  generalize hskip : (errs.map fun e => (e.pos.line : Int) - 1) = skip
  have hshape := txEdits_shape j doc fm o skip
  have hsub := kept_sublist j skip
  obtain ⟨htrim1, htrim2⟩ := trimLoop_spec (splitLines doc) hs ((allPostings j).map postingLine ++ skip)
    (splitLines doc) 0 rfl
  have hkeptOK : ∀ p ∈ kept j skip, 1 ≤ p.range.start.line ∧ p.range.start.line ≤ (splitLines doc).length :=
    fun p hp => hlines p (hsub.subset hp)
  have htx := editsFor_spec (splitLines doc) hs _ _ hshape hkeptOK
  apply editsWellFormed_of_lineEdits
  · intro e he
    rcases List.mem_append.mp he with he | he
    · exact htx.1 e he
    · exact (htrim1 e he).1
  -- every edit is a whole-line edit; they do not overlap because their lines are distinct: the
  -- posting edits sit on the distinct lines of the kept postings, the trimming edits on increasing
  -- lines, and the trimming pass is exempt from every posting line
  · rw [List.map_append, List.nodup_append]
    refine ⟨?_, List.Pairwise.imp (fun h => Nat.ne_of_lt h) htrim2, ?_⟩
    · rw [htx.2]
      have : ((kept j skip).map (·.range.start.line)).Nodup := (hsub.map _).nodup hnodup
      have h2 := nodup_map_pred _ (by
        intro x hx; obtain ⟨p, hp, rfl⟩ := List.mem_map.mp hx; exact (hkeptOK p hp).1) this
      simpa [List.map_map, Function.comp_def] using h2
    · intro a ha b hb heq
      subst heq
      rw [htx.2] at ha
      obtain ⟨p, hp, rfl⟩ := List.mem_map.mp ha
      obtain ⟨e, he, hee⟩ := List.mem_map.mp hb
      have hnot := (htrim1 e he).2.2.1
      apply hnot
      rw [hee]
      apply List.mem_append_left
      apply List.mem_map.mpr
      refine ⟨p, hsub.subset hp, ?_⟩
      have := (hkeptOK p hp).1
      unfold postingLine; omega

/-- **Non-posting lines.** Every edit that is not on a posting line is exactly the removal of
    the trailing blanks/tabs of its line (empty new text, from the end of the trimmed line to
    the end of the line, and the line does have trailing blanks). -/
theorem nonposting_lines (j : Journal) (errs : List ParseError) (doc : Bytes)
    (formats : Option Formats) (o : Options) (h : TreeFits doc j) :
    ∀ e ∈ formatText j errs doc formats o,
      ¬ ((e.sl.toNat : Int) ∈ (allPostings j).map postingLine) →
        isTrailingBlankRemoval (splitLines doc) e = true := by
  obtain ⟨hsize, hlines, _⟩ := h
  have hs := smallLines_of_doc doc hsize
  rw [formatText_eq]
  generalize effFormats j formats = fm
  generalize (errs.map fun e => (e.pos.line : Int) - 1) = skip
  intro e he hnp
  rcases List.mem_append.mp he with he | he
  · exfalso
    have hsub := kept_sublist j skip
    obtain ⟨p, hp, hline⟩ := editsFor_line (splitLines doc) hs _ _ (txEdits_shape j doc fm o skip)
      (fun p hp => hlines p (hsub.subset hp)) e he
    exact hnp (hline ▸ List.mem_map_of_mem (hsub.subset hp))
  · exact (trimLoop_spec (splitLines doc) hs _ (splitLines doc) 0 rfl).1 e he |>.2.2.2

/-- The trimming pass never touches a posting line or a line with a parse error. -/
theorem trim_edits_avoid (j : Journal) (errs : List ParseError) (doc : Bytes) (h : TreeFits doc j) :
    ∀ e ∈ trimTrailingSpacesEdits (splitLines doc) ((allPostings j).map postingLine)
        (errs.map fun e => (e.pos.line : Int) - 1),
      ¬ ((e.sl.toNat : Int) ∈ (allPostings j).map postingLine) ∧
      ¬ ((e.sl.toNat : Int) ∈ errs.map fun e => (e.pos.line : Int) - 1) := by
  intro e he
  have hs := smallLines_of_doc doc h.1
  have := ((trimLoop_spec (splitLines doc) hs _ (splitLines doc) 0 rfl).1 e he).2.2.1
  simp only [List.mem_append, not_or] at this
  exact this

theorem maxAccountLen_ge_acc (ps : List Posting) (acc : Nat) : acc ≤ maxAccountLen ps acc := by
  induction ps generalizing acc with
  | nil => exact Nat.le_refl _
  | cons p ps ih =>
    simp only [maxAccountLen, List.foldl_cons]
    split
    · exact Nat.le_trans (Nat.le_of_lt ‹_›) (ih _)
    · exact ih _

theorem maxAccountLen_ge (ps : List Posting) (acc : Nat) (p : Posting) (hp : p ∈ ps) :
    accountDisplayLength p ≤ maxAccountLen ps acc := by
  induction ps generalizing acc with
  | nil => cases hp
  | cons q ps ih =>
    simp only [maxAccountLen, List.foldl_cons]
    rcases List.mem_cons.mp hp with rfl | hp
    · split
      · exact maxAccountLen_ge_acc ps _
      · rename_i hle
        exact Nat.le_trans (Nat.le_of_not_lt hle) (maxAccountLen_ge_acc ps _)
    · exact ih _ hp

theorem maxAccountLenTxs_ge (txs : List Transaction) (tx : Transaction) (htx : tx ∈ txs) (p : Posting)
    (hp : p ∈ tx.postings) : accountDisplayLength p ≤ maxAccountLenTxs txs := by
  unfold maxAccountLenTxs
  generalize 0 = acc
  induction txs generalizing acc with
  | nil => cases htx
  | cons t txs ih =>
    simp only [List.foldl_cons]
    rcases List.mem_cons.mp htx with rfl | htx
    · have h1 := maxAccountLen_ge tx.postings acc p hp
      have : ∀ (l : List Transaction) (a : Nat), a ≤ l.foldl (fun m t => maxAccountLen t.postings m) a := by
        intro l
        induction l with
        | nil => intro a; exact Nat.le_refl _
        | cons t l ihl => intro a; exact Nat.le_trans (maxAccountLen_ge_acc _ _) (ihl _)
      exact Nat.le_trans h1 (this _ _)
    · exact ih htx _

/-- The column amounts are aligned to is `max (indent + widest account + 2) minColumn`. -/
theorem effGlobalCol_eq (j : Journal) (o : Options) (h : o.alignAmounts = true) :
    effGlobalCol j o = max (effIndent o + maxAccountLenTxs j.transactions + 2) o.minCol.toNat := by
  unfold effGlobalCol globalAlignmentColumn minSpaces
  simp only [h, if_true]
  split
  · rename_i hc
    simp only [Bool.and_eq_true, decide_eq_true_eq] at hc
    omega
  · rename_i hc
    simp only [Bool.and_eq_true, decide_eq_true_eq, not_and, Int.not_lt] at hc
    by_cases hm : o.minCol > 0
    · have := hc hm; omega
    · omega

theorem alignmentWithGlobal_col (ps : List Posting) (fm : Option Formats) (g : Nat) (content : Bytes) :
    (alignmentWithGlobal ps fm g content).accountCol = g := by
  unfold alignmentWithGlobal; simp only; split <;> rfl

theorem isAscii_openMark (v : Virtual) : IsAscii (openMark v) := by
  intro x hx; cases v <;> simp [openMark] at hx <;> subst hx <;> decide

theorem isAscii_closeMark (v : Virtual) : IsAscii (closeMark v) := by
  intro x hx; cases v <;> simp [closeMark] at hx <;> subst hx <;> decide

theorem accountDisplayLength_eq (p : Posting) :
    accountDisplayLength p =
      runeCount p.account.name + ((openMark p.virt).length + (closeMark p.virt).length) := by
  unfold accountDisplayLength; cases p.virt <;> rfl

/-- Rune width of the text before the gap, for a posting without status mark:
    indent + account in its brackets. -/
theorem runeCount_postingHead (p : Posting) (n : Nat) (h : p.status = .none) :
    runeCount (postingHead p (spaces n)) = n + accountDisplayLength p := by
  rw [accountDisplayLength_eq]
  unfold postingHead
  rw [h]
  simp only [statusMark, List.append_nil]
  rw [List.append_assoc, List.append_assoc, runeCount_ascii_append _ _ (isAscii_spaces n), spaces_length,
    runeCount_ascii_append _ _ (isAscii_openMark _),
    runeCount_append _ _ (nonCont_isAscii _ (isAscii_closeMark _)),
    runeCount_ascii _ (isAscii_closeMark _)]
  omega

theorem headAmount_prefix (p : Posting) (al : AlignmentInfo) (fm : Option Formats) (indent : Bytes)
    (align : Bool) (content : Bytes) :
    (postingHead p indent ++ match p.amount with
      | some a => spaces (amountGap p al indent align) ++ writeAmountWithSign a fm content
      | none => []) <+: formatPostingWithOpts p al fm indent align content := by
  refine (List.prefix_append _ _).trans (?_ : postingUpToCost p al fm indent align content <+: _)
  unfold formatPostingWithOpts
  cases p.assertion
  · exact List.prefix_append _ _
  · exact (List.prefix_append _ _).trans <| (List.prefix_append _ _).trans <|
      (List.prefix_append _ _).trans (List.prefix_append _ _)

theorem amountGap_aligned (p : Posting) (al : AlignmentInfo) (indent : Bytes) (h : 0 < al.accountCol) :
    amountGap p al indent true = max (al.accountCol - runeCount (postingHead p indent)) minSpaces := by
  unfold amountGap
  rw [if_pos (by simpa using h)]

theorem spaces_add (m n : Nat) : spaces (m + n) = spaces m ++ spaces n :=
  List.replicate_append_replicate.symm

theorem marks_head_not_blank (s : Status) (v : Virtual) (name t : Bytes) (c : UInt8)
    (hc : name.head? = some c) (h32 : c ≠ 32) (h9 : c ≠ 9) :
    (statusMark s ++ openMark v ++ name ++ t).head? ≠ some 32 ∧
      (statusMark s ++ openMark v ++ name ++ t).head? ≠ some 9 := by
  cases s <;> cases v <;> simp [statusMark, openMark, hc, h32, h9]

/-- **Alignment.** With alignment on, for every posting `p` of the journal:
    * its formatted line starts with exactly the configured indent (`indent` blanks, and the
      next byte is not a blank or tab when the account name does not start with one);
    * if `p` has an amount and no status mark, the amount starts at rune column
      `G = max (indent + widest account + 2) minColumn`, the same `G` for all postings of the
      journal, directly after at least two blanks, and `G ≥ indent + width of p's account + 2`.
    Widths are counted in runes (Go's `utf8.RuneCountInString`), on arbitrary bytes. -/
theorem alignment (j : Journal) (o : Options) (fm : Option Formats) (content : Bytes)
    (halign : o.alignAmounts = true) (tx : Transaction) (htx : tx ∈ j.transactions)
    (p : Posting) (hp : p ∈ tx.postings) :
    let G := max (effIndent o + maxAccountLenTxs j.transactions + 2) o.minCol.toNat
    let al := alignmentWithGlobal tx.postings fm (effGlobalCol j o) content
    let line := formatPostingWithOpts p al fm (spaces (effIndent o)) true content
    (∃ rest, line = spaces (effIndent o) ++ rest ∧
      (∀ c, p.account.name.head? = some c → c ≠ 32 → c ≠ 9 → rest.head? ≠ some 32 ∧ rest.head? ≠ some 9)) ∧
    (∀ a, p.status = .none → p.amount = some a →
      ∃ pre tail, line = pre ++ [32, 32] ++ writeAmountWithSign a fm content ++ tail ∧
        runeCount (pre ++ [32, 32]) = G ∧
        effIndent o + accountDisplayLength p + 2 ≤ G) := by
  intro G al line
  have hcol : al.accountCol = G :=
    (alignmentWithGlobal_col tx.postings fm _ content).trans (effGlobalCol_eq j o halign)
  have hpre := headAmount_prefix p al fm (spaces (effIndent o)) true content
  constructor
  · obtain ⟨t, ht⟩ := (List.prefix_append _ _).trans hpre
    refine ⟨statusMark p.status ++ openMark p.virt ++ p.account.name ++ (closeMark p.virt ++ t),
      ?_, fun c hc h32 h9 => marks_head_not_blank p.status p.virt _ _ c hc h32 h9⟩
    refine ht.symm.trans ?_; unfold postingHead; simp only [List.append_assoc]
  · intro a hst hamt
    have hle : effIndent o + accountDisplayLength p + 2 ≤ G :=
      Nat.le_trans (by have := maxAccountLenTxs_ge j.transactions tx htx p hp; omega) (Nat.le_max_left _ _)
    have hcur := runeCount_postingHead p (effIndent o) hst
    -- the gap is what is missing up to column `G`, and at least two blanks
    obtain ⟨k, hk⟩ : ∃ k, amountGap p al (spaces (effIndent o)) true = k + 2 ∧
        effIndent o + accountDisplayLength p + (k + 2) = G := by
      refine ⟨G - (effIndent o + accountDisplayLength p) - 2, ?_, by omega⟩
      rw [amountGap_aligned p al _ (by omega), hcol, hcur, minSpaces]; omega
    rw [hamt, hk.1, spaces_add] at hpre
    obtain ⟨t, ht⟩ := hpre
    refine ⟨postingHead p (spaces (effIndent o)) ++ spaces k, t, ?_, ?_, hle⟩
    · refine ht.symm.trans ?_; simp only [List.append_assoc]; rfl
    · rw [List.append_assoc, show ([32, 32] : Bytes) = spaces 2 from rfl, ← spaces_add, runeCount_append _ _ (nonCont_isAscii _ (isAscii_spaces _)),
        hcur, runeCount_ascii _ (isAscii_spaces _), spaces_length]
      exact hk.2

theorem trimRightCR_idem (c : Bytes) : trimRightCR (trimRightCR c) = trimRightCR c := by
  induction c with
  | nil => rfl
  | cons b bs ih =>
    simp only [trimRightCR]
    split
    · rfl
    · rename_i h
      simp only [trimRightCR, ih]
      rw [if_neg h]

/-- The comment clause of idempotence (DESIGN 8 #5, repaired): what is written after the
    semicolon is the comment itself, so reading it back and writing it again gives the same
    text — for every comment, with or without leading blank, with trailing blanks or a CR. -/
theorem comment_stable (c : Bytes) : commentText ((commentText c).drop 3) = commentText c := by
  unfold commentText
  simp only
  split
  · simp only [List.drop_succ_cons, List.drop_zero, List.cons_append, List.nil_append, trimRightCR_idem]
    rename_i h; simp only [h, if_true]
  · rfl

/-- The alignment data `formatTransactionWithOpts` uses for a transaction. -/
def txAlignment (j : Journal) (tx : Transaction) (fm : Formats) (o : Options) (doc : Bytes) : AlignmentInfo :=
  if o.alignAmounts then alignmentWithGlobal tx.postings (some fm) (effGlobalCol j o) doc else ⟨0, 0⟩

/-- The text `formatText` writes for posting `p` of transaction `tx`. -/
def postingText (j : Journal) (tx : Transaction) (p : Posting) (fm : Formats) (o : Options) (doc : Bytes) : Bytes :=
  formatPostingWithOpts p (txAlignment j tx fm o doc) (some fm) (spaces (effIndent o)) o.alignAmounts doc

/-- Guard of `idempotent_partial`: the document already has the shape formatting gives it,
    with respect to its own syntax tree: every posting line that would be rewritten already
    holds exactly the text that would be written, and no other line that would be trimmed has
    trailing blanks.  (That the real parser reads a formatted document back as such a tree is
    the parser's part of idempotence; the correspondence oracle checks the composition on the
    real code.) -/
def AlreadyFormatted (j : Journal) (errs : List ParseError) (doc : Bytes) (formats : Option Formats)
    (o : Options) : Prop :=
  let lines := splitLines doc
  let skip := errs.map fun e => (e.pos.line : Int) - 1
  (∀ tx ∈ j.transactions, ∀ p ∈ tx.postings, ¬ (postingLine p ∈ skip) →
      content (lines.getD (p.range.start.line - 1) []) = postingText j tx p (effFormats j formats) o doc) ∧
  (∀ n, n < lines.length → ¬ ((n : Int) ∈ (allPostings j).map postingLine ++ skip) →
      trimRight (lines.getD n []) = lines.getD n [])

/-- An edit that replaces the whole content of one line by the same text. -/
def IsNoop (lines : List Bytes) (e : Edit) : Prop :=
  e.sl = e.el ∧ e.sl.toNat < lines.length ∧ e.sc.toNat = 0 ∧
    e.ec.toNat = u16len (content (lines.getD e.sl.toNat [])) ∧
    e.newText = content (lines.getD e.sl.toNat [])

theorem txEdits_mem (j : Journal) (doc : Bytes) (fm : Formats) (o : Options) (skip : List Int) (e : Edit)
    (he : e ∈ txEdits j doc fm o skip) :
    ∃ tx ∈ j.transactions, ∃ p ∈ tx.postings, ¬ (postingLine p ∈ skip) ∧
      e = postingEdit (splitLines doc) p (postingText j tx p fm o doc) := by
  unfold txEdits at he
  obtain ⟨tx, htx, he⟩ := List.mem_flatMap.mp he
  unfold formatTransaction at he
  obtain ⟨p, hp, rfl⟩ := List.mem_map.mp he
  obtain ⟨hp1, hp2⟩ := List.mem_filter.mp hp
  exact ⟨tx, htx, p, hp1, not_skipped hp2, rfl⟩

/-- **Idempotence, the formatter's part.** On a document that already has the formatted shape
    (with respect to its own tree) every edit `formatText` returns replaces the content of a
    line by the identical text, and the trimming pass returns nothing: formatting changes
    nothing. -/
theorem idempotent_partial (j : Journal) (errs : List ParseError) (doc : Bytes)
    (formats : Option Formats) (o : Options) (h : TreeFits doc j)
    (hf : AlreadyFormatted j errs doc formats o) :
    ∀ e ∈ formatText j errs doc formats o, IsNoop (splitLines doc) e := by
  obtain ⟨hsize, hlines, _⟩ := h
  have hs := smallLines_of_doc doc hsize
  obtain ⟨hf1, hf2⟩ := hf
  rw [formatText_eq]
  intro e he
  rcases List.mem_append.mp he with he | he
  · obtain ⟨tx, htx, p, hp, hns, rfl⟩ := txEdits_mem j doc _ o _ e he
    have hpall : p ∈ allPostings j := List.mem_flatMap.mpr ⟨tx, htx, hp⟩
    obtain ⟨h1, h2⟩ := hlines p hpall
    obtain ⟨ok, hl⟩ := postingEdit_ok (splitLines doc) hs p (postingText j tx p (effFormats j formats) o doc) h1 h2
    have hlt : p.range.start.line - 1 < (splitLines doc).length := by omega
    have hw : u16len (content ((splitLines doc).getD (p.range.start.line - 1) [])) < 4294967296 := by
      have := u16len_le_length (content ((splitLines doc).getD (p.range.start.line - 1) []))
      have := content_length_le ((splitLines doc).getD (p.range.start.line - 1) [])
      have := hs.width _ (getD_mem (splitLines doc) _ hlt)
      omega
    have hline : postingLine p = ((p.range.start.line - 1 : Nat) : Int) := by unfold postingLine; omega
    refine ⟨ok.sameLine, ok.lineLt, rfl, ?_, ?_⟩
    · rw [hl]
      show (UInt32.ofNat (lineU16 (splitLines doc) (postingLine p))).toNat = _
      rw [hline, lineU16_eq _ _ hlt, ofNat_toNat _ hw]
    · rw [hl]
      exact (hf1 tx htx p hp hns).symm
  · exfalso
    obtain ⟨ok, _, hnot, htb⟩ := (trimLoop_spec (splitLines doc) hs _ (splitLines doc) 0 rfl).1 e he
    have hlt := ok.lineLt
    have := hf2 e.sl.toNat hlt hnot
    simp only [isTrailingBlankRemoval, Bool.and_eq_true] at htb
    have hget : (splitLines doc)[e.sl.toNat]? = some ((splitLines doc).getD e.sl.toNat []) := by
      rw [List.getD_eq_getElem?_getD, List.getElem?_eq_getElem hlt]; rfl
    rw [hget] at htb
    simp only [Bool.and_eq_true, decide_eq_true_eq] at htb
    rw [this] at htb
    omega

namespace Example

/-- `2024-01-15 x⏎  a:b  1 USD ; hello⏎  c:d⏎` -/
def doc : Bytes := [50, 48, 50, 52, 45, 48, 49, 45, 49, 53, 32, 120, 10, 32, 32, 97, 58, 98, 32, 32, 49, 32, 85, 83, 68, 32, 59, 32, 104, 101, 108, 108, 111, 10, 32, 32, 99, 58, 100, 10]

def posting1 (line col off : Nat) : Posting :=
  { (default : Posting) with
    account := ⟨[97, 58, 98], Rng.zero⟩,
    amount := some ⟨⟨1, 0⟩, [49], ⟨[85, 83, 68], .right, Rng.zero⟩, false, Rng.zero⟩,
    comment := [32, 104, 101, 108, 108, 111],
    range := ⟨⟨line, col, off⟩, Pos.zero⟩ }

def posting2 (line col off : Nat) : Posting :=
  { (default : Posting) with account := ⟨[99, 58, 100], Rng.zero⟩, range := ⟨⟨line, col, off⟩, Pos.zero⟩ }

/-- The tree the parser produces for `doc` (positions of the posting starts only). -/
def journal : Journal :=
  ⟨[{ (default : Transaction) with postings := [posting1 2 3 15, posting2 3 3 36] }], [], [], []⟩

/-- The formatted text: `2024-01-15 x⏎    a:b  1 USD  ; hello⏎    c:d⏎`, and its tree. -/
def doc' : Bytes := [50, 48, 50, 52, 45, 48, 49, 45, 49, 53, 32, 120, 10, 32, 32, 32, 32, 97, 58, 98, 32, 32, 49, 32, 85, 83, 68, 32, 32, 59, 32, 104, 101, 108, 108, 111, 10, 32, 32, 32, 32, 99, 58, 100, 10]
def journal' : Journal :=
  ⟨[{ (default : Transaction) with postings := [posting1 2 5 17, posting2 3 5 41] }], [], [], []⟩

def opts : Options := ⟨4, true, 0⟩

end Example

/-- The hypotheses of `edits_wellformed` / `nonposting_lines` hold for a real input. -/
example : TreeFits Example.doc Example.journal := by decide +kernel

/-- DESIGN 8 #5 repaired: the comment ` hello` is written back as `  ; hello` (one blank, not
    two), and the edits are the two whole-line replacements. -/
example : formatText Example.journal [] Example.doc none Example.opts =
    [⟨1, 0, 1, 20, [32, 32, 32, 32, 97, 58, 98, 32, 32, 49, 32, 85, 83, 68, 32, 32, 59, 32, 104, 101, 108, 108, 111]⟩, ⟨2, 0, 2, 5, [32, 32, 32, 32, 99, 58, 100]⟩] := by decide +kernel

instance (j : Journal) (errs : List ParseError) (doc : Bytes) (formats : Option Formats) (o : Options) :
    Decidable (AlreadyFormatted j errs doc formats o) := by
  unfold AlreadyFormatted; infer_instance

/-- The guard of `idempotent_partial` holds for the result of the first run (read back by the
    parser as `journal'`), so the theorem applies: the second run changes nothing. -/
example : TreeFits Example.doc' Example.journal' ∧
    AlreadyFormatted Example.journal' [] Example.doc' none Example.opts := by decide +kernel

/-- Model-level face of the known finding `glued-left-commodity`: `a:x1  USD 5` (blank between
    symbol and quantity in the source, at offset 13) is written `    a:x1  USD5`; the lexer
    then takes `USD5` for one symbol because the account ends in a digit. -/
theorem glued_left_commodity_counterexample :
    let content : Bytes := [32, 32, 97, 58, 120, 49, 32, 32, 85, 83, 68, 32, 53]
    let p : Posting := { (default : Posting) with
      account := ⟨[97, 58, 120, 49], Rng.zero⟩,
      amount := some ⟨⟨5, 0⟩, [53], ⟨[85, 83, 68], .left, ⟨⟨1, 9, 8⟩, ⟨1, 12, 11⟩⟩⟩, false, Rng.zero⟩ }
    formatPostingWithOpts p ⟨0, 0⟩ none (spaces 4) false content = ([32, 32, 32, 32, 97, 58, 120, 49, 32, 32, 85, 83, 68, 53] : Bytes) := by
  decide +kernel

/-- Model-level face of the known finding `trimmed-blank-line-splits-entry`: a whitespace-only
    line is trimmed to an empty line (which the parser treats as the end of the entry). -/
theorem trimmed_blank_line_counterexample :
    trimEdit [[32, 32, 32]] 0 [32, 32, 32] = some ⟨0, 0, 0, 3, []⟩ := by decide +kernel

end HL.Props.C05
