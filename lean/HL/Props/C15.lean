/-
  C15 "Responses are a function of workspace state (determinism)".

  Model: HL.Model.MapOrder — every Go loop over a map is a fold over an explicit iteration
  order `σ`.  "The runtime may choose any order" = "σ may be any permutation of the entries";
  a map's keys are distinct (`(keys σ).Nodup`).

  * `…_order_independent`  — ∀ maps of any size, ∀ two iteration orders: same result.
       For the sites the pinned tree already gets right (sorted paths, count merges, declared
       sets, template merge by FileOrder, …) and, in full, for the REPAIRED code of every site
       that was order-dependent (the seven `fix:` commits of DESIGN 14.2; for the index's payee
       templates the later upstream rule `restorePayeeTemplate` = smallest path that has one).
  * `…_counterexample`     — the pinned code (`…In`): two orders of one map, two different results.
  * `…_partial`            — the pinned code is order-independent under an explicit guard.
  * `C15_deterministic`         — all modelled responses of the repaired server, jointly.
  * `C15_deterministic_partial` — the same for the pinned server, guard = none of the
                                  order-dependent shapes occurs.

  Partial by nature: Go's actual distribution over iteration orders is not modelled; the
  theorems quantify over ALL orders, which is stronger than any distribution.
-/
import HL.Model.MapOrder
import HL.Lemmas.MapOrder

namespace HL.Props.C15
open HL.MapOrder List

/-- the same outer sequence, every inner map iterated in a possibly different order -/
inductive InnerPerm {κ ν : Type} : Entries κ (List ν) → Entries κ (List ν) → Prop
  | nil : InnerPerm [] []
  | cons {k : κ} {l l' : List ν} {σ σ' : Entries κ (List ν)} :
      l.Perm l' → InnerPerm σ σ' → InnerPerm ((k, l) :: σ) ((k, l') :: σ')

theorem InnerPerm.foldl_foldl_eq {α β κ : Type} {step : β → α → β}
    (comm : ∀ m a b, step (step m a) b = step (step m b) a)
    {σ σ' : Entries κ (List α)} (h : InnerPerm σ σ') (m : β) :
    σ.foldl (fun m f => f.2.foldl step m) m = σ'.foldl (fun m f => f.2.foldl step m) m := by
  induction h generalizing m with
  | nil => rfl
  | cons hl _ ih => simp only [foldl_cons, hl.foldl_eq' (fun _ _ _ _ z => comm z _ _), ih]

/-! ## 1. Sites that are order-independent on the pinned tree -/

/-- `sortedKeys`, `sortedJournalPaths`, hover's commodity list, `CollectPayeeTemplates`' payee and
    pattern lists: keys collected in map order, then `sort.Strings`. -/
theorem sortedKeys_order_independent {l l' : List String} (h : l.Perm l') :
    sortStrings l = sortStrings l' := sortStrings_perm h

/-- references / definition: the journals map is visited through `sortedJournalPaths`. -/
theorem sortedPaths_visit_order_independent {ν β : Type} {σ σ' : Entries String ν}
    (h : σ.Perm σ') (nd : (keys σ).Nodup) (f : String × ν → List β) :
    visitSorted σ f = visitSorted σ' f :=
  congrArg (·.flatMap f) (sortedEntries_perm h nd)

/-- counts merges (`counts[k] += v`): independent of the order of `resolved.Files` and of the
    order of the primary file's count map … -/
theorem mergeCounts_order_independent {p p' : Entries String Nat} {σ σ' : Entries String (Entries String Nat)}
    (hp : p.Perm p') (h : σ.Perm σ') : mergeCounts p σ = mergeCounts p' σ' := by
  unfold mergeCounts
  rw [hp.foldl_eq' (fun _ _ _ _ z => bump_comm z _ _)]
  exact foldl_foldl_perm bump_comm h _

/-- … and of the order in which every per-file count map is iterated. -/
theorem mergeCounts_inner_order_independent {p : Entries String Nat} {σ σ' : Entries String (Entries String Nat)}
    (h : InnerPerm σ σ') : mergeCounts p σ = mergeCounts p σ' :=
  h.foldl_foldl_eq bump_comm _

/-- declared-account / declared-commodity sets (`declared[k] = true`). -/
theorem declaredSet_order_independent {p p' : List String} {σ σ' : Entries String (List String)}
    (hp : p.Perm p') (h : σ.Perm σ') : markAll p σ = markAll p' σ' := by
  unfold markAll
  rw [hp.foldl_eq' (fun _ _ _ _ z => mark_comm z _ _)]
  exact foldl_foldl_perm mark_comm h _

theorem declaredSet_inner_order_independent {p : List String} {σ σ' : Entries String (List String)}
    (h : InnerPerm σ σ') : markAll p σ = markAll p σ' :=
  h.foldl_foldl_eq mark_comm _

/-- `isAccountDeclared` ranges over the declared set and returns at the first hit: an
    existential, so the order is irrelevant. -/
theorem isAccountDeclared_order_independent {σ σ' : List String} (h : σ.Perm σ') (name : String) :
    declaredByPrefix σ name = declaredByPrefix σ' name := h.any_eq

/-- `mergeTemplates`' inner loop over one file's template map (distinct payees). -/
theorem mergeTemplates_order_independent {τ : Type} {σ σ' : Entries String τ} (h : σ.Perm σ')
    (nd : (keys σ).Nodup) (m : String → Option τ) : mergeTemplates m σ = mergeTemplates m σ' := by
  unfold mergeTemplates
  refine h.foldl_eq' (fun x hx y hy z => putTemplate_comm z ?_) m
  by_cases hxy : x.1 = y.1
  · exact Or.inl (eq_of_fst_eq nd hx hy hxy)
  · exact Or.inr hxy

/-- `collectPayeeTemplatesFromResolved` (inline-completion templates): the files come in
    `FileOrder`, a slice; only the per-file maps are iterated in map order. -/
theorem templatesFromResolved_order_independent {τ : Type}
    {order order' : Entries Unit (Entries String τ)} {primary primary' : Entries String τ}
    (h : InnerPerm order order') (nd : ∀ f ∈ order, (keys f.2).Nodup)
    (hp : primary.Perm primary') (ndp : (keys primary).Nodup) :
    templatesFromResolved (order.map (·.2)) primary = templatesFromResolved (order'.map (·.2)) primary' := by
  unfold templatesFromResolved
  rw [mergeTemplates_order_independent hp ndp]
  congr 1
  generalize (fun _ => none : String → Option τ) = m
  induction h generalizing m with
  | nil => rfl
  | cons hl _ ih =>
    simp only [map_cons, foldl_cons]
    rw [mergeTemplates_order_independent hl (nd _ mem_cons_self)]
    exact ih (fun f hf => nd f (mem_cons_of_mem _ hf)) _

/-! ## 2. The repaired code: order-independent in full -/

/-- a16f2b7: the unbalanced-transaction message. -/
theorem balanceMessage_order_independent {σ σ' : Entries String String} (h : σ.Perm σ')
    (nd : (keys σ).Nodup) : balanceMessage σ = balanceMessage σ' :=
  congrArg balanceMessageIn (sortedEntries_perm h nd)

/-- 73c0992: accounts, payees, commodities, tags, tag values, dates. -/
theorem collectFromResolved_order_independent {σ σ' : Entries String (List String)} (h : σ.Perm σ')
    (nd : (keys σ).Nodup) (primary : List String) :
    collectFromResolved primary σ = collectFromResolved primary σ' :=
  congrArg (collectFromResolvedIn primary) (sortedEntries_perm h nd)

/-- Payee templates of the workspace index (upstream `restorePayeeTemplate`, which superseded
    96b0f57 for this map): the smallest-path choice is the same for every
    order in which `idx.fileIndexes` — root file included — is ranged over.  Paths are non-empty
    (`SetFileIndex` refuses ""). -/
theorem indexTemplates_order_independent {τ : Type} {σ σ' : Entries String (Entries String τ)}
    (h : σ.Perm σ') (nd : (keys σ).Nodup) (ne : ∀ f ∈ σ, f.1 ≠ "") :
    indexTemplates σ = indexTemplates σ' := by
  funext payee
  unfold indexTemplates
  simp only [bestPath_perm h ne payee, lookup_perm h nd]

/-- … and the per-key transaction lists of the index. -/
theorem indexTxFiles_order_independent {σ σ' : Entries String (List String)} (h : σ.Perm σ')
    (nd : (keys σ).Nodup) (root : String × List String) (key : String) :
    indexTxFiles root σ key = indexTxFiles root σ' key :=
  congrArg (indexTxFilesIn root · key) (sortedEntries_perm h nd)

/-- 3ae6471: workspace symbols. -/
theorem wsSymbols_order_independent {τ : Type} {σ σ' : Entries String (List τ)} (h : σ.Perm σ')
    (nd : (keys σ).Nodup) : wsSymbols σ = wsSymbols σ' :=
  congrArg wsSymbolsIn (sortedEntries_perm h nd)

/-- daefaf0: `FileOrder` after `addMissingReachableLocked` … -/
theorem addMissing_order_independent {m m' : List String} (h : m.Perm m') (fileOrder : List String) :
    addMissing fileOrder m = addMissing fileOrder m' :=
  congrArg (addMissingIn fileOrder) (sortStrings_perm h)

/-- … and the payee templates served afterwards. -/
theorem templatesAfterAdd_order_independent {τ : Type} {σ σ' : Entries String (Entries String τ)}
    (h : σ.Perm σ') (nd : (keys σ).Nodup) (kept : Entries String (Entries String τ)) (primary : Entries String τ) :
    templatesAfterAdd kept σ primary = templatesAfterAdd kept σ' primary :=
  congrArg (templatesAfterAddIn kept · primary) (sortedEntries_perm h nd)

/-- 87879af + 73c0992: the completion list, order
    included, for every score and count function and every `MaxResults`. -/
theorem completion_order_independent {σ σ' : Entries String (List String)} (h : σ.Perm σ')
    (nd : (keys σ).Nodup) (primary : List String) (score count : String → Nat) (max : Nat) :
    completionLabels (collectFromResolved primary σ) score count max
      = completionLabels (collectFromResolved primary σ') score count max := by
  rw [collectFromResolved_order_independent h nd]

/-- 483d41c: the document `hledger.run` is applied to. -/
theorem minPath_order_independent {σ σ' : List String} (h : σ.Perm σ') : minPath σ = minPath σ' := by
  rw [minPath_eq_foldl_pick, minPath_eq_foldl_pick]
  exact h.foldl_eq' (fun x _ y _ z => pick_comm z x y (x != "") (y != "") (by simp) (by simp)) _

/-! ## 3. The pinned code: counterexamples (two orders of one map, two results) -/

theorem balanceMessageIn_counterexample :
    ∃ σ σ' : Entries String String, σ.Perm σ' ∧ (keys σ).Nodup ∧ balanceMessageIn σ ≠ balanceMessageIn σ' :=
  ⟨[("EUR", "5"), ("USD", "10")], [("USD", "10"), ("EUR", "5")], Perm.swap _ _ _, by decide +kernel, by decide +kernel⟩

/-- what the two spellings are -/
example : balanceMessageIn [("EUR", "5"), ("USD", "10")] = "transaction does not balance: EUR off by 5; USD off by 10" := by decide +kernel
example : balanceMessageIn [("USD", "10"), ("EUR", "5")] = "transaction does not balance: USD off by 10; EUR off by 5" := by decide +kernel

theorem collectFromResolvedIn_counterexample :
    ∃ σ σ' : Entries String (List String), σ.Perm σ' ∧ (keys σ).Nodup ∧
      collectFromResolvedIn ["Rent"] σ ≠ collectFromResolvedIn ["Rent"] σ' :=
  ⟨[("a.journal", ["Cafe", "Rent"]), ("b.journal", ["Grocer", "Cafe"])],
   [("b.journal", ["Grocer", "Cafe"]), ("a.journal", ["Cafe", "Rent"])], Perm.swap _ _ _, by decide +kernel, by decide +kernel⟩

example : collectFromResolvedIn ["Rent"] [("a.journal", ["Cafe", "Rent"]), ("b.journal", ["Grocer", "Cafe"])]
    = ["Rent", "Cafe", "Grocer"] := by decide +kernel
example : collectFromResolvedIn ["Rent"] [("b.journal", ["Grocer", "Cafe"]), ("a.journal", ["Cafe", "Rent"])]
    = ["Rent", "Grocer", "Cafe"] := by decide +kernel

theorem wsSymbolsIn_counterexample :
    ∃ σ σ' : Entries String (List String), σ.Perm σ' ∧ (keys σ).Nodup ∧ wsSymbolsIn σ ≠ wsSymbolsIn σ' :=
  ⟨[("file:///w/a.journal", ["assets:bank"]), ("file:///w/b.journal", ["Grocer"])],
   [("file:///w/b.journal", ["Grocer"]), ("file:///w/a.journal", ["assets:bank"])], Perm.swap _ _ _, by decide +kernel, by decide +kernel⟩

/-- "last file added wins": two included files with a template for the same payee. -/
theorem indexTemplatesIn_counterexample :
    ∃ σ σ' : Entries String (Entries String String), σ.Perm σ' ∧ (keys σ).Nodup ∧
      indexTemplatesIn [] σ "Grocer" ≠ indexTemplatesIn [] σ' "Grocer" :=
  ⟨[("a.journal", [("Grocer", "expenses:food 10 USD")]), ("b.journal", [("Grocer", "expenses:fun 3 EUR")])],
   [("b.journal", [("Grocer", "expenses:fun 3 EUR")]), ("a.journal", [("Grocer", "expenses:food 10 USD")])],
   Perm.swap _ _ _, by decide +kernel, by decide +kernel⟩

theorem indexTxFilesIn_counterexample :
    ∃ σ σ' : Entries String (List String), σ.Perm σ' ∧ (keys σ).Nodup ∧
      indexTxFilesIn ("main.journal", []) σ "k" ≠ indexTxFilesIn ("main.journal", []) σ' "k" :=
  ⟨[("a.journal", ["k"]), ("b.journal", ["k"])], [("b.journal", ["k"]), ("a.journal", ["k"])],
   Perm.swap _ _ _, by decide +kernel, by decide +kernel⟩

theorem addMissingIn_counterexample :
    ∃ m m' : List String, m.Perm m' ∧ m.Nodup ∧ addMissingIn ["a.journal"] m ≠ addMissingIn ["a.journal"] m' :=
  ⟨["b.journal", "c.journal"], ["c.journal", "b.journal"], Perm.swap _ _ _, by decide +kernel, by decide +kernel⟩

/-- the server-visible consequence: the inline-completion template of a payee both added files know -/
theorem templatesAfterAddIn_counterexample :
    ∃ σ σ' : Entries String (Entries String String), σ.Perm σ' ∧ (keys σ).Nodup ∧
      templatesAfterAddIn [] σ [] "Grocer" ≠ templatesAfterAddIn [] σ' [] "Grocer" :=
  ⟨[("a.journal", [("Grocer", "expenses:food 10 USD")]), ("b.journal", [("Grocer", "expenses:fun 3 EUR")])],
   [("b.journal", [("Grocer", "expenses:fun 3 EUR")]), ("a.journal", [("Grocer", "expenses:food 10 USD")])],
   Perm.swap _ _ _, by decide +kernel, by decide +kernel⟩

theorem firstWithPath_counterexample :
    ∃ σ σ' : List String, σ.Perm σ' ∧ σ.Nodup ∧ firstWithPath σ ≠ firstWithPath σ' :=
  ⟨["/w/a.journal", "/w/b.journal"], ["/w/b.journal", "/w/a.journal"], Perm.swap _ _ _, by decide +kernel, by decide +kernel⟩

/-- `sort.Slice` promises a sorted permutation and nothing more: with a tie in (score, count)
    there are two different rankings of the same items. -/
theorem ranking_counterexample :
    ∃ items o o' : List Scored, IsRanking items o ∧ IsRanking items o' ∧ o ≠ o' :=
  ⟨[⟨"Cafe", 1000, 1⟩, ⟨"Grocer", 1000, 1⟩], [⟨"Cafe", 1000, 1⟩, ⟨"Grocer", 1000, 1⟩],
   [⟨"Grocer", 1000, 1⟩, ⟨"Cafe", 1000, 1⟩],
   ⟨Perm.refl _, by decide +kernel⟩, ⟨Perm.swap _ _ _, by decide +kernel⟩, by decide +kernel⟩

/-! ## 4. The pinned code under guards -/

def NoTies (items : List Scored) : Prop :=
  ∀ a ∈ items, ∀ b ∈ items, a.score = b.score → a.count = b.count → a = b

instance (items : List Scored) : Decidable (NoTies items) := by unfold NoTies; infer_instance

private theorem rankLe_trans (a b c : Scored) : rankLe a b = true → rankLe b c = true → rankLe a c = true := by
  simp only [rankLe, Bool.or_eq_true, decide_eq_true_eq, Bool.and_eq_true, beq_iff_eq]; omega

private theorem rankLe_total (a b : Scored) : (rankLe a b || rankLe b a) = true := by
  simp only [rankLe, Bool.or_eq_true, decide_eq_true_eq, Bool.and_eq_true, beq_iff_eq]; omega

private theorem rankLe_antisymm {a b : Scored} : rankLe a b = true → rankLe b a = true →
    a.score = b.score ∧ a.count = b.count := by
  simp only [rankLe, Bool.or_eq_true, decide_eq_true_eq, Bool.and_eq_true, beq_iff_eq]; omega

/-- Without ties every correct sort — stable or not — returns the same ranking, whatever order
    the candidates arrive in. -/
theorem ranking_unique_partial {items items' o o' : List Scored} (nt : NoTies items)
    (hp : items.Perm items') (h : IsRanking items o) (h' : IsRanking items' o') : o = o' := by
  apply Perm.eq_of_pairwise (le := fun a b => rankLe a b = true)
  · intro a b ha hb hab hba
    have ha' : a ∈ items := h.1.mem_iff.mp ha
    have hb' : b ∈ items := hp.mem_iff.mpr (h'.1.mem_iff.mp hb)
    have := rankLe_antisymm hab hba
    exact nt a ha' b hb' this.1 this.2
  · exact h.2
  · exact h'.2
  · exact h.1.trans (hp.trans h'.1.symm)

/-- The stable sort is one of the rankings `sort.Slice` may return. -/
theorem rankStable_isRanking (items : List Scored) : IsRanking items (rankStable items) :=
  ⟨mergeSort_perm _ _, pairwise_mergeSort rankLe_trans rankLe_total items⟩

example : NoTies [⟨"Cafe", 1000, 3⟩, ⟨"Grocer", 1000, 1⟩, ⟨"Rent", 35, 1⟩] := by decide

/-- A map with at most one entry has one iteration order: every `…In` function is then trivially
    order-independent (≤ 1 residual commodity, ≤ 1 included file, ≤ 1 open document, ≤ 1 file
    to add). -/
theorem single_entry_partial {α β : Type} (f : List α → β) {σ σ' : List α} (hl : σ.length ≤ 1)
    (h : σ.Perm σ') : f σ = f σ' := by rw [perm_eq_of_length_le_one h hl]

example : ([("USD", "10")] : Entries String String).length ≤ 1 := by decide

/-- no two included files provide a template for the same payee -/
def NoSharedPayee {τ : Type} (σ : Entries String (Entries String τ)) : Prop :=
  ∀ f ∈ σ, ∀ g ∈ σ, f = g ∨ ∀ k ∈ keys f.2, k ∉ keys g.2

theorem indexTemplatesIn_partial {τ : Type} {σ σ' : Entries String (Entries String τ)}
    (wf : ∀ f ∈ σ, (keys f.2).Nodup) (ns : NoSharedPayee σ) (h : σ.Perm σ') (root : Entries String τ) :
    indexTemplatesIn root σ = indexTemplatesIn root σ' := by
  unfold indexTemplatesIn
  refine h.foldl_eq' (fun x hx y hy z => ?_) _
  rcases ns x hx y hy with rfl | hd
  · rfl
  · rw [mergeTemplates_append, mergeTemplates_append]
    unfold mergeTemplates
    refine (perm_append_comm (l₁ := x.2) (l₂ := y.2)).foldl_eq' (fun a ha b hb m => putTemplate_comm m ?_) z
    by_cases hab : a.1 = b.1
    · left
      rcases mem_append.mp ha with ha | ha <;> rcases mem_append.mp hb with hb | hb
      · exact eq_of_fst_eq (wf x hx) ha hb hab
      · exact absurd (mem_map_of_mem (f := (·.1)) hb) (hab ▸ hd a.1 (mem_map_of_mem (f := (·.1)) ha))
      · exact absurd (mem_map_of_mem (f := (·.1)) ha) (hab ▸ hd b.1 (mem_map_of_mem (f := (·.1)) hb))
      · exact eq_of_fst_eq (wf y hy) ha hb hab
    · exact Or.inr hab

example : NoSharedPayee [("a.journal", [("Grocer", "t1")]), ("b.journal", [("Cafe", "t2"), ("Rent", "t3")])] := by
  intro f hf g hg
  simp only [mem_cons, not_mem_nil, or_false] at hf hg
  rcases hf with rfl | rfl <;> rcases hg with rfl | rfl <;> simp [keys]

/-- at most one open document has a file path -/
theorem firstWithPath_partial {σ σ' : List String} (hl : (σ.filter (· != "")).length ≤ 1) (h : σ.Perm σ') :
    firstWithPath σ = firstWithPath σ' := by
  unfold firstWithPath
  rw [← head?_filter, ← head?_filter, perm_eq_of_length_le_one (h.filter _) hl]

example : ((["", "/w/a.journal", ""] : List String).filter (· != "")).length ≤ 1 := by decide

/-- `perms σ` (what the driver runs the pinned model on) contains every iteration order of `σ`:
    the driver's model-set is the set of outputs over all orders the theorems quantify over. -/
theorem perms_complete {α : Type} {σ σ' : List α} (h : σ'.Perm σ) : σ' ∈ perms σ := by
  induction σ generalizing σ' with
  | nil => simp [perms, perm_nil.mp h]
  | cons x xs ih =>
    have hx : x ∈ σ' := h.symm.subset mem_cons_self
    obtain ⟨a, b, rfl⟩ := append_of_mem hx
    have hab : (a ++ b).Perm xs := (perm_middle.symm.trans h).cons_inv
    simp only [perms, mem_flatMap]
    exact ⟨a ++ b, ih hab, mem_insertEverywhere x a b⟩

/-- hence every output of a pinned `…In` function for some order is in the enumerated set -/
theorem model_set_complete {α β : Type} (f : List α → β) {σ σ' : List α} (h : σ'.Perm σ) :
    f σ' ∈ (perms σ).map f := mem_map_of_mem (perms_complete h)

/-- What the modelled responses read, every Go map as its entries in SOME iteration order.
    `τ` = posting templates, `ς` = symbol records (both opaque to the property). -/
structure World (τ ς : Type) where
  /-- one `Differences` map per unbalanced transaction of the document, in document order -/
  residuals : List (Entries String String)
  /-- collector result (accounts / payees / … ) of the primary file -/
  primaryNames : List String
  /-- `resolved.Files`, each journal with its collector result -/
  fileNames : Entries String (List String)
  primaryCounts : Entries String Nat
  fileCounts : Entries String (Entries String Nat)
  rootTemplates : Entries String τ
  /-- `resolved.Files`, each journal with its `CollectPayeeTemplates` map -/
  fileTemplates : Entries String (Entries String τ)
  /-- the open documents with their symbols -/
  docs : Entries String (List ς)
  /-- the paths of the open documents ("" = the URI has no file path) -/
  docPaths : List String
  /-- `FileOrder` before files are added, the files to add with their template maps -/
  keptFiles : Entries String (Entries String τ)
  missingFiles : Entries String (Entries String τ)
  /-- the path of the root journal (its key in the workspace index) -/
  rootName : String

/-- the maps whose order is proved irrelevant through their distinct keys have them -/
structure World.WF {τ ς : Type} (w : World τ ς) : Prop where
  residuals : ∀ r ∈ w.residuals, (keys r).Nodup
  fileNames : (keys w.fileNames).Nodup
  fileTemplates : (keys w.fileTemplates).Nodup
  /-- the workspace index is a map keyed by non-empty paths, the root's among them -/
  rootName : w.rootName ∉ keys w.fileTemplates ∧ w.rootName ≠ "" ∧ ∀ f ∈ w.fileTemplates, f.1 ≠ ""
  docs : (keys w.docs).Nodup
  missingFiles : (keys w.missingFiles).Nodup

/-- the same workspace state, the maps delivered in other orders -/
structure World.Reordered {τ ς : Type} (w w' : World τ ς) : Prop where
  residuals : w.residuals.length = w'.residuals.length ∧
    ∀ i (h : i < w.residuals.length) (h' : i < w'.residuals.length), (w.residuals[i]).Perm (w'.residuals[i])
  primaryNames : w.primaryNames = w'.primaryNames
  fileNames : w.fileNames.Perm w'.fileNames
  primaryCounts : w.primaryCounts.Perm w'.primaryCounts
  fileCounts : w.fileCounts.Perm w'.fileCounts
  rootTemplates : w.rootTemplates = w'.rootTemplates
  fileTemplates : w.fileTemplates.Perm w'.fileTemplates
  docs : w.docs.Perm w'.docs
  docPaths : w.docPaths.Perm w'.docPaths
  keptFiles : w.keptFiles = w'.keptFiles
  missingFiles : w.missingFiles.Perm w'.missingFiles
  rootName : w.rootName = w'.rootName

/-- The modelled responses: unbalanced-transaction messages, collector lists, completion labels
    (for given scores and `MaxResults`), counts, workspace symbols, index templates, `FileOrder`
    and templates after adding files, the document of `hledger.run`. -/
structure Responses (τ ς : Type) where
  messages : List String
  names : List String
  completion : List String
  counts : String → Nat
  symbols : List ς
  indexTemplates : String → Option τ
  fileOrder : List String
  templates : String → Option τ
  runDocument : String

/-- the repaired server -/
def respond {τ ς : Type} (w : World τ ς) (score : String → Nat) (max : Nat) : Responses τ ς where
  messages := w.residuals.map balanceMessage
  names := collectFromResolved w.primaryNames w.fileNames
  completion := completionLabels (collectFromResolved w.primaryNames w.fileNames) score
    (mergeCounts w.primaryCounts w.fileCounts) max
  counts := mergeCounts w.primaryCounts w.fileCounts
  symbols := wsSymbols w.docs
  indexTemplates := HL.MapOrder.indexTemplates ((w.rootName, w.rootTemplates) :: w.fileTemplates)
  fileOrder := addMissing (keys w.keptFiles) (keys w.missingFiles)
  templates := templatesAfterAdd w.keptFiles w.missingFiles w.rootTemplates
  runDocument := minPath w.docPaths

/-- the pinned server, except for the completion ranking, which is a relation (see
    `C15_completion_partial`) -/
def respondIn {τ ς : Type} (w : World τ ς) : Responses τ ς where
  messages := w.residuals.map balanceMessageIn
  names := collectFromResolvedIn w.primaryNames w.fileNames
  completion := []
  counts := mergeCounts w.primaryCounts w.fileCounts
  symbols := wsSymbolsIn w.docs
  indexTemplates := indexTemplatesIn w.rootTemplates w.fileTemplates
  fileOrder := addMissingIn (keys w.keptFiles) (keys w.missingFiles)
  templates := templatesAfterAddIn w.keptFiles w.missingFiles w.rootTemplates
  runDocument := firstWithPath w.docPaths

private theorem map_congr_getElem {α β : Type} (f g : α → β) {l l' : List α} (hlen : l.length = l'.length)
    (h : ∀ i (h : i < l.length) (h' : i < l'.length), f l[i] = g l'[i]) : l.map f = l'.map g := by
  apply ext_getElem (by simp [hlen])
  intro i h₁ h₂
  simp only [length_map] at h₁ h₂
  simp [h i h₁ h₂]

/-- **C15 for the repaired server**: all modelled responses are a function of the workspace
    state — the same for every order in which the runtime iterates the maps. -/
theorem C15_deterministic {τ ς : Type} {w w' : World τ ς} (wf : w.WF) (r : w.Reordered w')
    (score : String → Nat) (max : Nat) : respond w score max = respond w' score max := by
  have hnames := collectFromResolved_order_independent r.fileNames wf.fileNames w.primaryNames
  have hcounts := mergeCounts_order_independent r.primaryCounts r.fileCounts
  unfold respond
  congr 1
  · exact map_congr_getElem _ _ r.residuals.1 (fun i h h' =>
      balanceMessage_order_independent (r.residuals.2 i h h') (wf.residuals _ (getElem_mem h)))
  · rw [hnames, r.primaryNames]
  · rw [hnames, r.primaryNames, hcounts]
  · exact wsSymbols_order_independent r.docs wf.docs
  · rw [← r.rootName, ← r.rootTemplates]
    refine indexTemplates_order_independent (r.fileTemplates.cons _) ?_ ?_
    · simp only [keys, map_cons, nodup_cons]; exact ⟨wf.rootName.1, wf.fileTemplates⟩
    · intro f hf
      rcases mem_cons.mp hf with rfl | hf
      · exact wf.rootName.2.1
      · exact wf.rootName.2.2 f hf
  · rw [r.keptFiles]; exact addMissing_order_independent (keys_perm r.missingFiles) _
  · rw [templatesAfterAdd_order_independent r.missingFiles wf.missingFiles, r.keptFiles, r.rootTemplates]
  · exact minPath_order_independent r.docPaths

/-- none of the order-dependent shapes occurs -/
structure World.Guard {τ ς : Type} (w : World τ ς) : Prop where
  /-- ≤ 1 residual commodity per unbalanced transaction -/
  residuals : ∀ r ∈ w.residuals, r.length ≤ 1
  /-- ≤ 1 included file (collector lists) -/
  fileNames : w.fileNames.length ≤ 1
  /-- no two included files provide a template for the same payee -/
  fileTemplates : NoSharedPayee w.fileTemplates ∧ ∀ f ∈ w.fileTemplates, (keys f.2).Nodup
  /-- ≤ 1 open document (workspace symbols) -/
  docs : w.docs.length ≤ 1
  /-- ≤ 1 open document with a file path (`hledger.run`) -/
  docPaths : (w.docPaths.filter (· != "")).length ≤ 1
  /-- ≤ 1 file added to the include tree at a time -/
  missingFiles : w.missingFiles.length ≤ 1

/-- **C15 for the pinned server, partial**: under the guard all modelled responses are the same
    for every iteration order. -/
theorem C15_deterministic_partial {τ ς : Type} {w w' : World τ ς} (g : w.Guard) (r : w.Reordered w') :
    respondIn w = respondIn w' := by
  unfold respondIn
  congr 1
  · exact map_congr_getElem _ _ r.residuals.1 (fun i h h' =>
      single_entry_partial _ (g.residuals _ (getElem_mem h)) (r.residuals.2 i h h'))
  · rw [perm_eq_of_length_le_one r.fileNames g.fileNames, r.primaryNames]
  · exact mergeCounts_order_independent r.primaryCounts r.fileCounts
  · rw [perm_eq_of_length_le_one r.docs g.docs]
  · rw [indexTemplatesIn_partial g.fileTemplates.2 g.fileTemplates.1 r.fileTemplates, r.rootTemplates]
  · rw [perm_eq_of_length_le_one r.missingFiles g.missingFiles, r.keptFiles]
  · rw [perm_eq_of_length_le_one r.missingFiles g.missingFiles, r.keptFiles, r.rootTemplates]
  · exact firstWithPath_partial g.docPaths r.docPaths

/-- … and the completion list of the pinned server (`sort.Slice`, collectors in map order): if
    no two candidates tie in (score, count), any two runs return the same labels in the same
    order, whatever the iteration orders and whatever the sort does among equal keys. -/
theorem C15_completion_partial {σ σ' : Entries String (List String)} (primary : List String)
    (score count : String → Nat) (h : σ.Perm σ')
    (nt : NoTies (scoredOf (collectFromResolvedIn primary σ) score count))
    {o o' : List Scored}
    (ho : IsRanking (scoredOf (collectFromResolvedIn primary σ) score count) o)
    (ho' : IsRanking (scoredOf (collectFromResolvedIn primary σ') score count) o') : o = o' := by
  exact ranking_unique_partial nt (((collectFromResolvedIn_perm h primary).filter _).map _) ho ho'

/-- non-vacuity of the guard: a workspace with one included file, one residual commodity, two
    included template maps without a common payee, one open document -/
example : (⟨[[("USD", "10")]], ["Rent"], [("a.journal", ["Cafe"])], [("Rent", 1)], [("a.journal", [("Cafe", 2)])],
    [("Rent", 0)], [("a.journal", [("Cafe", 1)]), ("b.journal", [("Grocer", 2)])],
    [("file:///w/main.journal", [7])], ["/w/main.journal"], [], [("a.journal", [("Cafe", 1)])], "main.journal"⟩ : World Nat Nat).Guard where
  residuals := by decide
  fileNames := by decide
  fileTemplates := by
    refine ⟨?_, by decide⟩
    intro f hf g hg
    simp only [mem_cons, not_mem_nil, or_false] at hf hg
    rcases hf with rfl | rfl <;> rcases hg with rfl | rfl <;> simp [keys]
  docs := by decide
  docPaths := by decide
  missingFiles := by decide

end HL.Props.C15
