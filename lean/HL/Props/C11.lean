/-
  C11 — Include loading is independent of cache history.

  Model: `HL.Loader` (`stepOp`: load / loadFromContent / edit+invalidate / clear on one shared
  loader).  `m : Mode` says which repairs the tree has; the theorems hold for every tree that
  has the cache-descent repair (`m.descend`), whatever the other two flags; the behaviour of
  the pinned tree is stated by the counterexample theorems.
-/
import HL.Lemmas.Loader
import HL.Spec.Reach
namespace HL.Props.C11
open HL HL.Loader HL.Reach HL.Lemmas.Loader

/-- The histories the property speaks about: every change on disk is followed by `InvalidateFile`. -/
def allowed : Op → Bool
  | .editSilently _ _ => false
  | _ => true

/-- Worlds (files on disk + loader cache) that a history of allowed operations can produce,
    starting from any files and a new loader. -/
inductive Reachable (lim : Limits) (m : Mode) (fs0 : FS) : World → Prop where
  | init : Reachable lim m fs0 ⟨fs0, []⟩
  | step {w : World} (op : Op) : Reachable lim m fs0 w → allowed op = true →
      Reachable lim m fs0 (stepOp lim m w op).1

theorem Cons.nil (fs : FS) (lim : Limits) : Cons fs lim [] := by
  intro p f h; simp [Cache.get] at h

theorem loadFromContent_cons (fs : FS) (lim : Limits) (m : Mode) (c : Cache) (root : Path) (f : File)
    (hc : Cons fs lim c) : Cons fs lim (loadFromContent fs lim m c root f).cache := by
  unfold loadFromContent
  split
  · exact hc
  · split
    · exact hc
    · rename_i r es st e
      exact (loadF_inv fs lim m _ _ _ _ _ _ _ _ _ hc e).1

theorem load_cons (fs : FS) (lim : Limits) (m : Mode) (c : Cache) (root : Path)
    (hc : Cons fs lim c) : Cons fs lim (load fs lim m c root).cache := by
  unfold load
  split
  · exact hc
  · exact loadFromContent_cons fs lim m c root _ hc

/-- One allowed operation keeps every cache entry equal to the parse of the file on disk. -/
theorem step_cons (lim : Limits) (m : Mode) (w : World) (op : Op) (ha : allowed op = true)
    (hc : Cons w.fs lim w.cache) :
    Cons (stepOp lim m w op).1.fs lim (stepOp lim m w op).1.cache := by
  cases op with
  | load r => exact load_cons w.fs lim m w.cache r hc
  | loadContent r f => exact loadFromContent_cons w.fs lim m w.cache r f hc
  | edit p f =>
    intro q g hq
    simp only [stepOp] at hq ⊢
    rw [get_del] at hq
    by_cases e : q = p
    · simp [e] at hq
    · simp only [e, if_false] at hq
      simp only [FS.set, e, if_false]
      exact hc q g hq
  | editSilently p f => simp [allowed] at ha
  | clear => exact Cons.nil _ _

/-- Invariant, on every tree: after any history of loads, edits followed by
    invalidation, and cache clears, every cache entry is the parse of the file as it is on disk
    now (and the file is within the size limit). -/
theorem cache_consistent (lim : Limits) (m : Mode) (fs0 : FS) (w : World)
    (h : Reachable lim m fs0 w) : Cons w.fs lim w.cache := by
  induction h with
  | init => exact Cons.nil _ _
  | step op _ ha ih => exact step_cons lim m _ op ha ih

theorem loadFromContent_indep (fs : FS) (lim : Limits) (m : Mode) (hm : m.descend = true)
    (c : Cache) (root : Path) (f : File) (hc : Cons fs lim c) :
    (loadFromContent fs lim m c root f).res = (freshContent fs lim m root f).res ∧
    (loadFromContent fs lim m c root f).errs = (freshContent fs lim m root f).errs := by
  unfold freshContent loadFromContent
  split
  · exact ⟨rfl, rfl⟩
  · rcases (loadF_rel fs lim m hm (fuelFor lim) root f [] 0 ⟨[], c⟩ ⟨[], []⟩ rfl hc (Cons.nil fs lim)).inv
      with ⟨e1, e2⟩ | ⟨r, es, s1, s2, e1, e2, _⟩ <;> rw [e1, e2] <;> exact ⟨rfl, rfl⟩

theorem load_indep (fs : FS) (lim : Limits) (m : Mode) (hm : m.descend = true)
    (c : Cache) (root : Path) (hc : Cons fs lim c) :
    (load fs lim m c root).res = (fresh fs lim m root).res ∧
    (load fs lim m c root).errs = (fresh fs lim m root).errs := by
  unfold fresh load
  split
  · exact ⟨rfl, rfl⟩
  · exact loadFromContent_indep fs lim m hm c root _ hc

/-- On a tree with the cache-descent repair, after *any* history
    of allowed operations on one shared loader (any number of loads of any roots, edits followed
    by invalidation, cache clears; any files, any include graph, any limits), `Load(root)`
    returns the same journal set, order, contents and diagnostics as a brand-new loader
    reading the files as they are now. -/
theorem load_history_independent (lim : Limits) (m : Mode) (hm : m.descend = true) (fs0 : FS)
    (w : World) (h : Reachable lim m fs0 w) (root : Path) :
    (load w.fs lim m w.cache root).res = (fresh w.fs lim m root).res ∧
    (load w.fs lim m w.cache root).errs = (fresh w.fs lim m root).errs :=
  load_indep w.fs lim m hm w.cache root (cache_consistent lim m fs0 w h)

/-- The same for `LoadFromContent(root, content)` (the unsaved buffer of an open document). -/
theorem loadFromContent_history_independent (lim : Limits) (m : Mode) (hm : m.descend = true)
    (fs0 : FS) (w : World) (h : Reachable lim m fs0 w) (root : Path) (f : File) :
    (loadFromContent w.fs lim m w.cache root f).res = (freshContent w.fs lim m root f).res ∧
    (loadFromContent w.fs lim m w.cache root f).errs = (freshContent w.fs lim m root f).errs :=
  loadFromContent_indep w.fs lim m hm w.cache root f (cache_consistent lim m fs0 w h)

/-! ### The same statement over explicit histories (lists of operations) -/

/-- What each step of a history returns on the shared loader (journal and diagnostics). -/
def run (lim : Limits) (m : Mode) : World → List Op → List (Option (Option Res × List Err))
  | _, [] => []
  | w, op :: rest =>
    ((stepOp lim m w op).2.map fun r => (r.res, r.errs)) :: run lim m (stepOp lim m w op).1 rest

/-- The files on disk after an operation. -/
def fsAfter (fs : FS) : Op → FS
  | .edit p f => fs.set p f
  | .editSilently p f => fs.set p f
  | _ => fs

/-- What a brand-new loader returns at each step, reading the files as they are then. -/
def runFresh (lim : Limits) (m : Mode) : FS → List Op → List (Option (Option Res × List Err))
  | _, [] => []
  | fs, op :: rest =>
    (match op with
      | .load r => some ((fresh fs lim m r).res, (fresh fs lim m r).errs)
      | .loadContent r f => some ((freshContent fs lim m r f).res, (freshContent fs lim m r f).errs)
      | _ => none) ::
    runFresh lim m (fsAfter fs op) rest

theorem run_eq_runFresh (lim : Limits) (m : Mode) (hm : m.descend = true) (ops : List Op)
    (ha : ops.all allowed = true) (w : World) (hc : Cons w.fs lim w.cache) :
    run lim m w ops = runFresh lim m w.fs ops := by
  induction ops generalizing w with
  | nil => rfl
  | cons op rest ih =>
    simp only [List.all_cons, Bool.and_eq_true] at ha
    have hc' := step_cons lim m w op ha.1 hc
    simp only [run, runFresh]
    have hfs : (stepOp lim m w op).1.fs = fsAfter w.fs op := by cases op <;> rfl
    rw [ih ha.2 _ hc', hfs]
    congr 1
    cases op with
    | load r =>
      obtain ⟨h1, h2⟩ := load_indep w.fs lim m hm w.cache r hc
      simp only [stepOp, Option.map_some, h1, h2]
    | loadContent r f =>
      obtain ⟨h1, h2⟩ := loadFromContent_indep w.fs lim m hm w.cache r f hc
      simp only [stepOp, Option.map_some, h1, h2]
    | edit p f => rfl
    | editSilently p f => rfl
    | clear => rfl

/-- Every step of every allowed history on a new loader returns
    what a brand-new loader would return at that moment. -/
theorem history_independent_all (lim : Limits) (m : Mode) (hm : m.descend = true) (fs0 : FS)
    (ops : List Op) (ha : ops.all allowed = true) :
    run lim m ⟨fs0, []⟩ ops = runFresh lim m fs0 ops :=
  run_eq_runFresh lim m hm ops ha ⟨fs0, []⟩ (Cons.nil fs0 lim)

def mkInc (p : Nat) (l : Nat) : Inc := ⟨"", ⟨⟨l, 1, 0⟩, ⟨l, 9, 8⟩⟩, .file p⟩
def mkFile (ver : Nat) (ts : List Nat) : File :=
  ⟨10, ver, ts.zipIdx.map (fun (t, i) => mkInc t (i + 1)), []⟩

/-- chain f0 → f1 → f2 → f3 -/
def chain : FS := fun p => match p with
  | 0 => some (mkFile 0 [1]) | 1 => some (mkFile 1 [2]) | 2 => some (mkFile 2 [3])
  | 3 => some (mkFile 3 []) | _ => none

/-- f0 includes f1 twice -/
def twice : FS := fun p => match p with
  | 0 => some (mkFile 0 [1, 1]) | 1 => some (mkFile 1 []) | _ => none

def lim50 : Limits := ⟨1000, 50⟩

def orderOf (r : Result) : Option (List Path) := r.res.map (·.order)

/-- Pinned tree (DESIGN §8 row 10, reproduced against the real loader, replays/C11/): the second
    `Load` of a chain on the same loader returns only the first included file. -/
theorem chain_second_load_counterexample :
    orderOf (load chain lim50 .pinned [] 0) = some [1, 2, 3] ∧
    orderOf (load chain lim50 .pinned (load chain lim50 .pinned [] 0).cache 0) = some [1] := by
  decide +kernel

/-- Pinned tree (DESIGN §8 row 21): a directive repeated in the root gives a cycle error on a
    cold cache and a duplicated `FileOrder` on a warm cache. -/
theorem duplicate_warm_cache_counterexample :
    orderOf (load twice lim50 .pinned [] 0) = some [1] ∧
    (load twice lim50 .pinned [] 0).errs.map (·.kind) = [.cycle] ∧
    orderOf (load twice lim50 .pinned (load twice lim50 .pinned [] 0).cache 0) = some [1, 1] ∧
    (load twice lim50 .pinned (load twice lim50 .pinned [] 0).cache 0).errs = [] := by
  decide +kernel

/-- The repaired tree on the same inputs (what the theorems above promise). -/
example :
    orderOf (load chain lim50 .repaired (load chain lim50 .repaired [] 0).cache 0) = some [1, 2, 3] ∧
    orderOf (load twice lim50 .repaired (load twice lim50 .repaired [] 0).cache 0) = some [1] ∧
    (load twice lim50 .repaired (load twice lim50 .repaired [] 0).cache 0).errs = [] := by
  decide +kernel

/-- Non-vacuity of `load_history_independent`: a reachable world with a warm cache. -/
example : Reachable lim50 .repaired chain (stepOp lim50 .repaired ⟨chain, []⟩ (.load 0)).1 :=
  .step (.load 0) .init rfl
example : (stepOp lim50 .repaired ⟨chain, []⟩ (.load 0)).1.cache.length = 3 := by decide +kernel

/-- A silent edit (not followed by `InvalidateFile`) is outside the property and really breaks
    independence, also on the repaired tree: the guard `allowed` cannot be dropped. -/
theorem silent_edit_counterexample :
    let w1 := (stepOp lim50 .repaired ⟨chain, []⟩ (.load 0)).1
    let w2 := (stepOp lim50 .repaired w1 (.editSilently 1 (some (mkFile 9 [])))).1
    orderOf (load w2.fs lim50 .repaired w2.cache 0) = some [1, 2, 3] ∧
    orderOf (fresh w2.fs lim50 .repaired 0) = some [1] := by
  decide +kernel

end HL.Props.C11
