/-
  C17 — Semantic tokens cover their lexemes and deltas reconstruct the full result: the
  property's theorems, with their witnesses (`cfgB`, `staleHistory`, `hypsHold`, `allCover`) and
  the counterexamples on the pinned tokenizer.  The lexer-side theorems are in C17Lexer.lean.
-/
import HL.Lemmas.SemTok
import HL.Lemmas.SemTokGeom
import HL.Lemmas.SemTokPlace
import HL.Lemmas.SemTokLines
import HL.Lemmas.SemTokWitness
import HL.Model.SemTokPinned
namespace HL.Props.C17
open HL HL.SemTok HL.SemTokSpec HL.Lemmas.SemTok

/-- `decode ∘ encode = id`: a client decoding (in unbounded integers) the array the server
    encoded (in `uint32`) gets the server's tokens back, for every token list in document order
    (all fields are `uint32`, i.e. "fit in 32 bits", by typing). -/
theorem encode_decode (ts : List SemToken) (h : weaklyOrdered (ts.map absOf) = true) :
    decode (encodeTokens ts) = ts.map absOf :=
  decode_encode_from 0 0 ts (fun t _ =>
    (Nat.eq_zero_or_pos t.line.toNat).symm.imp id fun e => ⟨e.symm, Nat.zero_le _⟩) h

/-- Out of document order the `uint32` subtraction wraps and the client, which adds in
    unbounded integers, lands elsewhere: tokens at 0:5 and 0:3 decode to 0:5 and 0:4294967299. -/
theorem encode_decode_unordered_counterexample :
    decode (encodeTokens [⟨0, 5, 1, 0, 0⟩, ⟨0, 3, 1, 0, 0⟩])
      = [⟨0, 5, 1, 0, 0⟩, ⟨0, 4294967299, 1, 0, 0⟩] := by decide

/-- Non-vacuity: the real tokens of a two-line journal are in document order. -/
example : weaklyOrdered ((tokenize Classes.ascii W.cleanText W.cleanToks).map absOf) = true ∧
    decode (encodeTokens (tokenize Classes.ascii W.cleanText W.cleanToks))
      = (tokenize Classes.ascii W.cleanText W.cleanToks).map absOf := by decide +kernel

/-- A range request returns the full result restricted to the requested lines
    (the response of `SemanticTokensRange` is `encodeTokens (filterByRange lo hi toks)`,
    see `HL.SemTok.step`). -/
theorem range_is_restriction (ts : List SemToken) (lo hi : UInt32)
    (h : weaklyOrdered (ts.map absOf) = true) :
    decode (encodeTokens (filterByRange lo hi ts))
      = restrict lo.toNat hi.toNat (decode (encodeTokens ts)) := by
  have hf : weaklyOrdered ((filterByRange lo hi ts).map absOf) = true := by
    have : (filterByRange lo hi ts).map absOf
        = (ts.map absOf).filter (fun a => lo.toNat ≤ a.line && a.line ≤ hi.toNat) := by
      simp only [filterByRange, List.filter_map]
      congr 1
    rw [this]
    exact weaklyOrdered_filter _ _ h
  rw [encode_decode _ hf, encode_decode _ h]
  simp only [filterByRange, restrict, List.filter_map]
  congr 1

/-- Non-vacuity: line 1 of the two-line journal — 6 of its 13 tokens. -/
example : (decode (encodeTokens (filterByRange 1 1 (tokenize Classes.ascii W.cleanText W.cleanToks)))).length = 6 := by
  decide +kernel

/-- Applying the computed edits to the old array yields the new array, for all arrays the
    protocol can address (`deleteCount` is a `uint32`). -/
theorem computeEdits_correct (old new : Data) (h : old.length < 2 ^ 32) :
    applyEdits old (computeEdits old new) = new :=
  computeEdits_apply old new h

/-- What the `uint32(len(oldData))` conversion does beyond that: at 2^32 elements the delete
    count wraps to 0 and the client keeps the whole old array behind the new one. -/
theorem computeEdits_wraps (old new : Data) (h : old.length = 2 ^ 32) (hne : old ≠ new) :
    applyEdits old (computeEdits old new) = new ++ old := by
  have : (old == new) = false := by simpa using hne
  simp [computeEdits, this, applyEdits_single, applyEdit, u32, h]

example : applyEdits [1, 2, 3, 4, 5] (computeEdits [1, 2, 3, 4, 5] [9, 9, 9, 9, 9, 0, 0, 0, 0, 0])
    = [9, 9, 9, 9, 9, 0, 0, 0, 0, 0] := computeEdits_correct _ _ (by decide)

/-! ## Histories: the client's array always equals the full result

  Server state `Srv` = result-id counter, cache `uri ↦ (id, data)`, open documents.  The tokenizer
  is a parameter (`cfg.tok`), so everything below holds for every tokenizer.  The client
  (`HL.SemTokSpec.Client`) remembers every result by (document, result id) and applies a delta to
  the array it remembers for the `previousResultId` it sent. -/

variable {δ : Type}

/-- The states the theorems start from: nothing cached (any counter value: `tokenCache` is
    shared by all servers of a process), any open documents whose arrays are addressable. -/
theorem good_init (cfg : Cfg δ) (n : UInt64) (docs : List (Uri × δ)) (c : Client)
    (hd : ∀ u d, getDoc docs u = some d → fits cfg d) :
    Good cfg { next := n, cache := [], docs := docs } c :=
  ⟨fun _ _ h => by simp [Cache.get] at h, hd, fun _ _ h => by simp [Cache.get] at h⟩

/-- For every history `reqs` (any length; any number of documents;
    text changes, closes, full, range and delta requests carrying any `previousResultId` —
    current, stale, another document's, never issued) and every further full or delta request
    `rq` on a document `u`: after the response the array the client shows for `u` equals the
    full result for `u`'s current text. -/
theorem delta_reconstructs (cfg : Cfg δ) (s : Srv δ) (c : Client) (hg : Good cfg s c)
    (reqs : List (Req δ)) (rq : Req δ) (u : Uri)
    (hfit : ∀ r ∈ reqs ++ [rq], FitsReq cfg r)
    (hrq : rq = .full u ∨ ∃ p, rq = .delta u p) :
    let sc := run cfg (s, c) (reqs ++ [rq])
    sc.2.shown u = some (fullData cfg sc.1 u) := by
  have hg' := run_good cfg s c reqs hg (fun r hr => hfit r (List.mem_append_left _ hr))
  have := (step_good cfg _ _ rq hg' (hfit rq (by simp))).2 u hrq
  simpa [run_append, run] using this

/-- The invariant behind it, at every point of every history: "equal ids ⇒ equal data" —
    what the server has cached for a document under an id is what the client remembers under
    that document and id. -/
theorem equal_ids_equal_data (cfg : Cfg δ) (s : Srv δ) (c : Client) (hg : Good cfg s c)
    (reqs : List (Req δ)) (hfit : ∀ r ∈ reqs, FitsReq cfg r) (u : Uri) (e : Cached) :
    let sc := run cfg (s, c) reqs
    sc.1.cache.get u = some e → sc.2.lookup u e.id = some e.data :=
  (run_good cfg s c reqs hg hfit).inv u e

/-- The range request itself: it changes nothing on the server, carries no result id, and the
    client decodes from it the full result for the current text restricted to the lines
    `lo..hi` (any `lo`, `hi`, also `lo > hi` or past the end), whenever the document's tokens
    are in document order. -/
theorem range_response (cfg : Cfg δ) (s : Srv δ) (u : Uri) (lo hi : UInt32)
    (hord : ∀ d, liveDoc cfg s u = some d → weaklyOrdered ((cfg.tok d).map absOf) = true) :
    ∃ data, step cfg s (.range u lo hi) = (s, .tokens "" data) ∧
      decode data = restrict lo.toNat hi.toNat (decode (fullData cfg s u)) := by
  cases hl : liveDoc cfg s u with
  | none => exact ⟨[], by simp [step, hl], by simp [fullData, hl, decode, decodeGo, restrict]⟩
  | some d =>
    exact ⟨encodeTokens (filterByRange lo hi (cfg.tok d)), by simp [step, hl],
      by simpa [fullData, hl] using range_is_restriction _ lo hi (hord d hl)⟩

/-- Result ids are fresh: the ids issued during any history are pairwise different, as long as
    the 64-bit counter does not overflow (2^64 responses). -/
theorem ids_fresh (cfg : Cfg δ) (s : Srv δ) (reqs : List (Req δ))
    (h : s.next.toNat + reqs.length < 2 ^ 64) :
    (issued cfg s reqs).Pairwise (· ≠ ·) :=
  (issued_range cfg s reqs h).2

/-- The same for an editor-like client that keeps only its latest result per document, provided
    each delta request names the result the client holds (a *conforming* history). -/
theorem delta_reconstructs_latest_only (cfg : Cfg δ) (s : Srv δ) (c : Client1)
    (hg : Good1 cfg s c) (reqs : List (Req δ)) (rq : Req δ) (u : Uri)
    (hfit : ∀ r ∈ reqs ++ [rq], FitsReq cfg r)
    (hconf : conformingRun cfg (s, c) (reqs ++ [rq]))
    (hrq : rq = .full u ∨ ∃ p, rq = .delta u p) :
    let sc := run1 cfg (s, c) (reqs ++ [rq])
    (Client1.get sc.2 u).map (·.2) = some (fullData cfg sc.1 u) :=
  run1_shown cfg s c reqs rq hg hfit hconf u hrq

theorem good1_init (cfg : Cfg δ) (n : UInt64) (docs : List (Uri × δ)) (c : Client1)
    (hd : ∀ u d, getDoc docs u = some d → fits cfg d) :
    Good1 cfg { next := n, cache := [], docs := docs } c :=
  ⟨fun _ _ _ h => by simp [Cache.get] at h, fun _ _ h => by simp [Cache.get] at h, hd,
   fun _ _ h => by simp [Cache.get] at h⟩

def cfgB : Cfg Bool := { isEmpty := fun d => !d, tok := fun d => if d then [⟨0, 0, 1, 0, 0⟩] else [] }
def staleHistory : List (Req Bool) :=
  [.setDoc "u" true, .full "u", .setDoc "u" false, .full "u", .setDoc "u" true, .delta "u" "1"]

/-- Why the latest-only client must be conforming: a document is tokenized (result "1"), becomes
    empty (the answer carries no result id and the cache keeps result "1"), gets its text back,
    and the client — which now holds the empty array — asks for a delta against the stale id
    "1".  The server answers "no edits" and the client keeps showing nothing.  (The remembering
    client of `delta_reconstructs` applies the delta to the array it remembers for "1".) -/
theorem latest_only_stale_id_counterexample :
    (Client1.get (run1 cfgB ({}, []) staleHistory).2 "u").map (·.2) = some [] ∧
    fullData cfgB (run1 cfgB ({}, []) staleHistory).1 "u" = [0, 0, 1, 0, 0] := by decide +kernel

/-- ... and the remembering client on the same history does show the full result. -/
example : (run cfgB ({}, {}) staleHistory).2.shown "u" = some [0, 0, 1, 0, 0] := by decide +kernel

/-! ## The tokens themselves

  Input: the document text and the lexer's token list for it (the lexer is not part of this
  model).  `tokenize cls text toks` is `tokenizeForSemantics`; `cls` = `unicode.IsLetter` /
  `IsDigit`, any.  Positions and lengths are taken from the SOURCE EXTENT of each lexer token
  (`Pos.Offset`, `End.Offset` and the text between them), columns from the UTF-16 cursor over the
  text; the lexer's rune columns and (except for comments) token values play no role. -/

/-- Every token has a type from the advertised legend (13 types) and only
    advertised modifier bits (2 modifiers) — for every text and every lexer output whatsoever. -/
theorem legend_ok (cls : Classes) (text : Bytes) (toks : List Token) :
    ∀ s ∈ tokenize cls text toks, legendOk legendTypes.length legendMods.length (absOf s) = true := by
  intro s hs
  have := tokGo_legend cls text {} toks s hs
  simp only [legendOk, absOf, Bool.and_eq_true]
  exact ⟨decide_eq_true this.1, decide_eq_true this.2⟩

/-! The hypotheses below are the LEXER'S CONTRACT about the token list it returns for the text
    (`tokenize` takes that list as input; the driver evaluates them on every generated case, and
    they hold on every one, including arbitrary byte strings):
    `extentsB` — extents `[Pos.Offset, End.Offset)` lie inside the text and inside one line, a
                 comment's value is its extent without the `;`, consecutive mapped tokens do not
                 overlap and are on the same line iff the lexer says so (all in BYTES);
    `cutsB`    — every extent starts and ends on a rune boundary of the text;
    `lineOk`   — `Pos.Line` is one more than the number of line feeds before `Pos.Offset`.
    None of them mentions token values (except a comment's), the lexer's rune columns, codes,
    quoted commodities, white space, characters outside the BMP or non-ASCII text.  That no
    comment's value ends with the CR of a CRLF line end (`devCrComment`, finding
    crlf-comment-length) is a theorem about the lexer model (`lexer_comment_no_cr`,
    HL/Props/C17Lexer.lean) for every text of the property's domain (`crOnlyBeforeLf`: CR only
    as part of CRLF); `ordered_disjoint_inline` and `covers_lexeme` there rest on it. -/

/-- For every text and every lexer output that honours the contract, the
    semantic tokens — including the tag tokens cut out of comments — are in document order and
    do not overlap, CRLF line ends included. -/
theorem ordered_disjoint (cls : Classes) (text : Bytes) (toks : List Token)
    (hx : extentsB text toks = true) (hc : cutsB text toks = true) :
    orderedDisjoint ((tokenize cls text toks).map absOf) = true :=
  have hx' : (mappedBody toks).all (extentOk text) = true ∧ chainB text (mappedBody toks) = true := by
    simpa [extentsB] using hx
  tokenize_ordered cls text toks hx'.1 hx'.2 (measAll_of_cuts cls text toks hx'.1 hc)

/-- … and every token stays inside its line as
    the client counts it (UTF-16 units, CRLF or LF line ends not counted), for every token list
    that honours the contract, has right line numbers (`lineOk`) and in which no comment's value
    ends with a CR.  (For the lexer's own output the last hypothesis is a theorem:
    `ordered_disjoint_inline`, HL/Props/C17Lexer.lean.) -/
theorem ordered_disjoint_inline_of_contract (cls : Classes) (text : Bytes) (toks : List Token)
    (hx : extentsB text toks = true) (hc : cutsB text toks = true)
    (hl : (mappedBody toks).all (fun t => lineOk text t && !devCrComment t) = true) :
    orderedDisjoint ((tokenize cls text toks).map absOf) = true ∧
    ∀ a ∈ (tokenize cls text toks).map absOf, inLine (lineLens16 text) a = true :=
  have hx' : (mappedBody toks).all (extentOk text) = true ∧ chainB text (mappedBody toks) = true := by
    simpa [extentsB] using hx
  ⟨ordered_disjoint cls text toks hx hc,
   tokGo_inline cls text (lineLens16 text) {} toks hx'.1 (measAll_of_cuts cls text toks hx'.1 hc)
     (inlineB_of_contract cls text toks hx'.1 hc hl)⟩

/-- A token that is not cut out of a comment covers
    exactly the lexeme of the lexer token it was made from (same line, same first and last UTF-16
    unit, a type of that kind, not empty), whenever that lexer token honours the contract
    (`extentOk`, `cutOk`, `lineOk`) and is not a comment whose value ends with a CR.  (`hplain`
    is a case distinction, not a guard: the tokens cut out of a comment are the subject of
    `tag_tokens_placed`.) -/
theorem covers_lexeme_of_contract (cls : Classes) (text : Bytes) (toks : List Token)
    (s : SemToken) (t : Token) (h : (s, t) ∈ tokenizeSrc cls text toks)
    (hplain : t.ty = .comment → (extractTags cls text t).isEmpty = true)
    (hx : extentOk text t = true) (hc : cutOk text t = true) (hl : lineOk text t = true)
    (hcr : devCrComment t = false) :
    coversTok text t (absOf s) = true := by
  obtain ⟨c', hmem, _, _⟩ := tokGoSrc_mem cls text {} toks s t h
  simp only [cutOk, Bool.and_eq_true] at hc
  rcases stepTok_cases cls text c' t with ⟨e, _⟩ | ⟨hcm, hne, _⟩ | ⟨semType, mods, hty, _, hnz, _, e⟩
  · rw [e] at hmem; cases hmem
  · exact absurd ((extractTags_eq_nil cls text t).mp (List.isEmpty_iff.mp (hplain hcm))) hne
  · rw [e, List.mem_singleton] at hmem
    exact hmem ▸ (plain_covers_cuts text t semType mods hty (extentP_of text t hx)
      (cut_of_isCut hc.1) (cut_of_isCut hc.2) hl hcr hnz).2

/-- **Tags.**  A token cut out of a comment sits on the comment's line at the LSP character
    of the first byte of a span of the comment text and has the UTF-16 length of that span,
    where the span is exactly `name:` for a name accepted by `isValidTagName` (type `tag`) or a
    non-empty tag value (type `tagValue`) — for every comment token that honours the contract,
    CRLF line ends and non-ASCII text before the tag included. -/
theorem tag_tokens_placed (cls : Classes) (text : Bytes) (toks : List Token)
    (s : SemToken) (t : Token) (h : (s, t) ∈ tokenizeSrc cls text toks)
    (htag : t.ty = .comment ∧ (extractTags cls text t).isEmpty = false)
    (hx : extentOk text t = true) (hc : cutOk text t = true) (hl : lineOk text t = true) :
    ∃ sp ∈ extractSpans cls t.val, SpanContent cls t.val sp ∧
      (absOf s).ty = sp.ty.toNat ∧ (absOf s).mods = 0 ∧
      ((absOf s).line, (absOf s).start) = posOfOffset text (t.pos.off + 1 + sp.off) ∧
      (absOf s).len = u16lenB (sliceB text (t.pos.off + 1 + sp.off) (t.pos.off + 1 + sp.off + sp.len)) := by
  obtain ⟨c', hmem, _, _⟩ := tokGoSrc_mem cls text {} toks s t h
  have he := extentP_of text t hx
  simp only [cutOk, Bool.and_eq_true] at hc
  have hne := mt (extractTags_eq_nil cls text t).mpr (List.isEmpty_eq_false_iff.mp htag.2)
  rcases stepTok_cases cls text c' t with ⟨e, _⟩ | ⟨_, _, e⟩ | ⟨_, _, _, _, _, hnil, _⟩
  · rw [e] at hmem; cases hmem
  · rw [e] at hmem
    obtain ⟨sp, hsp, rfl⟩ := List.mem_map.mp hmem
    obtain ⟨body, hb, _⟩ := tag_piece cls he htag.1 (cut_of_isCut hc.1) (cut_of_isCut hc.2) hsp
    have hin := spansFrom_mem_le (extractSpans_spec cls t.val).1 sp hsp
    have hlen := he.cmtLen htag.1
    have h16 : sp.len16 < 2 ^ 32 := by
      have := u16lenB_le body
      have := hb.len16; have := hb.len; have := he.inText; have := he.small
      simp only at *; omega
    refine ⟨sp, hsp, ((extractSpans_spec cls t.val).2 sp hsp).1, ?_⟩
    rw [absOf_tagToken text t sp he h16]
    exact ⟨rfl, rfl, (posOfOffset_in_extent he hl hb.piece.lo (by simp only; omega)
      (by simp only; omega)).symm, hb.slice ▸ hb.len16⟩
  · exact absurd (hnil htag.1) hne

theorem tokenizeSrc_fst (cls : Classes) (text : Bytes) (toks : List Token) :
    (tokenizeSrc cls text toks).map (·.1) = tokenize cls text toks := tokGoSrc_fst cls text {} toks

/-- Consequently the client decodes exactly the server's tokens, for every text and every lexer
    output that honours the contract. -/
theorem encode_decode_tokenize (cls : Classes) (text : Bytes) (toks : List Token)
    (hx : extentsB text toks = true) (hc : cutsB text toks = true) :
    decode (encodeTokens (tokenize cls text toks)) = (tokenize cls text toks).map absOf :=
  encode_decode _ (orderedDisjoint_weakly _ (ordered_disjoint cls text toks hx hc))

/-- **Tag spans.**  Whatever the comment: every tag span is cut out exactly around `name:` for
    a name accepted by `isValidTagName`, every tag value span around a non-empty string, and the
    spans are in increasing order, disjoint and inside the comment. -/
theorem tag_spans_wellformed (cls : Classes) (comment : Bytes) :
    (∀ sp ∈ extractSpans cls comment, SpanContent cls comment sp) ∧
    ∃ hi, hi ≤ comment.length ∧ SpansFrom 0 (extractSpans cls comment) hi :=
  ⟨fun sp h => ((extractSpans_spec cls comment).2 sp h).1,
   comment.length, Nat.le_refl _, (extractSpans_spec cls comment).1⟩

/-! ### Non-vacuity: real lexer outputs that satisfy all hypotheses — the clean two-line journal
    (`2024-01-15 * payee ; k:v, n: w` / `    a:b  $1 @ 2 EUR`, 13 tokens, 4 of them tags) and
    the witnesses of the repaired findings (a code, a quoted commodity, a payee after a
    no-break space, a character outside the BMP before an amount, tags after non-ASCII comment
    text, a tag after a skipped part). -/

def hypsHold (text : Bytes) (toks : List Token) : Bool :=
  extentsB text toks && cutsB text toks &&
  (mappedBody toks).all (fun t => lineOk text t && !devCrComment t)

example : hypsHold W.cleanText W.cleanToks = true ∧
    (tokenize Classes.ascii W.cleanText W.cleanToks).length = 13 := by decide +kernel

example : hypsHold W.codeText W.codeToks = true ∧ hypsHold W.quotedText W.quotedToks = true ∧
    hypsHold W.trimText W.trimToks = true ∧ hypsHold W.nonbmpText W.nonbmpToks = true ∧
    hypsHold W.tagbText W.tagbToks = true ∧ hypsHold W.tagsText W.tagsToks = true := by decide +kernel

/-! ### The repaired deviations: what the PINNED tokenizer (HL/Model/SemTokPinned.lean) did on
    the real lexer's output for each witness text, and what the repaired one does -/

def allCover (text : Bytes) (toks : List Token) : Bool :=
  (tokenizeSrc Classes.ascii text toks).all (fun st =>
    inLine (lineLens16 text) (absOf st.1) &&
    (if st.2.ty == .comment && (st.1.ty == tyTag || st.1.ty == tyTagValue)
     then coversTag Classes.ascii text st.2 (absOf st.1) else coversTok text st.2 (absOf st.1))) &&
  orderedDisjoint ((tokenize Classes.ascii text toks).map absOf)

/-- `payee|note` as the pinned lexer reported it: the operator token was placed on the cell
    after the bar — it did not cover the bar and it overlapped the note. -/
theorem pinned_pipe_position_counterexample :
    (Pinned.tokenizeSrc Classes.ascii W.pipePinnedToks).any (fun st =>
      devPipe st.2 && !coversTok W.pipeText st.2 (absOf st.1)) = true ∧
    orderedDisjoint ((Pinned.tokenize Classes.ascii W.pipePinnedToks).map absOf) = false ∧
    allCover W.pipeText W.pipeToks = true := by decide +kernel

/-- `(123)`: the pinned code token covered `(12`; the repaired one covers `(123)`. -/
theorem pinned_code_length_counterexample :
    (Pinned.tokenizeSrc Classes.ascii W.codeToks).any (fun st =>
      devCode st.2 && !coversTok W.codeText st.2 (absOf st.1)) = true ∧
    allCover W.codeText W.codeToks = true := by decide +kernel

/-- `"AAPL 2"`: the pinned commodity token covered `"AAPL `; the repaired one covers the quotes. -/
theorem pinned_quoted_commodity_length_counterexample :
    (Pinned.tokenizeSrc Classes.ascii W.quotedToks).any (fun st =>
      devQuoted st.2 && !coversTok W.quotedText st.2 (absOf st.1)) = true ∧
    allCover W.quotedText W.quotedToks = true := by decide +kernel

/-- A payee after a no-break space started on that space; on a CRLF line (whose CR the pinned
    lexer reported as an empty Text token: `trim2PinnedToks` is the pinned lexer model's output,
    `pinned_witness_tokens` in HL/Props/C17Lexer.lean)
    a zero-length token sat on the CR.  Repaired: the payee token starts at its first letter, no
    empty token — on the pinned lexer's stream and on the current one. -/
theorem pinned_text_trimmed_position_counterexample :
    (Pinned.tokenizeSrc Classes.ascii W.trimToks).any (fun st =>
      devTextTrim W.trimText st.2 && !coversTok W.trimText st.2 (absOf st.1)) = true ∧
    (Pinned.tokenizeSrc Classes.ascii W.trim2PinnedToks).any (fun st =>
      devTextTrim W.trim2Text st.2 && (absOf st.1).len == 0) = true ∧
    allCover W.trimText W.trimToks = true ∧ allCover W.trim2Text W.trim2PinnedToks = true ∧
    allCover W.trim2Text W.trim2Toks = true := by decide +kernel

/-- After `😀` the lexer's column is one less than the UTF-16 column; the repaired tokenizer
    counts UTF-16 units itself. -/
theorem pinned_nonbmp_column_counterexample :
    (Pinned.tokenizeSrc Classes.ascii W.nonbmpToks).any (fun st =>
      devNonBmpBefore W.nonbmpText (lexemeRange W.nonbmpText st.2).1 &&
      !coversTok W.nonbmpText st.2 (absOf st.1)) = true ∧
    allCover W.nonbmpText W.nonbmpToks = true := by decide +kernel

/-- `; é, tag:value`: the pinned tag tokens were placed by byte offsets; both missed their text
    and the value token left the line. -/
theorem pinned_tag_byte_offsets_counterexample :
    (Pinned.tokenizeSrc Classes.ascii W.tagbToks).all (fun st =>
      devTagBytes st.2 (st.1.col.toNat + st.1.len.toNat - st.2.pos.col) &&
      !coversTag Classes.ascii W.tagbText st.2 (absOf st.1)) = true ∧
    (Pinned.tokenize Classes.ascii W.tagbToks).any (fun s => !inLine (lineLens16 W.tagbText) (absOf s)) = true ∧
    allCover W.tagbText W.tagbToks = true := by decide +kernel

/-- `; p q ya:1, a:2`: the part `p q ya:1` was skipped, the tag `a:` was then found inside `ya:`. -/
theorem pinned_tag_search_position_counterexample :
    (Pinned.tokenizeSrc Classes.ascii W.tagsToks).any (fun st =>
      devTagSkippedPart Classes.ascii st.2 &&
      !coversTag Classes.ascii W.tagsText st.2 (absOf st.1)) = true ∧
    allCover W.tagsText W.tagsToks = true := by decide +kernel

end HL.Props.C17
