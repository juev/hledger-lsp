/-
  C01, second sentence: "Every feature answer is computed from that text and from no older
  version."  The document mirror itself is HL.Props.C01.mirror_history; here: the two caches
  the server derives from a document's text and consults when answering.

  * `Server.resolved` (include tree stored by a background task, or by the handler itself when a
    request arrives before the task): the model is HL.Bg (shared with C14); `resolved_fresh`
    re-states HL.Props.C14.resolved_never_stale under C01's name: for every history and every
    scheduling of the background tasks the stored tree is absent or the tree of the CURRENT
    text; `answers_from_current_text`: every answer is the handler applied to the current text
    and the tree of that text (no guard).
  * `Server.payeeTemplatesCache`: model HL.Derived; `templates_fresh`.

  Both hold for the code as repaired by the `fix:` commits "caches derived from a document
  never outlive the text they were computed from" and (the window in which no tree was stored)
  repo_patches/fix-resolved-pending.diff; `pinned_stale_templates_counterexample` and
  HL.Props.C14.pinned_resolved_pending_counterexample record the pinned behaviour.
-/
import HL.Model.Derived
import HL.Props.C14
namespace HL.Props.C01Fresh
open HL.Derived

variable {Text Tpl : Type}

/-- Invariant: a cached template set is the one computed from the document's current text. -/
def Fresh (templates : Text → Tpl) (σ : St Text Tpl) : Prop :=
  ∀ u c, σ.cache u = some c → ∃ t, σ.docs u = some t ∧ c = templates t

theorem fresh_init (templates : Text → Tpl) : Fresh templates (St.init : St Text Tpl) := by
  intro u c h; simp [St.init] at h

theorem fresh_step (templates : Text → Tpl) (σ : St Text Tpl) (e : Ev Text)
    (h : Fresh templates σ) : Fresh templates (step templates true σ e) := by
  intro u c hc
  cases e with
  | change v t =>
    simp only [step, if_true] at hc ⊢
    by_cases huv : u = v
    · subst huv; simp [upd] at hc
    · simp only [upd, huv, if_false] at hc ⊢; exact h u c hc
  | close v =>
    simp only [step, if_true] at hc ⊢
    by_cases huv : u = v
    · subst huv; simp [upd] at hc
    · simp only [upd, huv, if_false] at hc ⊢; exact h u c hc
  | save v =>
    simp only [step] at hc ⊢
    by_cases huv : u = v
    · subst huv; simp [upd] at hc
    · simp only [upd, huv, if_false] at hc; exact h u c hc
  | inline v =>
    simp only [step] at hc ⊢
    split at hc
    · rename_i t hd hn
      by_cases huv : u = v
      · subst huv
        simp only [upd, if_true, Option.some.injEq] at hc
        exact ⟨t, by simp [hd], hc.symm⟩
      · simp only [upd, huv, if_false] at hc
        have := h u c hc
        simpa using this
    · exact h u c hc

/-- For every history of notifications and inline-completion requests the template cache is
    fresh (repaired code). -/
theorem templates_fresh (templates : Text → Tpl) (es : List (Ev Text)) :
    Fresh templates (run templates true es) := by
  unfold run
  suffices ∀ σ, Fresh templates σ → Fresh templates (es.foldl (step templates true) σ) from
    this _ (fresh_init templates)
  induction es with
  | nil => intro σ h; exact h
  | cons e es ih => intro σ h; exact ih _ (fresh_step templates σ e h)

/-- **Inline completion answers from the current text**: whatever the history, the templates a
    request works with are those computed from the document's current text. -/
theorem inline_answers_from_current_text (templates : Text → Tpl) (es : List (Ev Text)) (u : Nat) :
    served templates (run templates true es) u = ((run templates true es).docs u).map templates := by
  have hf := templates_fresh templates es
  unfold served
  cases hd : (run templates true es).docs u with
  | none => rfl
  | some t =>
    cases hc : (run templates true es).cache u with
    | none => rfl
    | some c =>
      obtain ⟨t', ht', hc'⟩ := hf u c hc
      rw [hd] at ht'; cases ht'
      simp [hc']

/-- The pinned code (cache kept across changes, dropped on save only): after an unsaved change
    inline completion still serves the templates of the old text. -/
theorem pinned_stale_templates_counterexample :
    let es : List (Ev Nat) := [.change 0 10, .inline 0, .change 0 11]
    served (fun t => t) (run (fun t => t) false es) 0 = some 10 ∧
    ((run (fun t => t) false es).docs 0) = some 11 ∧
    served (fun t => t) (run (fun t => t) true es) 0 = some 11 := by
  decide +kernel

/-- The include tree stored for a document is absent or that of the current text, for every
    history (requests and configuration changes included) and every scheduling of the
    background tasks (HL.Bg is the model shared with C14). -/
theorem resolved_fresh {Text Res : Type} (load : Text → Res) (es : List (HL.Bg.Ev Text)) (u : Nat) :
    (HL.Bg.run load true es).resolved u = none ∨
    ∃ t, (HL.Bg.run load true es).docs u = some t ∧ (HL.Bg.run load true es).resolved u = some (load t) :=
  HL.Props.C14.resolved_never_stale load es u

/-- **Every answer of a handler that reads the include tree is computed from the current text
    and from no older version** — the handler applied to the text the document has when the
    request is taken and to the include tree of THAT text; no guard (the window between a
    change and the end of its background task was closed by the `fix:` commit "a request right
    after a change sees the included files").  `es` is any trace after which the handler thread
    is free and `u` is open with text `t`; `mid` is whatever the background does while the
    request is answered, and what follows. -/
theorem answers_from_current_text {Text Res Resp : Type} (load : Text → Res)
    (h : Text → Option Res → Resp) (es mid : List (HL.Bg.Ev Text)) (u : Nat) (t : Text)
    (a : HL.Bg.Answer Text Res)
    (idle : (HL.Bg.run load true es).req = none) (hd : (HL.Bg.run load true es).docs u = some t)
    (ha : (HL.Bg.run load true (es ++ .req u :: mid)).answers[(HL.Bg.run load true es).answers.length]? = some a) :
    a.response h = h t (some (load t)) := by
  have := (HL.Props.C14.response_is_function_of_state load h es mid u t a idle hd ha).2
  simpa [HL.Bg.specRespond, hd] using this

/-- ... and no answer at all, at any point of any trace, was computed without a tree or with the
    tree of another text than the one it was computed from. -/
theorem answers_never_from_older_text {Text Res : Type} (load : Text → Res)
    (es : List (HL.Bg.Ev Text)) (a : HL.Bg.Answer Text Res) (ha : a ∈ (HL.Bg.run load true es).answers) :
    a.tree = some (load a.doc) :=
  HL.Props.C14.every_answer_uses_tree_of_its_text load es a ha

/-- Non-vacuity of `answers_from_current_text`: change, request before the task of the change
    has run, a second change arriving after the answer. -/
example :
    let load := fun t : Nat => t + 100
    let es : List (HL.Bg.Ev Nat) := [.change 0 1, .start 0 0, .finish 0 0, .change 0 2]
    let mid : List (HL.Bg.Ev Nat) := [.adv, .adv, .start 0 0, .adv, .adv, .adv, .change 0 3]
    (HL.Bg.run load true es).req = none ∧ (HL.Bg.run load true es).docs 0 = some 2 ∧
    (HL.Bg.run load true (es ++ .req 0 :: mid)).answers[(HL.Bg.run load true es).answers.length]?
      = some ⟨0, 2, some 102⟩ := by
  decide +kernel

/-- Non-vacuity: a history in which the cache is filled, invalidated by a change and refilled. -/
example : served (fun t : Nat => t + 1) (run (fun t => t + 1) true
    [.change 0 10, .inline 0, .change 0 11, .inline 0, .save 0, .close 0, .change 0 12]) 0 = some 13 := by
  decide +kernel

end HL.Props.C01Fresh
