/-
  C17 — the theorems that tie the token geometry of HL/Props/C17.lean to the LEXER MODEL
  (HL/Model/Lexer.lean): in a text of the property's domain the lexer never takes the CR of a
  line end into a comment, so `ordered_disjoint_inline` and `covers_lexeme` hold without a guard
  (finding crlf-comment-length, repaired in the lexer).  Kept in a file of its own because the
  lexer's and the tokenizer's classifier types are both called `Classes`.
-/
import HL.Props.C17
import HL.Model.LexerPinned
import HL.Lemmas.LexCrlf
namespace HL.Props.C17
open HL.SemTok HL.SemTokSpec HL.Lemmas.SemTok

/-- The domain predicate of the property and the lexer lemmas' `CrOk` are the same function. -/
theorem crOnlyBeforeLf_eq (s : HL.Bytes) : crOnlyBeforeLf s = HL.Lex.CrOk s := by
  induction s with
  | nil => rfl
  | cons a t ih =>
    cases t with
    | nil => rfl
    | cons b r => simp only [crOnlyBeforeLf, HL.Lex.CrOk, ih]; rfl

/-- **The lexer never takes the CR of a line end into a comment.**  For every text in which a
    carriage return occurs only directly in front of a line feed (the property's domain) and
    every classifier, no Comment token of the lexer model's stream has a value that ends with a
    carriage return.  (HL/Lemmas/LexCrlf.lean; on the pinned lexer this was false:
    `pinned_crlf_comment_length_counterexample`.) -/
theorem lexer_comment_no_cr (C : HL.Classes) (text : HL.Bytes) (hd : crOnlyBeforeLf text = true) :
    ∀ t ∈ HL.Lex.lexAll C text, devCrComment t = false := by
  intro t ht
  by_cases hc : t.ty = .comment
  · have := HL.Lex.lexAll_comment_no_cr C text (by rw [← crOnlyBeforeLf_eq]; exact hd) t ht hc
    simpa [devCrComment, hc, cr] using this
  · simp [devCrComment, hc]

/-- For every text of the property's domain (CR only as part of
    CRLF — LF files, CRLF files and files that mix the two), every classifier of the lexer and
    of the tokenizer: the semantic tokens made from the lexer model's stream are in document
    order, do not overlap, and every one stays inside its line as the client counts it
    (UTF-16 units, the CRLF or LF line end not counted) — whenever that stream honours the
    contract: `hx` (extents), `hc` (cuts), `hl` (line numbers).  Beyond the domain `hd` nothing is
    asked about carriage returns: that no comment takes one in is `lexer_comment_no_cr`. -/
theorem ordered_disjoint_inline (cls : HL.SemTok.Classes) (C : HL.Classes) (text : HL.Bytes) (hd : crOnlyBeforeLf text = true)
    (hx : extentsB text (HL.Lex.lexAll C text) = true) (hc : cutsB text (HL.Lex.lexAll C text) = true)
    (hl : (mappedBody (HL.Lex.lexAll C text)).all (lineOk text) = true) :
    orderedDisjoint ((tokenize cls text (HL.Lex.lexAll C text)).map absOf) = true ∧
    ∀ a ∈ (tokenize cls text (HL.Lex.lexAll C text)).map absOf, inLine (lineLens16 text) a = true := by
  refine ordered_disjoint_inline_of_contract cls text _ hx hc ?_
  rw [List.all_eq_true] at hl ⊢
  intro t ht
  simp [hl t ht, lexer_comment_no_cr C text hd t (mem_mappedBody ht).1]

/-- For every text of the property's domain: a semantic token made from a
    token of the lexer model's stream (and not cut out of a comment) covers exactly that token's
    lexeme — whenever that lexer token honours the contract (`hx`, `hc`, `hl`).  Nothing is asked
    about carriage returns: a comment on a CRLF line covers `;` and its text, not the CR. -/
theorem covers_lexeme (cls : HL.SemTok.Classes) (C : HL.Classes) (text : HL.Bytes) (hd : crOnlyBeforeLf text = true)
    (s : SemToken) (t : HL.Token) (h : (s, t) ∈ tokenizeSrc cls text (HL.Lex.lexAll C text))
    (hplain : t.ty = .comment → (extractTags cls text t).isEmpty = true)
    (hx : extentOk text t = true) (hc : cutOk text t = true) (hl : lineOk text t = true) :
    coversTok text t (absOf s) = true := by
  obtain ⟨_, _, hmem, _⟩ := tokGoSrc_mem cls text {} _ s t h
  exact covers_lexeme_of_contract cls text _ s t h hplain hx hc hl (lexer_comment_no_cr C text hd t hmem)

/-- Non-vacuity, the two CRLF witnesses: the token lists recorded from the real lexer are the lexer
    model's streams, the texts are in the domain, all hypotheses hold. -/
example : W.crlfToks = HL.Lex.lexAll HL.Classes.ascii W.crlfText ∧
    W.trim2Toks = HL.Lex.lexAll HL.Classes.ascii W.trim2Text ∧
    crOnlyBeforeLf W.crlfText = true ∧ crOnlyBeforeLf W.trim2Text = true ∧
    hypsHold W.crlfText W.crlfToks = true ∧ hypsHold W.trim2Text W.trim2Toks = true := by decide +kernel

/-- `; note` + CRLF as the PINNED lexer reported it (HL/Model/LexerPinned.lean; the recorded
    token list is that model's output): the comment's value ended with the CR (`devCrComment`),
    so the token was one unit longer than its line although the lexer's output honoured the rest
    of the contract.  Repaired in the lexer: on the current lexer's output every token covers its
    lexeme and stays inside its line. -/
theorem pinned_crlf_comment_length_counterexample :
    W.crlfPinnedToks = HL.Lex.Pinned.lexAll HL.Classes.ascii W.crlfText ∧
    (tokenizeSrc HL.SemTok.Classes.ascii W.crlfText W.crlfPinnedToks).any (fun st =>
      devCrComment st.2 && !inLine (lineLens16 W.crlfText) (absOf st.1)) = true ∧
    (extentsB W.crlfText W.crlfPinnedToks && cutsB W.crlfText W.crlfPinnedToks &&
      (mappedBody W.crlfPinnedToks).all (lineOk W.crlfText)) = true ∧
    allCover W.crlfText W.crlfToks = true := by decide +kernel

/-- The token lists recorded from the pinned lexer for the two CRLF witnesses are the outputs of
    the pinned lexer model (HL/Model/LexerPinned.lean). -/
theorem pinned_witness_tokens :
    W.crlfPinnedToks = HL.Lex.Pinned.lexAll HL.Classes.ascii W.crlfText ∧
    W.trim2PinnedToks = HL.Lex.Pinned.lexAll HL.Classes.ascii W.trim2Text := by decide +kernel

end HL.Props.C17
