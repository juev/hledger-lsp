/-
  C08 — Every reported range is well-formed, UTF-16 correct and on target.
  The model is HL/Model/Ranges.lean, the specification HL/Spec/RangeSpec.lean; the lemmas about
  the conversion and about what each feature locates are in HL/Lemmas/Ranges.lean.

  Reading guide.  The columns of the syntax tree count runes.  Every feature converts the
  position ranges it reports with `columnMapper.toProtocol` (model: `astRangeToProtocol lns`),
  which turns a rune column into the UTF-16 length of the line's prefix, using the lines of the
  text the tree was parsed from (repo_patches/fix-utf16-positions.diff); the cursor of a
  request goes the other way (`runeCur`).  Hypotheses:

    TreePositionsSound one doc j   every range of the tree that has an End is a range of the text
                                   in rune columns                 (lexer/parser obligation)
    docSmall doc                   line numbers and UTF-16 offsets of the document fit `uint32`
    hitGuard doc h                 an element whose range was computed by column arithmetic
                                   (payee range, tag halves, name ranges) has a range of the text;
                                   for a payee it holds on every header of the grammar
                                   (`payeeRange_lexSound`, `payeeHit_guard`: the payee's position
                                   is read off the header line, fix-payee-range.diff)

  Nothing is assumed about the characters that precede a range (the `pinned_…` counterexamples
  keep the behaviour of the code as pinned on record).  The `…_counterexample` theorems show
  what the guards of the `_partial` theorems exclude.
-/
import HL.Lemmas.Ranges
import HL.Lemmas.Completion
import HL.Model.CompletionPinned
import HL.Model.Parser
import HL.Model.Pipeline
import HL.Model.LexerPinned
import HL.Lemmas.ParserAmountRange
import HL.Lemmas.PayeeRange
namespace HL.Props.C08
open HL HL.Ast HL.Text HL.Ranges HL.RangeSpec HL.Lemmas.Ranges HL.Lemmas.Text

/-- On a line whose runes before the column are all below U+10000, `column − 1` (the rune
    index) is the UTF-16 offset. -/
theorem col_is_utf16_of_bmp (line : Txt) (col : Nat) (hc : col - 1 ≤ line.length)
    (hb : ∀ c ∈ line.take (col - 1), c.val.toNat < 0x10000) :
    u16len (line.take (col - 1)) = col - 1 := by
  rw [u16len_of_bmp _ hb, List.length_take, Nat.min_eq_left hc]

/-- Non-vacuity: "café ж" before column 7. -/
example : u16len ("café ж x".toList.take (7 - 1)) = 7 - 1 := by decide +kernel

/-- One rune outside the BMP before the column shifts the UTF-16 offset by one unit: columns
    count runes, LSP counts UTF-16 code units. -/
theorem col_nonbmp_counterexample :
    u16len ("😀 x".toList.take (3 - 1)) = (3 - 1) + 1 := by decide +kernel

/-- The code as pinned copied `column − 1` into the character: on the line `😀 ab` the word `ab`
    occupies rune columns 3–5 and was sent as 0:2–0:4, which covers " a".  The repaired
    conversion sends 0:3–0:5. -/
theorem pinned_utf16_columns_counterexample :
    let doc := "😀 ab\n".toList
    let r : Rng := ⟨⟨1, 3, 5⟩, ⟨1, 5, 7⟩⟩
    rngSound one doc r = true ∧ lexSound one doc r "ab".toList = true ∧
    covers doc (toN (astRangeToProtocolPinned r)) "ab".toList = false ∧
    slice doc (toN (astRangeToProtocolPinned r)) = some " a".toList ∧
    toN (astRangeToProtocol (lines doc) r) = ⟨0, 3, 0, 5⟩ ∧
    covers doc (toN (astRangeToProtocol (lines doc) r)) "ab".toList = true := by decide +kernel

/-- … and a range that ends right after the emoji was sent with its end inside the surrogate
    pair: not a well-formed range at all. -/
theorem pinned_utf16_surrogate_counterexample :
    let doc := "a😀\n".toList
    let r : Rng := ⟨⟨1, 1, 0⟩, ⟨1, 3, 5⟩⟩
    rngSound one doc r = true ∧ rangeOK doc (toN (astRangeToProtocolPinned r)) = false ∧
    rangeOK doc (toN (astRangeToProtocol (lines doc) r)) = true := by decide +kernel

/-- `columnMapper.toProtocol` maps every range of the tree that has an End to a well-formed
    range of the document: inside the document, start ≤ end, both ends on code-unit boundaries
    that do not split a surrogate pair — whatever characters precede it. -/
theorem astRange_rangeOK (doc : Txt) (j : Journal) (r : Rng)
    (ht : TreePositionsSound one doc j = true) (hd : docSmall doc = true) (hr : r ∈ nodeRanges j)
    (hg : hasEnd r = true) :
    rangeOK doc (toN (astRangeToProtocol (lines doc) r)) = true := node_rangeOK ht hd hr hg

/-- … and the converted range covers exactly the lexeme that lies between the two rune columns. -/
theorem astRange_covers (doc : Txt) (r : Rng) (lex : Txt)
    (hl : lexSound one doc r lex = true) (hd : docSmall doc = true) :
    covers doc (toN (astRangeToProtocol (lines doc) r)) lex = true := conv_covers hl hd

/-- Non-vacuity of the two theorems above: non-ASCII and non-BMP text before and inside the
    lexeme. -/
example :
    let doc := "2024-01-15 😀 кафе𝄞\n    a:b  1\n".toList
    let r : Rng := ⟨⟨1, 14, 16⟩, ⟨1, 19, 28⟩⟩
    lexSound one doc r "кафе𝄞".toList = true ∧ docSmall doc = true ∧
    toN (astRangeToProtocol (lines doc) r) = ⟨0, 14, 0, 20⟩ := by decide +kernel

/-- The name ranges of `account` / `commodity` directives are stored without End; converting
    them sends line and character 4294967295 (`uint32(0 - 1)`).  No feature converts them any
    more (workspace symbols were the last: `pinned_directive_name_no_end_counterexample`). -/
theorem no_end_conversion_counterexample :
    let doc := "account a:b\n".toList
    let r : Rng := ⟨⟨1, 9, 8⟩, Pos.zero⟩
    toN (astRangeToProtocol (lines doc) r) = ⟨0, 8, 4294967295, 4294967295⟩ ∧
    rangeOK doc (toN (astRangeToProtocol (lines doc) r)) = false := by decide +kernel

/-- Hover: the `Range` of the response. -/
theorem hover_rangeOK_partial (doc : Txt) (j : Journal) (c : Cur) (h : Hit) (x : LRange)
    (ht : TreePositionsSound one doc j = true) (hd : docSmall doc = true)
    (hh : hover (lines doc) j c = some (h, x)) (hg : hitGuard doc h = true) :
    rangeOK doc (toN x) = true := by
  obtain ⟨hf, rfl⟩ := hover_eq_some hh
  exact hit_rangeOK ht hd (findElement_located hf).hitNode hg

/-- Hover ranges are on target: whenever the rune columns of the
    located element delimit `lex` on its line, the range sent covers exactly `lex`. -/
theorem hover_covers_partial (doc : Txt) (j : Journal) (c : Cur) (h : Hit) (x : LRange) (lex : Txt)
    (hh : hover (lines doc) j c = some (h, x)) (hl : lexSound one doc h.rng lex = true)
    (hd : docSmall doc = true) : covers doc (toN x) lex = true := by
  obtain ⟨_, rfl⟩ := hover_eq_some hh
  exact conv_covers hl hd

/-- PrepareRename: the symbol range. -/
theorem prepareRename_rangeOK_partial (doc : Txt) (j : Journal) (c : Cur) (h : Hit) (x : LRange)
    (ht : TreePositionsSound one doc j = true) (hd : docSmall doc = true)
    (hh : prepareRename (lines doc) j c = some (h, x)) (hg : hitGuard doc h = true) :
    rangeOK doc (toN x) = true := by
  obtain ⟨hf, rfl⟩ := prepareRename_eq_some hh
  exact hit_rangeOK ht hd (findDefinitionTarget_located hf).hitNode hg

/-- Definition: the returned location (a directive, a transaction, or the first usage) — a
    range stored in the tree, so nothing but its End is asked for. -/
theorem definition_rangeOK_partial (doc : Txt) (j : Journal) (c : Cur) (h : Hit) (x : LRange)
    (ht : TreePositionsSound one doc j = true) (hd : docSmall doc = true)
    (hh : (h, x) ∈ definition (lines doc) j c) (hg : hasEnd h.rng = true) :
    rangeOK doc (toN x) = true := by
  obtain ⟨t, hdef, rfl⟩ := mem_definition hh
  exact node_rangeOK ht hd (definitionHit_mem hdef) hg

/-- References (and the edits of Rename, which are the references with the declaration). -/
theorem references_rangeOK_partial (doc : Txt) (j : Journal) (c : Cur) (decl : Bool)
    (h : Hit) (x : LRange) (ht : TreePositionsSound one doc j = true) (hd : docSmall doc = true)
    (hh : (h, x) ∈ references (lines doc) j c decl) (hg : hitGuard doc h = true) :
    rangeOK doc (toN x) = true := by
  obtain ⟨t, _, hm, rfl⟩ := mem_references hh
  exact hit_rangeOK ht hd (referenceHits_node hm) hg

theorem rename_rangeOK_partial (doc : Txt) (j : Journal) (c : Cur)
    (h : Hit) (x : LRange) (ht : TreePositionsSound one doc j = true) (hd : docSmall doc = true)
    (hh : (h, x) ∈ rename (lines doc) j c) (hg : hitGuard doc h = true) :
    rangeOK doc (toN x) = true :=
  references_rangeOK_partial doc j c true h x ht hd hh hg

/-- References and rename edits are on target: whenever the rune columns of an occurrence
    delimit `lex`, the location sent covers exactly `lex`. -/
theorem references_covers_partial (doc : Txt) (j : Journal) (c : Cur) (decl : Bool)
    (h : Hit) (x : LRange) (lex : Txt) (hh : (h, x) ∈ references (lines doc) j c decl)
    (hl : lexSound one doc h.rng lex = true) (hd : docSmall doc = true) :
    covers doc (toN x) lex = true := by
  obtain ⟨t, _, _, rfl⟩ := mem_references hh
  exact conv_covers hl hd

/-- Rename on a declared account whose name holds a rune outside the BMP: both edits are
    well-formed and cover the name; and references from the commodity that FOLLOWS that name on
    the posting line (cursor given in UTF-16 units) covers the commodity — the shape on which
    the pinned code answered with " US" (`pinned_utf16_columns_counterexample`). -/
example :
    let doc := "account a😀:b\n2024-01-15 x\n    a😀:b  1 USD\n".toList
    let nm : Bytes := [97, 240, 159, 152, 128, 58, 98]
    let acct : Account := ⟨nm, ⟨⟨3, 5, 32⟩, ⟨3, 9, 39⟩⟩⟩
    let usd : Commodity := ⟨[85, 83, 68], .right, ⟨⟨3, 13, 43⟩, ⟨3, 16, 46⟩⟩⟩
    let p : Posting := ⟨.none, acct, some ⟨⟨1, 0⟩, [49], usd, false, ⟨⟨3, 11, 41⟩, ⟨3, 16, 46⟩⟩⟩, none, none, [], [],
      .none, ⟨⟨3, 5, 32⟩, ⟨3, 16, 46⟩⟩⟩
    let tx : Transaction := ⟨⟨2024, 1, 15, ⟨⟨2, 1, 15⟩, ⟨2, 11, 25⟩⟩⟩, none, .none, [], [120], [], [],
      [p], [], [], ⟨⟨2, 1, 15⟩, ⟨4, 1, 47⟩⟩⟩
    let j : Journal := ⟨[tx], [.account ⟨nm, ⟨⟨1, 9, 8⟩, Pos.zero⟩⟩ [] [] [] ⟨⟨1, 1, 0⟩, ⟨2, 1, 15⟩⟩], [], []⟩
    ((rename (lines doc) j ⟨2, 5⟩).map fun e => toN e.2) = [⟨0, 8, 0, 13⟩, ⟨2, 4, 2, 9⟩] ∧
    ((rename (lines doc) j ⟨2, 5⟩).map fun e => covers doc (toN e.2) "a😀:b".toList) = [true, true] ∧
    ((rename (lines doc) j ⟨2, 5⟩).map fun e => hitGuard doc e.1) = [true, true] ∧
    ((references (lines doc) j ⟨2, 14⟩ true).map fun e => (toN e.2, covers doc (toN e.2) "USD".toList)) =
      [(⟨2, 13, 2, 16⟩, true)] := by decide +kernel

/-- Workspace symbols as pinned converted the name range stored in the tree, which has no End:
    the symbol of a declared account was sent with the end 4294967295:4294967295.  The repaired
    code derives the end from the name. -/
theorem pinned_directive_name_no_end_counterexample :
    let doc := "account a:b\n".toList
    let j : Journal := ⟨[], [.account ⟨[97, 58, 98], ⟨⟨1, 9, 8⟩, Pos.zero⟩⟩ [] [] [] ⟨⟨1, 1, 0⟩, ⟨2, 1, 12⟩⟩], [], []⟩
    ((workspaceSymbolHitsPinned (lines doc) j).map fun h => toN (astRangeToProtocolPinned h.rng)) =
      [⟨0, 8, 4294967295, 4294967295⟩] ∧
    ((workspaceSymbolHitsPinned (lines doc) j).map fun h => rangeOK doc (toN (astRangeToProtocolPinned h.rng))) = [false] ∧
    ((workspaceSymbols (lines doc) j).map fun e => toN e.2) = [⟨0, 8, 0, 11⟩] ∧
    ((workspaceSymbols (lines doc) j).map fun e => covers doc (toN e.2) "a:b".toList) = [true] := by decide +kernel

/-- Document symbols: `Range` and `SelectionRange` of every outline entry. -/
theorem documentSymbol_rangeOK_partial (doc : Txt) (j : Journal)
    (ht : TreePositionsSound one doc j = true) (hd : docSmall doc = true)
    (hg : ∀ r ∈ symbolRanges j, hasEnd r = true) :
    ∀ x ∈ documentSymbols (lines doc) j, rangeOK doc (toN x) = true := by
  rw [documentSymbols_eq]
  intro x hx
  obtain ⟨r, hr, rfl⟩ := List.mem_map.mp hx
  exact node_rangeOK ht hd (symbolRanges_sub j r hr) (hg r hr)

/-- Workspace symbols: every symbol's range is computed from a name (declared account or
    commodity) or read off the header line (payee); well-formed whenever those rune columns are
    positions of the text. -/
theorem workspaceSymbol_rangeOK (doc : Txt) (j : Journal) (h : Hit) (x : LRange)
    (hd : docSmall doc = true) (hh : (h, x) ∈ workspaceSymbols (lines doc) j)
    (hg : rngSound one doc h.rng = true) :
    rangeOK doc (toN x) = true := by
  obtain ⟨_, rfl⟩ := mem_workspaceSymbols hh
  exact conv_rangeOK hg hd

/-- … and on target. -/
theorem workspaceSymbol_covers (doc : Txt) (j : Journal) (h : Hit) (x : LRange) (lex : Txt)
    (hd : docSmall doc = true) (hh : (h, x) ∈ workspaceSymbols (lines doc) j)
    (hl : lexSound one doc h.rng lex = true) : covers doc (toN x) lex = true := by
  obtain ⟨_, rfl⟩ := mem_workspaceSymbols hh
  exact conv_covers hl hd

/-- The name range of a declared account is a range of the text whenever the name is written
    where the tree says it starts (`account` + blank + name): the guard of the two theorems
    above holds for every account directive of grammar G. -/
theorem nameRange_lexSound (doc : Txt) (start : Pos) (name : Bytes) (ln pre suf lex : Txt)
    (h1 : 1 ≤ start.line) (h2 : 1 ≤ start.col)
    (hl : (docLines doc)[start.line - 1]? = some ln) (hln : ln = pre ++ lex ++ suf)
    (hpre : pre.length = start.col - 1) (hlex : lex.length = runeLenB name) :
    lexSound one doc (nameRange start name) lex = true :=
  span_lexSound doc (nameRange start name) ln pre suf lex h1 h2 hl hln hpre rfl (by simp only [nameRange, hlex])

/-- What the tree must say about the commodity `c` of a `commodity` / `P` directive whose
    lexeme `lex` (the symbol, WITH its quotes when it is written in quotes) stands on the line
    right after `pre`: it starts where the lexeme starts, and either the parser recorded the
    token's End — the position right after the lexeme — or it recorded none and the lexeme is
    the bare symbol.  This is what `Parser.directiveCommodity` produces from the lexer's token
    (`HL.Parser.directiveCommodity`, examples below). -/
def DirectiveCommodityAt (doc : Txt) (c : Commodity) (ln pre suf lex : Txt) : Prop :=
  1 ≤ c.range.start.line ∧ 1 ≤ c.range.start.col ∧
  (docLines doc)[c.range.start.line - 1]? = some ln ∧ ln = pre ++ lex ++ suf ∧
  pre.length = c.range.start.col - 1 ∧
  (if hasEnd c.range = true then
     c.range.stop.line = c.range.start.line ∧ c.range.stop.col = c.range.start.col + lex.length
   else lex.length = runeLenB c.symbol)

/-- **The range of a directive's commodity delimits its whole lexeme, quoted or not.**  No guard
    on the way the symbol is written is left (`pinned_quoted_commodity_directive_counterexample`
    keeps the behaviour before fix-quoted-commodity-directive.diff). -/
theorem directiveCommodityRange_lexSound (doc : Txt) (c : Commodity) (ln pre suf lex : Txt)
    (h : DirectiveCommodityAt doc c ln pre suf lex) :
    lexSound one doc (directiveCommodityRange c) lex = true := by
  obtain ⟨h1, h2, hl, hln, hpre, hend⟩ := h
  have e : directiveCommodityRange c =
      if hasEnd c.range = true then c.range else nameRange c.range.start c.symbol := rfl
  rw [e]
  split at hend
  · next he =>
    rw [if_pos he]
    exact span_lexSound doc c.range ln pre suf lex h1 h2 hl hln hpre hend.1 hend.2
  · next he =>
    rw [if_neg he]
    exact nameRange_lexSound doc c.range.start c.symbol ln pre suf lex h1 h2 hl hln hpre hend

/-- … hence the range sent for it (prepareRename, references, rename edits, workspace symbols) is
    a well-formed range of the document — it cannot end inside a surrogate pair — and covers
    exactly the lexeme. -/
theorem directiveCommodity_rangeOK_covers (doc : Txt) (c : Commodity) (ln pre suf lex : Txt)
    (h : DirectiveCommodityAt doc c ln pre suf lex) (hd : docSmall doc = true) :
    rangeOK doc (toN (astRangeToProtocol (lines doc) (directiveCommodityRange c))) = true ∧
    covers doc (toN (astRangeToProtocol (lines doc) (directiveCommodityRange c))) lex = true := by
  have hl := directiveCommodityRange_lexSound doc c ln pre suf lex h
  exact ⟨conv_rangeOK (rngSound_of_lexSound hl) hd, conv_covers hl hd⟩

/-- The hit of a directive's commodity whose End the parser recorded passes `hitGuard` (it is a
    range of the tree): `prepareRename_rangeOK_partial` / `references_rangeOK_partial` /
    `rename_rangeOK_partial` apply to it with `TreePositionsSound` alone. -/
theorem directiveCommodityHit_guard (doc : Txt) (nm : Bytes) (c : Commodity) (he : hasEnd c.range = true) :
    hitGuard doc (directiveCommodityHit nm c) = true := by
  have hz : (c.range.stop == Pos.zero) = false := by simpa [hasEnd, bne] using he
  simp [hitGuard, directiveCommodityHit, directiveCommodityRange, hz, bne, he]

/-- PrepareRename is on target: whenever the rune columns of the located element delimit `lex`,
    the range offered for renaming covers exactly `lex`. -/
theorem prepareRename_covers_partial (doc : Txt) (j : Journal) (c : Cur) (h : Hit) (x : LRange) (lex : Txt)
    (hh : prepareRename (lines doc) j c = some (h, x)) (hl : lexSound one doc h.rng lex = true)
    (hd : docSmall doc = true) : covers doc (toN x) lex = true := by
  obtain ⟨_, rfl⟩ := prepareRename_eq_some hh
  exact conv_covers hl hd

/-- Nothing collected is dropped: every occurrence `findReferences` collects is in the response
    with the range computed for it. -/
theorem references_complete (lns : List Txt) (j : Journal) (c : Cur) (decl : Bool) (t h : Hit)
    (ht : findDefinitionTarget lns j c = some t) (hh : h ∈ referenceHits lns j t decl) :
    ∃ e ∈ references lns j c decl, e.2 = astRangeToProtocol lns h.rng := by
  unfold references
  simp only [ht]
  obtain ⟨y, hy, hy2⟩ := sortAndDedup_sup ((referenceHits lns j t decl).map fun h => (h, astRangeToProtocol lns h.rng))
    (h, astRangeToProtocol lns h.rng) (List.mem_map.mpr ⟨h, hh, rfl⟩)
  exact ⟨y, hy, hy2⟩

/-- The `commodity` directive that declares the symbol is among the occurrences collected with
    the declaration, the `P` directive that prices it always is. -/
theorem referenceHits_directive_site (lns : List Txt) (j : Journal) (t : Hit) (decl : Bool) (d : Directive) (cm : Commodity)
    (hk : t.kind = .commodity) (hd : d ∈ j.directives) (hs : cm.symbol = t.name)
    (hsite : (∃ f n sub r, d = .commodity cm f n sub r ∧ decl = true) ∨ (∃ dt p r, d = .price dt cm p r)) :
    directiveCommodityHit t.name cm ∈ referenceHits lns j t decl := by
  unfold referenceHits
  simp only [hk, List.mem_append, List.mem_flatMap]
  refine Or.inl ⟨d, hd, ?_⟩
  rcases hsite with ⟨f, n, sub, r, rfl, rfl⟩ | ⟨dt, p, r, rfl⟩
  · simp [commodityRefDirective, hs]
  · simp [commodityRefDirective, hs]

/-- **References lists the directive site with the range of its whole lexeme**, and the rename
    edit for that site (rename = references with the declaration) replaces the whole lexeme:
    for a cursor anywhere on the symbol (a posting, a cost, the directive itself), the response
    holds a location that covers exactly the lexeme written in the directive, quotes included. -/
theorem references_directive_site_covers (doc : Txt) (j : Journal) (c : Cur) (decl : Bool) (t : Hit)
    (d : Directive) (cm : Commodity) (ln pre suf lex : Txt)
    (ht : findDefinitionTarget (lines doc) j c = some t) (hk : t.kind = .commodity)
    (hd : d ∈ j.directives) (hs : cm.symbol = t.name)
    (hsite : (∃ f n sub r, d = .commodity cm f n sub r ∧ decl = true) ∨ (∃ dt p r, d = .price dt cm p r))
    (hat : DirectiveCommodityAt doc cm ln pre suf lex) (hsm : docSmall doc = true) :
    ∃ e ∈ references (lines doc) j c decl, rangeOK doc (toN e.2) = true ∧ covers doc (toN e.2) lex = true := by
  obtain ⟨e, he, he2⟩ := references_complete (lines doc) j c decl t _ ht
    (referenceHits_directive_site (lines doc) j t decl d cm hk hd hs hsite)
  have := directiveCommodity_rangeOK_covers doc cm ln pre suf lex hat hsm
  refine ⟨e, he, ?_⟩
  rw [he2]
  exact this

theorem rename_directive_site_covers (doc : Txt) (j : Journal) (c : Cur) (t : Hit)
    (d : Directive) (cm : Commodity) (ln pre suf lex : Txt)
    (ht : findDefinitionTarget (lines doc) j c = some t) (hk : t.kind = .commodity)
    (hd : d ∈ j.directives) (hs : cm.symbol = t.name)
    (hsite : (∃ f n sub r, d = .commodity cm f n sub r) ∨ (∃ dt p r, d = .price dt cm p r))
    (hat : DirectiveCommodityAt doc cm ln pre suf lex) (hsm : docSmall doc = true) :
    ∃ e ∈ rename (lines doc) j c, rangeOK doc (toN e.2) = true ∧ covers doc (toN e.2) lex = true := by
  apply references_directive_site_covers doc j c true t d cm ln pre suf lex ht hk hd hs ?_ hat hsm
  rcases hsite with ⟨f, n, sub, r, h⟩ | h
  · exact Or.inl ⟨f, n, sub, r, h, rfl⟩
  · exact Or.inr h

/-! The quoted commodity of a directive, end to end on two witnesses.  Text in, ranges out: the
    lexer and parser models (`HL.Pipeline.parseText`, what `parser.Parse` computes) produce the
    tree, the server model the ranges.  Both documents are
    replayed against the real server from replays/C08/quoted-commodity-directive.jsonl. -/

def qText : String :=
  "commodity \"AAPL 2\"\nP 2024-01-01 \"AAPL 2\" 2 USD\n\n2024-01-15 x\n    a:b  1 \"AAPL 2\"\n    c:d\n"
def qTree : Journal := (HL.Pipeline.parseText Classes.go qText.toUTF8.toList).1

/-- `commodity "AAPL 2"` / `P … "AAPL 2" 2 USD` / posting `1 "AAPL 2"`: the parser records the End
    of both directive commodities (columns 11–19 and 14–22); prepareRename on the declaration,
    references from the posting, the rename edits from the `P` line and the workspace symbol all
    report the whole lexeme `"AAPL 2"`, the same convention at the three kinds of site. -/
example :
    let doc := qText.toList
    (qTree.directives.map fun d => match d with
      | .commodity c _ _ _ _ => (hasEnd c.range, c.range.start.col, c.range.stop.col)
      | .price _ c _ _ => (hasEnd c.range, c.range.start.col, c.range.stop.col)
      | _ => (false, 0, 0)) = [(true, 11, 19), (true, 14, 22)] ∧
    TreePositionsSound one doc qTree = true ∧
    (prepareRename (lines doc) qTree ⟨0, 12⟩).map (fun e => (toN e.2, hitGuard doc e.1)) =
      some (⟨0, 10, 0, 18⟩, true) ∧
    ((references (lines doc) qTree ⟨4, 13⟩ true).map fun e => (toN e.2, covers doc (toN e.2) "\"AAPL 2\"".toList)) =
      [(⟨0, 10, 0, 18⟩, true), (⟨1, 13, 1, 21⟩, true), (⟨4, 11, 4, 19⟩, true)] ∧
    ((rename (lines doc) qTree ⟨1, 14⟩).map fun e => (toN e.2, covers doc (toN e.2) "\"AAPL 2\"".toList)) =
      [(⟨0, 10, 0, 18⟩, true), (⟨1, 13, 1, 21⟩, true), (⟨4, 11, 4, 19⟩, true)] ∧
    ((workspaceSymbols (lines doc) qTree).map fun e => slice doc (toN e.2)) =
      [some "\"AAPL 2\"".toList, some "x".toList] := by
  decide +kernel

def eText : String :=
  "commodity \"😀\"\nP 2024-01-01 \"😀\" 2 €\n\n2024-01-15 x\n    a😀:b  1 \"😀\"\n    c:d\n"
def eTree : Journal := (HL.Pipeline.parseText Classes.go eText.toUTF8.toList).1

/-- The symbol is a character outside the BMP (two UTF-16 units, one rune column), in the posting
    it stands after another one: every range is well-formed — none ends inside the surrogate
    pair — and covers `"😀"`. -/
example :
    let doc := eText.toList
    TreePositionsSound one doc eTree = true ∧
    (prepareRename (lines doc) eTree ⟨0, 11⟩).map (fun e => (toN e.2, rangeOK doc (toN e.2))) =
      some (⟨0, 10, 0, 14⟩, true) ∧
    ((references (lines doc) eTree ⟨4, 15⟩ true).map fun e =>
        (toN e.2, rangeOK doc (toN e.2), covers doc (toN e.2) "\"😀\"".toList)) =
      [(⟨0, 10, 0, 14⟩, true, true), (⟨1, 13, 1, 17⟩, true, true), (⟨4, 13, 4, 17⟩, true, true)] := by
  decide +kernel

/-- Non-vacuity of `DirectiveCommodityAt` on the parser's own trees: the quoted declaration
    (End recorded, lexeme with quotes) and a lower-case symbol followed by blanks and a comment
    (a text token: since fix-trailing-blank-ranges.diff it ends with its value, the End is recorded
    too and the blanks before the comment are not part of the range); and on a tree without End
    (what the parser recorded for a text token before that repair: the lexeme is the bare symbol). -/
example :
    DirectiveCommodityAt qText.toList ⟨"AAPL 2".toUTF8.toList, .left, ⟨⟨1, 11, 10⟩, ⟨1, 19, 18⟩⟩⟩
      "commodity \"AAPL 2\"".toList "commodity ".toList [] "\"AAPL 2\"".toList ∧
    (HL.Pipeline.parseText Classes.go "commodity usd  ; c\n".toUTF8.toList).1.directives =
      [.commodity ⟨"usd".toUTF8.toList, .left, ⟨⟨1, 11, 10⟩, ⟨1, 14, 13⟩⟩⟩ [] [] [] ⟨⟨1, 1, 0⟩, ⟨2, 1, 19⟩⟩] ∧
    DirectiveCommodityAt "commodity usd  ; c\n".toList ⟨"usd".toUTF8.toList, .left, ⟨⟨1, 11, 10⟩, ⟨1, 14, 13⟩⟩⟩
      "commodity usd  ; c".toList "commodity ".toList "  ; c".toList "usd".toList ∧
    HL.Parser.directiveCommodityPinnedTrail ⟨.text, "usd".toUTF8.toList, ⟨1, 11, 10⟩, ⟨1, 16, 15⟩⟩ =
      ⟨"usd".toUTF8.toList, .left, ⟨⟨1, 11, 10⟩, Pos.zero⟩⟩ ∧
    DirectiveCommodityAt "commodity usd  ; c\n".toList ⟨"usd".toUTF8.toList, .left, ⟨⟨1, 11, 10⟩, Pos.zero⟩⟩
      "commodity usd  ; c".toList "commodity ".toList "  ; c".toList "usd".toList := by
  refine ⟨⟨by decide, by decide, by decide +kernel, by decide +kernel, by decide, ?_⟩, by decide +kernel,
    ⟨by decide, by decide, by decide +kernel, by decide +kernel, by decide, ?_⟩, by decide +kernel,
    ⟨by decide, by decide, by decide +kernel, by decide +kernel, by decide, ?_⟩⟩
  · rw [if_pos (by decide)]; exact ⟨by decide, by decide⟩
  · rw [if_pos (by decide)]; exact ⟨by decide, by decide⟩
  · rw [if_neg (by decide)]; decide +kernel

/-- Before repo_patches/fix-quoted-commodity-directive.diff.  The parser recorded only where the
    commodity of a `commodity` / `P` directive starts (`HL.Parser.directiveCommodityPinned`) and
    the server derived the end from the symbol's length: for `commodity "AAPL 2"` prepareRename,
    references with the declaration and the rename edit reported 0:10–0:16, which covers
    `"AAPL ` — a rename left `2"` behind; for `commodity "😀"` (one rune) it reported 0:10–0:11,
    the opening quote alone.  The repaired server computes exactly that for a tree without End
    (its fallback), and the whole lexeme for the tree the repaired parser produces. -/
theorem pinned_quoted_commodity_directive_counterexample :
    let doc := "commodity \"AAPL 2\"\n".toList
    let tok : Token := ⟨.commodity, "AAPL 2".toUTF8.toList, ⟨1, 11, 10⟩, ⟨1, 19, 18⟩⟩
    let old := HL.Parser.directiveCommodityPinned tok
    let new := HL.Parser.directiveCommodity tok
    let doc2 := "commodity \"😀\"\n".toList
    let tok2 : Token := ⟨.commodity, [240, 159, 152, 128], ⟨1, 11, 10⟩, ⟨1, 14, 16⟩⟩
    let old2 := HL.Parser.directiveCommodityPinned tok2
    let new2 := HL.Parser.directiveCommodity tok2
    toN (astRangeToProtocol (lines doc) (directiveCommodityRangePinned old)) = ⟨0, 10, 0, 16⟩ ∧
    covers doc (toN (astRangeToProtocol (lines doc) (directiveCommodityRangePinned old))) "\"AAPL 2\"".toList = false ∧
    slice doc (toN (astRangeToProtocol (lines doc) (directiveCommodityRangePinned old))) = some "\"AAPL ".toList ∧
    directiveCommodityRange old = directiveCommodityRangePinned old ∧
    covers doc (toN (astRangeToProtocol (lines doc) (directiveCommodityRange new))) "\"AAPL 2\"".toList = true ∧
    toN (astRangeToProtocol (lines doc2) (directiveCommodityRangePinned old2)) = ⟨0, 10, 0, 11⟩ ∧
    slice doc2 (toN (astRangeToProtocol (lines doc2) (directiveCommodityRangePinned old2))) = some "\"".toList ∧
    rangeOK doc2 (toN (astRangeToProtocol (lines doc2) (directiveCommodityRange new2))) = true ∧
    covers doc2 (toN (astRangeToProtocol (lines doc2) (directiveCommodityRange new2))) "\"😀\"".toList = true := by
  decide +kernel

/-- Document links, code as pinned (range of the whole directive). -/
theorem documentLink_rangeOK_partial (doc : Txt) (j : Journal) (fx : Fixes)
    (hfx : fx.link = false) (ht : TreePositionsSound one doc j = true) (hd : docSmall doc = true)
    (hg : ∀ i ∈ j.includes, hasEnd i.range = true) :
    ∀ x ∈ documentLinks fx doc j, rangeOK doc (toN x) = true := by
  intro x hx
  unfold documentLinks at hx
  split at hx
  · simp at hx
  · simp only [hfx, Bool.false_eq_true, if_false, List.mem_map] at hx
    obtain ⟨i, hi, rfl⟩ := hx
    exact node_rangeOK ht hd (inc_range_mem hi) (hg i hi)

/-- Document links with repo_patches/fix-link-range.diff: whenever the path is written on the
    directive's line after the keyword, the link range covers exactly the path — in UTF-16
    units, whatever precedes it on the line, with or without a CR at the line end. -/
theorem documentLink_covers (doc : Txt) (inc : Include) (line : Txt) (kw p : Nat)
    (h0 : inc.range.start.line ≠ 0)
    (hl : (lines doc)[inc.range.start.line - 1]? = some line)
    (hk : indexOf "include".toList line 0 = some kw)
    (hp : indexOf (decodeUtf8 inc.path) (line.drop (kw + 7)) (kw + 7) = some p)
    (hcr : '\r' ∉ decodeUtf8 inc.path) (hne : decodeUtf8 inc.path ≠ [])
    (hs1 : inc.range.start.line - 1 < 4294967296) (hs2 : u16len line < 4294967296) :
    covers doc (toN (includePathRange doc inc)) (decodeUtf8 inc.path) = true := by
  generalize hpe : decodeUtf8 inc.path = path at hp hcr hne ⊢
  obtain ⟨i1, i2, i3⟩ := indexOf_spec hp
  rw [List.length_drop] at i2
  rw [List.drop_drop, show kw + 7 + (p - (kw + 7)) = p by omega] at i3
  -- the path lies on the line as the client sees it: it does not reach the CR of a CRLF line end
  have hn : 0 < path.length := List.length_pos_iff.mpr hne
  obtain ⟨hstrip, hdrop⟩ := stripCR_piece hn (by omega : p + path.length ≤ line.length) (i3.symm ▸ hcr)
  rw [i3] at hdrop
  have hln := docLines_of_lines hl
  have htk := take_stripCR line (Nat.le_trans (Nat.le_add_right p path.length) hstrip)
  have hu : u16len (line.take p) + u16len path = u16len ((stripCR line).take (p + path.length)) := by
    rw [u16len_take_add, hdrop, htk]
  have hle := u16len_take_le line (p + path.length)
  rw [u16len_take_add, i3] at hle
  have := covers_take hln (Nat.le_add_right p path.length) hstrip
  rw [Nat.add_sub_cancel_left, hdrop, ← hu, ← htk] at this
  simp only [includePathRange, h0, if_false, hl, hk, hpe, hp, toN, ofNat_toNat hs1,
    ofNat_toNat (Nat.lt_of_le_of_lt hle hs2), ofNat_toNat (Nat.lt_of_le_of_lt (Nat.le_of_add_right_le hle) hs2)]
  exact this

/-- Non-vacuity: `include a😀.journal`, and the repaired range. -/
example :
    let doc := "include a😀.journal\n".toList
    let inc : Include := ⟨[97, 240, 159, 152, 128, 46, 106, 111, 117, 114, 110, 97, 108], ⟨⟨1, 1, 0⟩, ⟨1, 19, 21⟩⟩⟩
    toN (includePathRange doc inc) = ⟨0, 8, 0, 19⟩ ∧
    covers doc (toN (includePathRange doc inc)) "a😀.journal".toList = true := by decide +kernel

/-- Diagnostics: parse errors (a token position), analyzer diagnostics (ranges of postings,
    transactions and commodities, stored in the tree; or tag ranges, computed by parseTags, for
    which the guard asks that they be rune-column ranges of the text), include errors. -/
theorem diagnostics_rangeOK_partial (doc : Txt) (j : Journal)
    (perrs : List ParseError) (an load : List Rng)
    (ht : TreePositionsSound one doc j = true) (hd : docSmall doc = true)
    (hp : ∀ e ∈ perrs, rngSound one doc ⟨e.pos, e.pos⟩ = true)
    (ha : ∀ r ∈ an, (r ∈ nodeRanges j ∧ hasEnd r = true) ∨ rngSound one doc r = true)
    (hl : ∀ r ∈ load, r ∈ nodeRanges j ∧ hasEnd r = true) :
    ∀ x ∈ diagnostics (lines doc) perrs an load, rangeOK doc (toN x) = true := by
  intro x hx
  simp only [diagnostics, List.mem_append, List.mem_map] at hx
  rcases hx with (⟨e, he, rfl⟩ | ⟨r, hr, rfl⟩) | ⟨r, hr, rfl⟩
  · exact conv_rangeOK (hp e he) hd
  · rcases ha r hr with h | h
    · exact node_rangeOK ht hd h.1 h.2
    · exact conv_rangeOK h hd
  · -- `max(1, x)` is the identity on the 1-based lines and columns of a range of the text
    simp only [TreePositionsSound, List.all_eq_true, Bool.or_eq_true] at ht
    have hz : ¬ (r.stop == Pos.zero) = true := by
      intro h'
      simpa [hasEnd, bne, h'] using (hl r hr).2
    have hs := (ht r (hl r hr).1).resolve_left hz
    have hs' := hs
    simp only [rngSound, Bool.and_eq_true] at hs'
    obtain ⟨a1, a2, _⟩ := posSound_iff.mp hs'.1.1
    obtain ⟨b1, b2, _⟩ := posSound_iff.mp hs'.1.2
    rw [Nat.max_eq_right a1, Nat.max_eq_right a2, Nat.max_eq_right b1, Nat.max_eq_right b2]
    exact conv_rangeOK hs hd

/-- Inline completion: the edit range `line:0 – cursor` is well-formed for every cursor that is
    a position of the document (full theorem, no guard). -/
theorem inlineCompletion_rangeOK (doc : Txt) (c : Cur) (n : Nat)
    (hc : posOK doc c.line c.char = true) (h1 : c.line < 4294967296) (h2 : c.char < 4294967296) :
    ∀ x ∈ inlineEdits c n, rangeOK doc (toN x) = true := by
  intro x hx
  unfold inlineEdits at hx
  split at hx
  · cases hx
  · cases List.mem_singleton.mp hx
    have hc' := hc
    unfold posOK at hc'
    split at hc'
    · cases hc'
    · next ln hl =>
      simp only [rangeOK, toN, ofNat_toNat h1, ofNat_toNat h2, Bool.and_eq_true]
      exact ⟨⟨posOK_take hl (Nat.zero_le _), hc⟩, by simp [leqPos]⟩

/-! The trees of the counterexamples below are what the real parser produces for the quoted
    texts (the same documents are replayed against the real server from replays/C08/). -/

/-- the lexer state at byte `off` of `text`, on line `line` at column `col` -/
def stateAt (text : Bytes) (off line col : Nat) : HL.Lex.Z := ⟨(text.take off).reverse, text.drop off, line, col, false⟩

/-- Before repo_patches/fix-trailing-blank-ranges.diff.
    `    a:b ;c`: the account token ended where the scan stopped, behind the single blank
    (`HL.Lex.PinnedTrail.scanAccount`: End 2:9); the range sent for the account covered "a:b ".
    The repaired lexer ends the token with the name (End 2:8) and leaves the lexer in the same
    state; the range covers exactly "a:b" (`HL.Props.C06.account_token_is_its_name`: for every
    byte string). -/
theorem pinned_account_trailing_blank_counterexample :
    let doc := "2024-01-15 x\n    a:b ;c\n".toList
    let z := stateAt "2024-01-15 x\n    a:b ;c\n".toUTF8.toList 17 2 5
    let old := HL.Lex.PinnedTrail.scanAccount z
    let new := HL.Lex.scanAccount z
    (old.1.pos, old.1.stop) = (⟨2, 5, 17⟩, ⟨2, 9, 21⟩) ∧ (new.1.pos, new.1.stop) = (⟨2, 5, 17⟩, ⟨2, 8, 20⟩) ∧
    old.1.val = new.1.val ∧ old.2 = new.2 ∧
    covers doc (toN (astRangeToProtocol (lines doc) ⟨old.1.pos, old.1.stop⟩)) "a:b".toList = false ∧
    slice doc (toN (astRangeToProtocol (lines doc) ⟨old.1.pos, old.1.stop⟩)) = some "a:b ".toList ∧
    covers doc (toN (astRangeToProtocol (lines doc) ⟨new.1.pos, new.1.stop⟩)) "a:b".toList = true := by
  decide +kernel

/-- `1 руб  ; c`: a commodity lexed as
    text ended where `scanText` stopped, at the `;` (`HL.Lex.PinnedTrail.scanText`: End 2:17); the
    commodity range covered "руб  ".  The repaired lexer ends the token behind the last character
    of its value (End 2:15, `HL.Props.C06.text_token_is_its_value`), same lexer state. -/
theorem pinned_commodity_text_trailing_blank_counterexample :
    let doc := "2024-01-15 x\n    a:b  1 руб  ; c\n".toList
    let z := stateAt "2024-01-15 x\n    a:b  1 руб  ; c\n".toUTF8.toList 24 2 12
    let old := HL.Lex.PinnedTrail.scanText z
    let new := HL.Lex.scanText z
    (old.1.pos, old.1.stop) = (⟨2, 12, 24⟩, ⟨2, 17, 32⟩) ∧ (new.1.pos, new.1.stop) = (⟨2, 12, 24⟩, ⟨2, 15, 30⟩) ∧
    old.1.val = new.1.val ∧ old.2 = new.2 ∧
    slice doc (toN (astRangeToProtocol (lines doc) ⟨old.1.pos, old.1.stop⟩)) = some "руб  ".toList ∧
    covers doc (toN (astRangeToProtocol (lines doc) ⟨new.1.pos, new.1.stop⟩)) "руб".toList = true := by
  decide +kernel

/-- `1 USD ; c`: `Amount.Range` ended at the Pos
    of the token that follows the amount (the comment, 2:16) and covered "1 USD "; the repaired
    parser ends it where the last token of the amount ends (2:15): the tree of the repaired lexer
    and parser models, and the range hover reports for it. -/
theorem pinned_amount_trailing_blank_counterexample :
    let doc := "2024-01-15 x\n    a:b  1 USD ; c\n".toList
    let old : Rng := ⟨⟨2, 10, 22⟩, ⟨2, 16, 28⟩⟩
    let tree := (HL.Pipeline.parseText Classes.go "2024-01-15 x\n    a:b  1 USD ; c\n".toUTF8.toList).1
    rngSound one doc old = true ∧ slice doc (toN (astRangeToProtocol (lines doc) old)) = some "1 USD ".toList ∧
    (tree.transactions.map fun t => t.postings.map fun p => p.amount.map (·.range)) =
      [[some ⟨⟨2, 10, 22⟩, ⟨2, 15, 27⟩⟩]] ∧
    ((hover (lines doc) tree ⟨1, 11⟩).map fun e => (toN e.2, slice doc (toN e.2))) =
      some (⟨1, 9, 1, 14⟩, some "1 USD".toList) := by
  decide +kernel

/-- **Where `Amount.Range` ends**, for every token source and every parser state: with the
    right-hand commodity of the amount if it has one, otherwise with its number (one of the first
    four tokens `parseAmount` looks at) — never at the token that follows. -/
theorem amount_range_ends_with_last_token {σ : Type} (E : HL.Parser.Env σ) (st st' : HL.Parser.PState σ)
    (a : Amount) (h : HL.Parser.parseAmount E st = (some a, st')) :
    a.range.start = st.current.pos ∧
    ((a.commodity.side = .right ∧ a.range.stop = a.commodity.range.stop) ∨
     (∃ s1, (s1 = st ∨ s1 = HL.Parser.advance E st ∨ s1 = HL.Parser.advance E (HL.Parser.advance E st) ∨
          s1 = HL.Parser.advance E (HL.Parser.advance E (HL.Parser.advance E st))) ∧
        s1.current.ty = .number ∧ a.range.stop = s1.current.stop)) :=
  HL.Parser.amount_range_stop E st st' a h

/-- The three witnesses end to end (text in, ranges out, through the lexer, parser and server
    models): every cursor on `a:b` hovers the account with the range of "a:b", every cursor on
    the amount hovers "1 USD", references / definition from every cursor on `руб` report "руб". -/
example :
    let d1 := "2024-01-15 x\n    a:b ;c\n"
    let t1 := (HL.Pipeline.parseText Classes.go d1.toUTF8.toList).1
    let d3 := "2024-01-15 x\n    a:b  1 руб  ; c\n    c:d\n"
    let t3 := (HL.Pipeline.parseText Classes.go d3.toUTF8.toList).1
    ([4, 5, 6, 7].map fun ch => (hover (lines d1.toList) t1 ⟨1, ch⟩).map fun e => (toN e.2, covers d1.toList (toN e.2) "a:b".toList)) =
      List.replicate 4 (some (⟨1, 4, 1, 7⟩, true)) ∧
    hover (lines d1.toList) t1 ⟨1, 8⟩ = none ∧
    ([11, 12, 13, 14].map fun ch => (references (lines d3.toList) t3 ⟨1, ch⟩ true).map fun e =>
        (toN e.2, covers d3.toList (toN e.2) "руб".toList)) = List.replicate 4 [(⟨1, 11, 1, 14⟩, true)] ∧
    references (lines d3.toList) t3 ⟨1, 15⟩ true = [] ∧
    ([11, 14].map fun ch => (definition (lines d3.toList) t3 ⟨1, ch⟩).map fun e => slice d3.toList (toN e.2)) =
      List.replicate 2 [some "руб".toList] := by
  decide +kernel

/-! The payee's range (repo_patches/fix-payee-range.diff).  The tree has no position for a
    transaction's description.  `(*columnMapper).payeeRange` reads it off the header line of the text the tree was parsed from (`HL.PayeeRange`); the
    theorems below hold for every line that consists of any text up to the end of the date
    (`pre`: any date form, any column) followed by a header of the grammar of DESIGN 4.2
    (`HL.Spec.HeaderG.Header`, well-formedness `Header.wf`): optional secondary date, status
    mark and code, each after any run of blanks and tabs, then the payee, then anything
    (`| note`, `; comment`, the CR of a CRLF line end). -/

open HL.Spec.HeaderG in
/-- What text and tree must say about the transaction `tx` for `h` to be its header: the line of
    the date is `pre` followed by the printed header, `pre` ends where the tree says the date
    ends, and the payee written there has as many runes as the payee of the tree
    (`getPayeeOrDescription`). -/
def HeaderAt (doc : Txt) (tx : Transaction) (pre : Txt) (h : Header) : Prop :=
  1 ≤ tx.date.range.start.line ∧ 1 ≤ tx.date.range.stop.col ∧
  (docLines doc)[tx.date.range.start.line - 1]? = some (pre ++ h.print) ∧
  pre.length = tx.date.range.stop.col - 1 ∧
  h.payee.length = runeLenB (payeeOf tx)

open HL.Spec.HeaderG in
/-- **The range computed for the payee starts right after the header's lead and is as long as
    the payee.** -/
theorem payeeRange_eq (doc : Txt) (tx : Transaction) (pre : Txt) (h : Header)
    (hat : HeaderAt doc tx pre h) (hw : h.wf = true) :
    payeeRange (lines doc) tx (payeeOf tx) =
      ⟨⟨tx.date.range.start.line, tx.date.range.stop.col + h.lead.length, 0⟩,
       ⟨tx.date.range.start.line, tx.date.range.stop.col + h.lead.length + runeLenB (payeeOf tx), 0⟩⟩ := by
  obtain ⟨h1, h2, hl, hpre, _⟩ := hat
  obtain ⟨l, hl', hcr⟩ := docLines_lines doc _ _ hl
  have hcol : HL.PayeeRange.payeeStart (lines doc) tx.date.range.start.line tx.date.range.stop.col =
      some (tx.date.range.stop.col + h.lead.length) := by
    rcases hcr with rfl | rfl
    · exact HL.Lemmas.PayeeRange.payeeStart_header _ _ pre h h.tail _ h1 hl' hw h2 hpre
    · exact HL.Lemmas.PayeeRange.payeeStart_header _ _ pre h (h.tail ++ ['\r']) _ h1
        (by simpa only [Header.print, List.append_assoc] using hl') hw h2 hpre
  simp only [payeeRange, hcol]

open HL.Spec.HeaderG in
/-- On every header of the grammar the computed range is a range of
    the text that delimits exactly the payee's lexeme (rune columns). -/
theorem payeeRange_lexSound (doc : Txt) (tx : Transaction) (pre : Txt) (h : Header)
    (hat : HeaderAt doc tx pre h) (hw : h.wf = true) :
    lexSound one doc (payeeRange (lines doc) tx (payeeOf tx)) h.payee = true := by
  rw [payeeRange_eq doc tx pre h hat hw]
  obtain ⟨h1, h2, hl, hpre, hlen⟩ := hat
  refine span_lexSound doc _ (pre ++ h.print) (pre ++ h.lead) h.tail h.payee h1 (by simp; omega) hl
    (by simp [Header.print, List.append_assoc]) (by simp; omega) rfl (by simp [hlen])

open HL.Spec.HeaderG in
/-- … hence the range sent for the payee (hover, prepareRename,
    references, the rename edits, the workspace symbol) is a well-formed range of the document
    and COVERS exactly the payee's lexeme — with a code, a secondary date, a status mark, any
    spacing of blanks and tabs before it, `| note` or a comment after it, characters outside the
    BMP anywhere on the line, LF or CRLF line ends.  No guard on the shape of the header is left
    (`pinned_payee_estimate_counterexample` keeps the behaviour before the repair). -/
theorem payeeRange_covers (doc : Txt) (tx : Transaction) (pre : Txt) (h : Header)
    (hat : HeaderAt doc tx pre h) (hw : h.wf = true) (hd : docSmall doc = true) :
    rangeOK doc (toN (astRangeToProtocol (lines doc) (payeeRange (lines doc) tx (payeeOf tx)))) = true ∧
    covers doc (toN (astRangeToProtocol (lines doc) (payeeRange (lines doc) tx (payeeOf tx)))) h.payee = true := by
  have hl := payeeRange_lexSound doc tx pre h hat hw
  exact ⟨conv_rangeOK (rngSound_of_lexSound hl) hd, conv_covers hl hd⟩

/-- The located payee of a transaction, as every feature builds it. -/
def payeeHit (lns : List Txt) (tx : Transaction) : Hit :=
  ⟨.payee, payeeOf tx, payeeRange lns tx (payeeOf tx), true⟩

open HL.Spec.HeaderG in
/-- The payee hit of a grammar header passes `hitGuard`: the `_partial` theorems of hover,
    prepareRename, references and rename apply to it with no guard on the header's shape. -/
theorem payeeHit_guard (doc : Txt) (tx : Transaction) (pre : Txt) (h : Header)
    (hat : HeaderAt doc tx pre h) (hw : h.wf = true) :
    hitGuard doc (payeeHit (lines doc) tx) = true := by
  simp only [hitGuard, payeeHit, if_true]
  exact rngSound_of_lexSound (payeeRange_lexSound doc tx pre h hat hw)

/-- Every transaction that shows a payee has a grammar header. -/
def PayeesAt (doc : Txt) (j : Journal) : Prop :=
  ∀ tx ∈ j.transactions, payeeOf tx ≠ [] → ∃ pre h, HeaderAt doc tx pre h ∧ HL.Spec.HeaderG.Header.wf h = true

/-- **Every payee a feature locates** in a journal whose headers are grammar headers: the range
    sent for it is well-formed and covers the payee written in the header of its transaction. -/
theorem payeeHit_on_target (doc : Txt) (j : Journal) (h : Hit) (hp : PayeesAt doc j)
    (hd : docSmall doc = true) (hl : Located (lines doc) j h) (hk : h.kind = .payee) :
    ∃ tx ∈ j.transactions, ∃ pre hdr, HeaderAt doc tx pre hdr ∧ h.name = payeeOf tx ∧
      rangeOK doc (toN (astRangeToProtocol (lines doc) h.rng)) = true ∧
      covers doc (toN (astRangeToProtocol (lines doc) h.rng)) hdr.payee = true := by
  obtain ⟨tx, ht, hne, rfl⟩ := hl.isPayee hk
  obtain ⟨pre, hdr, hat, hw⟩ := hp tx ht hne
  exact ⟨tx, ht, pre, hdr, hat, rfl, payeeRange_covers doc tx pre hdr hat hw hd⟩

/-- **Hover on a payee**: the `Range` of the response is well-formed and covers the payee. -/
theorem hover_payee_covers (doc : Txt) (j : Journal) (c : Cur) (h : Hit) (x : LRange)
    (hp : PayeesAt doc j) (hd : docSmall doc = true)
    (hh : hover (lines doc) j c = some (h, x)) (hk : h.kind = .payee) :
    ∃ tx ∈ j.transactions, ∃ pre hdr, HeaderAt doc tx pre hdr ∧ h.name = payeeOf tx ∧
      rangeOK doc (toN x) = true ∧ covers doc (toN x) hdr.payee = true := by
  obtain ⟨hf, rfl⟩ := hover_eq_some hh
  exact payeeHit_on_target doc j h hp hd (findElement_located hf) hk

/-- **PrepareRename on a payee** (and the target of definition / references / rename). -/
theorem prepareRename_payee_covers (doc : Txt) (j : Journal) (c : Cur) (h : Hit) (x : LRange)
    (hp : PayeesAt doc j) (hd : docSmall doc = true)
    (hh : prepareRename (lines doc) j c = some (h, x)) (hk : h.kind = .payee) :
    ∃ tx ∈ j.transactions, ∃ pre hdr, HeaderAt doc tx pre hdr ∧ h.name = payeeOf tx ∧
      rangeOK doc (toN x) = true ∧ covers doc (toN x) hdr.payee = true := by
  obtain ⟨hf, rfl⟩ := prepareRename_eq_some hh
  exact payeeHit_on_target doc j h hp hd (findDefinitionTarget_located hf) hk

/-- **References of a payee** (`decl` is ignored: payees have no declaration): every location
    is well-formed and covers the payee written in the header of a transaction that shows the
    same payee as the one under the cursor. -/
theorem references_payee_covers (doc : Txt) (j : Journal) (c : Cur) (decl : Bool) (t h : Hit) (x : LRange)
    (hp : PayeesAt doc j) (hd : docSmall doc = true)
    (ht : findDefinitionTarget (lines doc) j c = some t) (hk : t.kind = .payee)
    (hh : (h, x) ∈ references (lines doc) j c decl) :
    ∃ tx ∈ j.transactions, ∃ pre hdr, HeaderAt doc tx pre hdr ∧ payeeOf tx = t.name ∧
      rangeOK doc (toN x) = true ∧ covers doc (toN x) hdr.payee = true := by
  obtain ⟨t', ht', hm, rfl⟩ := mem_references hh
  cases ht.symm.trans ht'
  obtain ⟨tx0, _, hne0, rfl⟩ := (findDefinitionTarget_located ht).isPayee hk
  obtain ⟨hl, hkh, hnm⟩ := referenceHits_payee hk hne0 hm
  obtain ⟨tx, htx, pre, hdr, hat, hn, h12⟩ := payeeHit_on_target doc j h hp hd hl hkh
  exact ⟨tx, htx, pre, hdr, hat, by rw [← hn, hnm], h12⟩

/-- **The rename edits of a payee** replace exactly the payee's lexeme in every header that
    shows it. -/
theorem rename_payee_covers (doc : Txt) (j : Journal) (c : Cur) (t h : Hit) (x : LRange)
    (hp : PayeesAt doc j) (hd : docSmall doc = true)
    (ht : findDefinitionTarget (lines doc) j c = some t) (hk : t.kind = .payee)
    (hh : (h, x) ∈ rename (lines doc) j c) :
    ∃ tx ∈ j.transactions, ∃ pre hdr, HeaderAt doc tx pre hdr ∧ payeeOf tx = t.name ∧
      rangeOK doc (toN x) = true ∧ covers doc (toN x) hdr.payee = true :=
  references_payee_covers doc j c true t h x hp hd ht hk hh

/-- … and none is left out: the header of every transaction that shows the payee under the
    cursor is in the response, with the range of its payee. -/
theorem references_payee_complete (doc : Txt) (j : Journal) (c : Cur) (decl : Bool) (t : Hit) (tx : Transaction)
    (ht : findDefinitionTarget (lines doc) j c = some t) (hk : t.kind = .payee)
    (htx : tx ∈ j.transactions) (hn : payeeOf tx = t.name) :
    ∃ e ∈ references (lines doc) j c decl,
      e.2 = astRangeToProtocol (lines doc) (payeeRange (lines doc) tx (payeeOf tx)) := by
  have hm : payeeHit (lines doc) tx ∈ referenceHits (lines doc) j t decl := by
    unfold referenceHits
    simp only [hk, List.mem_map, List.mem_filter, beq_iff_eq]
    exact ⟨tx, ⟨htx, hn⟩, by simp [payeeHit, hn]⟩
  exact references_complete (lines doc) j c decl t _ ht hm

/-- **The workspace symbol of a payee.** -/
theorem workspaceSymbol_payee_covers (doc : Txt) (j : Journal) (h : Hit) (x : LRange)
    (hp : PayeesAt doc j) (hd : docSmall doc = true)
    (hh : (h, x) ∈ workspaceSymbols (lines doc) j) (hk : h.kind = .payee) :
    ∃ tx ∈ j.transactions, ∃ pre hdr, HeaderAt doc tx pre hdr ∧ h.name = payeeOf tx ∧
      rangeOK doc (toN x) = true ∧ covers doc (toN x) hdr.payee = true := by
  obtain ⟨hm, rfl⟩ := mem_workspaceSymbols hh
  exact payeeHit_on_target doc j h hp hd (workspaceSymbolHits_located hm) hk

/-- Before repo_patches/fix-payee-range.diff.
    `2024-01-15 (c1) Shop`: `estimatePayeeRange` placed the payee one blank after the date, so
    the range sent for the payee "Shop" (hover, prepareRename, references, the rename edit, the
    workspace symbol) was 0:11–0:15, which covers the code `(c1)`.  The repaired server reads the
    header line: 0:16–0:20, which covers `Shop`; without a text for the line (no mapper lines)
    it still computes the estimate, its fallback. -/
theorem pinned_payee_estimate_counterexample :
    let doc := "2024-01-15 (c1) Shop\n".toList
    let tx : Transaction := ⟨⟨2024, 1, 15, ⟨⟨1, 1, 0⟩, ⟨1, 11, 10⟩⟩⟩, none, .none, [99, 49], [83, 104, 111, 112],
      [], [], [], [], [], ⟨⟨1, 1, 0⟩, ⟨2, 1, 21⟩⟩⟩
    let old := estimatePayeeRange tx (payeeOf tx)
    let new := payeeRange (lines doc) tx (payeeOf tx)
    rangeOK doc (toN (astRangeToProtocol (lines doc) old)) = true ∧
    covers doc (toN (astRangeToProtocol (lines doc) old)) "Shop".toList = false ∧
    slice doc (toN (astRangeToProtocol (lines doc) old)) = some "(c1)".toList ∧
    toN (astRangeToProtocol (lines doc) new) = ⟨0, 16, 0, 20⟩ ∧
    covers doc (toN (astRangeToProtocol (lines doc) new)) "Shop".toList = true ∧
    payeeRange [] tx (payeeOf tx) = old := by decide +kernel

/-- Non-vacuity of `HeaderAt` / `Header.wf`: a header with secondary date, status mark, code
    (with a blank inside), tabs and wide gaps, a character outside the BMP in the payee,
    `| note`, a comment, on a CRLF line — and the canonical `date payee`. -/
example :
    let doc := "2024-01-15 =2024-01-16\t!  (c 1)\t\t😀 Shop | note  ; t:v\r\n    a:b  1\r\n".toList
    let tx : Transaction := { (default : Transaction) with
      date := ⟨2024, 1, 15, ⟨⟨1, 1, 0⟩, ⟨1, 11, 10⟩⟩⟩, payee := "😀 Shop".toUTF8.toList }
    let h : HL.Spec.HeaderG.Header := {
      date2 := some (" ".toList, [], "2024-01-16".toList), status := some ("\t".toList, '!'),
      code := some ("  ".toList, "c 1".toList), gap := "\t\t".toList, payee := "😀 Shop".toList,
      note := some (" ".toList, " ".toList, "note".toList), comment := some ("  ".toList, " t:v".toList) }
    HeaderAt doc tx "2024-01-15".toList h ∧ h.wf = true ∧
    toN (astRangeToProtocol (lines doc) (payeeRange (lines doc) tx (payeeOf tx))) = ⟨0, 33, 0, 40⟩ ∧
    HeaderAt "2024-01-15 Shop\n".toList
      { (default : Transaction) with date := ⟨2024, 1, 15, ⟨⟨1, 1, 0⟩, ⟨1, 11, 10⟩⟩⟩, description := "Shop".toUTF8.toList }
      "2024-01-15".toList { gap := " ".toList, payee := "Shop".toList } := by
  refine ⟨⟨by decide, by decide, by decide +kernel, by decide, by decide +kernel⟩, by decide +kernel,
    by decide +kernel, ⟨by decide, by decide, by decide +kernel, by decide, by decide +kernel⟩⟩

/-! End to end: text in, payee ranges out (`HL.Pipeline.parseText` produces the tree, the server
    model the ranges).  A CRLF document whose first header carries a secondary date, a status
    mark, a code and `payee | note`, the second one tabs and a code with a blank; the payee
    starts with a character outside the BMP.  Replayed against the real server from
    replays/C08/payee-estimate.jsonl. -/

def pText : String :=
  "2024-01-15=2024-01-16 * (c1)   😀 Shop | note ; t:v\r\n    a:b  1\r\n2024/1/5\t(x 2)\t😀 Shop\r\n    a:b  1\r\n"
def pTree : Journal := (HL.Pipeline.parseText Classes.go pText.toUTF8.toList).1

/-- Hover on the payee of the first header, prepareRename on the second, references and the
    rename edits from the second (both headers, each with the exact range of its payee), the
    workspace symbol: every range covers `😀 Shop`. -/
example :
    let doc := pText.toList
    TreePositionsSound one doc pTree = true ∧
    (pTree.transactions.map fun tx => (tx.date.range.stop.col, payeeOf tx == "😀 Shop".toUTF8.toList)) =
      [(11, true), (9, true)] ∧
    (hover (lines doc) pTree ⟨0, 33⟩).map (fun e => (e.1.kind, toN e.2, hitGuard doc e.1)) =
      some (.payee, ⟨0, 31, 0, 38⟩, true) ∧
    (prepareRename (lines doc) pTree ⟨2, 18⟩).map (fun e => (toN e.2, hitGuard doc e.1)) =
      some (⟨2, 15, 2, 22⟩, true) ∧
    ((references (lines doc) pTree ⟨2, 18⟩ false).map fun e => (toN e.2, covers doc (toN e.2) "😀 Shop".toList)) =
      [(⟨0, 31, 0, 38⟩, true), (⟨2, 15, 2, 22⟩, true)] ∧
    ((rename (lines doc) pTree ⟨0, 31⟩).map fun e => (toN e.2, covers doc (toN e.2) "😀 Shop".toList)) =
      [(⟨0, 31, 0, 38⟩, true), (⟨2, 15, 2, 22⟩, true)] ∧
    ((workspaceSymbols (lines doc) pTree).map fun e => (toN e.2, covers doc (toN e.2) "😀 Shop".toList)) =
      [(⟨0, 31, 0, 38⟩, true)] ∧
    -- the cursor on the code, where the estimate put the payee, finds no payee any more
    (hover (lines doc) pTree ⟨0, 26⟩).map (fun e => e.1.kind) = none := by
  decide +kernel

/-- `parseTags` as pinned: the BYTE offsets of the tag inside the comment text were added to the
    rune column of the `;`. -/
def tagRangePinned (base : Pos) (tagStart tagEnd : Nat) : Rng :=
  ⟨⟨base.line, base.col + 1 + tagStart, base.off + 1 + tagStart⟩,
   ⟨base.line, base.col + 1 + tagEnd, base.off + 1 + tagEnd⟩⟩

/-- `; café, k:v`: as pinned the byte offset of `k` in the comment text (8, one more than its
    rune offset) was added to the column of the `;`: the tag's name range was sent one column to
    the right and covered ":".  The repaired parser counts the runes of the text before the tag
    (fix-tag-columns.diff): name and value are covered exactly. -/
theorem pinned_tag_byte_offsets_counterexample :
    let doc := "2024-01-15 x ; café, k:v\n".toList
    let text : Bytes := " café, k:v".toUTF8.toList
    let base : Pos := ⟨1, 14, 13⟩
    let tp : Tag := ⟨[107], [118], tagRangePinned base 8 11⟩
    slice doc (toN (astRangeToProtocol (lines doc) (tagNameRng tp))) = some ":".toList ∧
    covers doc (toN (astRangeToProtocol (lines doc) (tagNameRng tp))) "k".toList = false ∧
    HL.Parser.parseTags text base = [⟨[107], [118], ⟨⟨1, 22, 22⟩, ⟨1, 25, 25⟩⟩⟩] ∧
    ((HL.Parser.parseTags text base).map fun t =>
      (covers doc (toN (astRangeToProtocol (lines doc) (tagNameRng t))) "k".toList,
       covers doc (toN (astRangeToProtocol (lines doc) (tagValueRng t))) "v".toList)) = [(true, true)] := by
  decide +kernel

/-- Tags after text with characters outside the BMP, a value of non-ASCII letters: every name
    and value range the server derives from the repaired parser's tags covers its text. -/
example :
    let doc := "2024-01-15 x ; 😀 日本, k:  été, e:\n".toList
    let text : Bytes := " 😀 日本, k:  été, e:".toUTF8.toList
    let base : Pos := ⟨1, 14, 13⟩
    ((HL.Parser.parseTags text base).map fun t =>
      (slice doc (toN (astRangeToProtocol (lines doc) (tagNameRng t))),
       slice doc (toN (astRangeToProtocol (lines doc) (tagValueRng t))))) =
      [(some "k".toList, some "été".toList), (some "e".toList, some [])] := by
  decide +kernel

/-- `k: v`: as pinned the value range started right after the colon and covered " v"; the
    repaired code measures it back from the end of the tag. -/
theorem pinned_tag_value_leading_blank_counterexample :
    let doc := "2024-01-15 x ; k: v\n".toList
    let t : Tag := ⟨[107], [118], ⟨⟨1, 16, 15⟩, ⟨1, 20, 19⟩⟩⟩
    slice doc (toN (astRangeToProtocolPinned (tagValueRngPinned t))) = some " v".toList ∧
    covers doc (toN (astRangeToProtocol (lines doc) (tagValueRng t))) "v".toList = true := by decide +kernel

/-- The value range of a tag covers exactly the value whenever the tag's End is the position
    right after the value on the comment's line (what parseTags computes since it counts
    runes: see `pinned_tag_byte_offsets_counterexample`), however many blanks follow the colon and
    whatever precedes the tag's end — also for an empty value (empty range at the End). -/
theorem tagValue_covers (doc : Txt) (t : Tag) (ln pre val suf : Txt)
    (h1 : 1 ≤ t.range.stop.line) (h2 : 1 ≤ t.range.stop.col)
    (hl : (docLines doc)[t.range.stop.line - 1]? = some ln) (hln : ln = pre ++ val ++ suf)
    (hend : (pre ++ val).length = t.range.stop.col - 1) (hval : val.length = runeLenB t.value)
    (hd : docSmall doc = true) :
    covers doc (toN (astRangeToProtocol (lines doc) (tagValueRng t))) val = true := by
  rw [List.length_append] at hend
  exact conv_covers (span_lexSound doc (tagValueRng t) ln pre suf val h1 (by simp only [tagValueRng]; omega) hl hln
    (by simp only [tagValueRng]; omega) rfl (by simp only [tagValueRng]; omega)) hd

/-- Non-vacuity: `😀 k:   v` (three blanks after the colon; the emoji stands before the comment,
    where it does not disturb parseTags) and the empty value of `k:`. -/
example :
    let doc := "2024-01-15 😀 ; k:   v, e:\n".toList
    let t : Tag := ⟨[107], [118], ⟨⟨1, 16, 18⟩, ⟨1, 22, 24⟩⟩⟩
    let e : Tag := ⟨[101], [], ⟨⟨1, 24, 26⟩, ⟨1, 26, 28⟩⟩⟩
    covers doc (toN (astRangeToProtocol (lines doc) (tagValueRng t))) "v".toList = true ∧
    toN (astRangeToProtocol (lines doc) (tagValueRng t)) = ⟨0, 21, 0, 22⟩ ∧
    covers doc (toN (astRangeToProtocol (lines doc) (tagValueRng e))) [] = true ∧
    toN (astRangeToProtocol (lines doc) (tagValueRng e)) = ⟨0, 26, 0, 26⟩ := by decide +kernel

/-- Document link as pinned: the range of `include other.journal` starts at the keyword. -/
theorem link_covers_keyword_counterexample :
    let doc := "include other.journal\n".toList
    let j : Journal := ⟨[], [], [], [⟨"other.journal".toUTF8.toList, ⟨⟨1, 1, 0⟩, ⟨1, 22, 21⟩⟩⟩]⟩
    (documentLinks Fixes.pinned doc j).map (fun x => slice doc (toN x)) = [some "include other.journal".toList] := by
  decide +kernel

/-- Completion before upstream a42bf24 (`HL.Completion.Pinned.editRange false` transcribes that
    code): on `account a:b` with the cursor at 0:0 the edit
    range is 8–0; on `    a:b  1    USD` with the cursor at character 11 it is 14–11. -/
theorem completion_start_after_cursor_counterexample :
    HL.Completion.Pinned.editRange false .account "account a:b".toList 0 = some (8, 0) ∧
    HL.Completion.Pinned.editRange false .commodity "    a:b  1    USD".toList 11 = some (14, 11) ∧
    rangeOK "account a:b".toList ⟨0, 8, 0, 0⟩ = false := by decide +kernel

/-- Completion (current code): for EVERY document, every cursor that is a position of the
    document and every completion context, the edit range lies in the cursor's line, starts
    on a code-point boundary at or before the cursor and ends at the cursor (full theorem, no
    guard on the text).  The bound `start ≤ cursor` is `HL.Completion.editStart_le`. -/
theorem completion_edit_rangeOK (doc : Txt) (c : Cur) (ctx : Nat)
    (r : LRange) (hc : posOK doc c.line c.char = true) (h1 : c.line < 4294967296)
    (h2 : c.char < 4294967296) (h : textEditRange doc c ctx = some r) :
    rangeOK doc (toN r) = true := by
  have hc' := hc
  unfold posOK at hc'
  rw [docLines_get] at hc'
  unfold textEditRange at h
  cases hl : (lines doc)[c.line]? with
  | none => simp [hl] at h
  | some line =>
    simp only [hl, Option.map_some] at hc' h
    cases hk : charsOfUnits (stripCR line) c.char with
    | none => simp [hk] at hc'
    | some k =>
      -- the cursor stands after `k` chars of the line; the edit starts after `st ≤ k` of them
      obtain ⟨hklen, hu⟩ := charsOf_u16_spec hk
      have hkk : takeU16 line c.char = k := takeU16_stripCR hk
      have hkline : k ≤ line.length := hkk ▸ takeU16_le line c.char
      simp only [HL.Completion.editRange, Option.map_map, Option.map_eq_some_iff, hkk] at h
      obtain ⟨st, hst0, rfl⟩ := h
      have hle0 : st ≤ k := HL.Completion.editStart_le hkline hst0
      have hln := docLines_of_lines hl
      have hmono := u16len_take_mono (stripCR line) hle0
      simp only [Function.comp, rangeOK, toN, ofNat_toNat h1, ofNat_toNat h2, take_stripCR line (Nat.le_trans hle0 hklen),
        ofNat_toNat (Nat.lt_of_le_of_lt (hu ▸ hmono) h2), Bool.and_eq_true]
      exact ⟨⟨posOK_take hln (Nat.le_trans hle0 hklen), hc⟩, by simp [leqPos, ← hu, hmono]⟩

/-- Non-vacuity and the current behaviour on the two witnesses of the old defect. -/
example :
    (textEditRange "account a:b".toList ⟨0, 0⟩ 1).map toN = some ⟨0, 0, 0, 0⟩ ∧
    (textEditRange "    a:b  1    USD".toList ⟨0, 11⟩ 3).map toN = some ⟨0, 11, 0, 11⟩ ∧
    (textEditRange "    ассеts:b😀  1".toList ⟨0, 14⟩ 1).map toN = some ⟨0, 4, 0, 14⟩ := by decide +kernel

/-- Folding ranges: every region is a line interval `start < end` of the document, for every
    document (directive and comment regions, computed from the text, need no hypothesis;
    transaction regions need the transaction's two lines to exist, which
    `TreePositionsSound` provides). -/
theorem foldingRange_lines_ok (fx : Fixes) (doc : Txt) (j : Journal)
    (hn : (lines doc).length < 4294967296)
    (ht : ∀ tx ∈ j.transactions, rngSmall tx.range = true ∧ rngPos tx.range = true ∧
      tx.range.stop.line ≤ (lines doc).length) :
    ∀ f ∈ foldingRanges fx doc j, f.s.toNat < f.e.toNat ∧ f.e.toNat < (lines doc).length := by
  intro f hf
  unfold foldingRanges at hf
  split at hf
  · cases hf
  · have fromText : foldIn (0 + (lines doc).length) f → f.s.toNat < f.e.toNat ∧ f.e.toNat < (lines doc).length := by
      rintro ⟨s, e, h1, h2, h3, h4⟩
      rw [Nat.zero_add] at h4
      rw [h1, h2, ofNat_toNat (by omega), ofNat_toNat (by omega)]
      exact ⟨h3, h4⟩
    simp only [List.mem_append] at hf
    rcases hf with (hf | hf) | hf
    · obtain ⟨tx, htx, hfold⟩ := List.mem_filterMap.mp hf
      obtain ⟨hs, hp, hl⟩ := ht tx htx
      obtain ⟨_, a2, a3⟩ := txFold_spec hs hp hfold
      simp only [rngPos, Bool.and_eq_true, decide_eq_true_eq] at hp
      exact ⟨a3, a2 ▸ Nat.lt_of_le_of_lt (Nat.sub_le _ _) (by omega)⟩
    · exact fromText (directiveFoldsFrom_in fx (lines doc) 0 f hf)
    · exact fromText (commentFoldsFrom_in fx (lines doc) 0 none f hf)

/-- Outline symbols of different entries never partially overlap (they are pairwise disjoint as
    half-open ranges) whenever the entries' ranges in the tree are: the conversion is monotone on
    every line.  Nothing is asked of the text but its size — non-BMP runes move ranges but never
    reorder them. -/
theorem symbols_laminar_partial (doc : Txt) (j : Journal) (hsm : docSmall doc = true)
    (hs : ∀ r ∈ symbolRanges j, rngSmall r = true ∧ rngPos r = true)
    (hd : allPairs astDisjoint (symbolRanges j) = true) :
    laminarSymbols ((documentSymbols (lines doc) j).map toN) = true := by
  rw [documentSymbols_eq, List.map_map]
  apply allPairs_map _ _ _ hd
  intro a ha b hb h
  exact symRel_conv (docSmall_iff.mp hsm).2 (hs a ha).1 (hs b hb).1 (hs a ha).2 (hs b hb).2 h

def foldN (f : Fold) : Nat × Nat := (f.s.toNat, f.e.toNat)

/-- Transaction folds are laminar whenever, for any two transactions that have one, the fold
    regions (first line to `foldEnd`) lie apart. -/
theorem txFolds_laminar_of (fx : Fixes) (j : Journal) {rel : Transaction → Transaction → Bool}
    (hs : ∀ tx ∈ j.transactions, rngSmall tx.range = true ∧ rngPos tx.range = true)
    (hrel : ∀ a ∈ j.transactions, ∀ b ∈ j.transactions, rel a b = true →
      a.range.start.line - 1 < foldEnd fx a → b.range.start.line - 1 < foldEnd fx b →
      foldEnd fx a < b.range.start.line - 1 ∨ foldEnd fx b < a.range.start.line - 1)
    (hd : allPairs rel j.transactions = true) :
    laminarFolds ((transactionFolds fx j).map foldN) = true := by
  unfold transactionFolds
  rw [List.map_filterMap]
  apply allPairs_filterMap _ _ _ hd
  intro a ha b hb h x hx y hy
  obtain ⟨fa, hfa, rfl⟩ := Option.map_eq_some_iff.mp hx
  obtain ⟨fb, hfb, rfl⟩ := Option.map_eq_some_iff.mp hy
  obtain ⟨a1, a2, a3⟩ := txFold_spec (hs a ha).1 (hs a ha).2 hfa
  obtain ⟨b1, b2, b3⟩ := txFold_spec (hs b hb).1 (hs b hb).2 hfb
  rw [a1, a2] at a3
  rw [b1, b2] at b3
  simp only [foldN, foldRel, a1, a2, b1, b2, Bool.or_eq_true, decide_eq_true_eq]
  exact Or.inl (Or.inl (hrel a ha b hb h a3 b3))

/-- Lines strictly apart: some line that belongs to neither lies between the two ranges' line
    spans (what a blank line between two transactions gives, as pinned: the fold of the first
    ends ON the blank line). -/
def linesApart (a b : Transaction) : Bool :=
  decide (a.range.stop.line < b.range.start.line) || decide (b.range.stop.line < a.range.start.line)

/-- Transaction folds, code as pinned: laminar when the transactions' line spans (up to and
    including the line of the following token) are strictly apart. -/
theorem txFolds_laminar_partial (fx : Fixes) (hfx : fx.fold = false) (j : Journal)
    (hs : ∀ tx ∈ j.transactions, rngSmall tx.range = true ∧ rngPos tx.range = true)
    (hd : allPairs linesApart j.transactions = true) :
    laminarFolds ((transactionFolds fx j).map foldN) = true := by
  refine txFolds_laminar_of fx j hs (fun a _ b _ h => ?_) hd
  simp only [linesApart, Bool.or_eq_true, decide_eq_true_eq] at h
  simp only [foldEnd, hfx, Bool.false_and, Bool.false_eq_true, if_false]
  omega

/-- Forced guard: two adjacent transactions without a blank line — the first fold ends on the
    line on which the second starts (regions 0–3 and 3–6). -/
theorem txFolds_adjacent_counterexample :
    let p : Posting := ⟨.none, ⟨[97, 58, 98], Rng.zero⟩, none, none, none, [], [], .none, Rng.zero⟩
    let d : Date := ⟨2024, 1, 15, Rng.zero⟩
    let t1 : Transaction := ⟨d, none, .none, [], [97], [], [], [p], [], [], ⟨⟨1, 1, 0⟩, ⟨4, 1, 36⟩⟩⟩
    let t2 : Transaction := ⟨d, none, .none, [], [98], [], [], [p], [], [], ⟨⟨4, 1, 36⟩, ⟨7, 1, 72⟩⟩⟩
    let j : Journal := ⟨[t1, t2], [], [], []⟩
    allPairs astDisjoint (symbolRanges j) = true ∧
    (transactionFolds Fixes.pinned j).map foldN = [(0, 3), (3, 6)] ∧
    laminarFolds ((transactionFolds Fixes.pinned j).map foldN) = false ∧
    (transactionFolds Fixes.all j).map foldN = [(0, 2), (3, 5)] ∧
    laminarFolds ((transactionFolds Fixes.all j).map foldN) = true := by decide +kernel

/-- Entries that start on a line of their own and do not overlap as half-open ranges. -/
def entriesApart (a b : Transaction) : Bool :=
  (posLe a.range.stop b.range.start && a.range.stop.col == 1) ||
  (posLe b.range.stop a.range.start && b.range.stop.col == 1)

/-- Transaction folds with repo_patches/fix-fold-ranges.diff: laminar for every journal whose
    transactions do not overlap and are followed by a token that starts a line — adjacent
    transactions need no blank line any more. -/
theorem txFolds_laminar (fx : Fixes) (hfx : fx.fold = true) (j : Journal)
    (hs : ∀ tx ∈ j.transactions, rngSmall tx.range = true ∧ rngPos tx.range = true)
    (hd : allPairs entriesApart j.transactions = true) :
    laminarFolds ((transactionFolds fx j).map foldN) = true := by
  refine txFolds_laminar_of fx j hs (fun a _ b _ h => ?_) hd
  simp only [entriesApart, posLe, Bool.or_eq_true, Bool.and_eq_true, decide_eq_true_eq, beq_iff_eq] at h
  simp only [foldEnd, hfx, Bool.true_and, beq_iff_eq]
  rcases h with ⟨h, hc⟩ | ⟨h, hc⟩ <;> simp only [hc, eq_self, if_true] <;> omega

/-! Non-vacuity: a journal on which every hypothesis used above holds.  The tree is the real
    parser's tree of the text (two adjacent transactions, a description with an emoji and
    Cyrillic letters, an account with an emoji before the amount). -/

def exDoc : Txt := "2024-01-15 😀 кафе\n    a😀:b  1 USD\n    c:d\n2024-01-16 x\n    a😀:b  2 USD\n    c:d\n".toList

def exAcct : Bytes := [97, 240, 159, 152, 128, 58, 98]

def exPosting (line : Nat) (amt : Bool) : Posting :=
  if amt then
    ⟨.none, ⟨exAcct, ⟨⟨line, 5, 0⟩, ⟨line, 9, 0⟩⟩⟩,
     some ⟨⟨1, 0⟩, [49], ⟨[85, 83, 68], .right, ⟨⟨line, 13, 0⟩, ⟨line, 16, 0⟩⟩⟩, false, ⟨⟨line, 11, 0⟩, ⟨line, 16, 0⟩⟩⟩,
     none, none, [], [], .none, ⟨⟨line, 5, 0⟩, ⟨line, 16, 0⟩⟩⟩
  else
    ⟨.none, ⟨[99, 58, 100], ⟨⟨line, 5, 0⟩, ⟨line, 8, 0⟩⟩⟩, none, none, none, [], [], .none, ⟨⟨line, 5, 0⟩, ⟨line, 8, 0⟩⟩⟩

def exJournal : Journal :=
  ⟨[⟨⟨2024, 1, 15, ⟨⟨1, 1, 0⟩, ⟨1, 11, 0⟩⟩⟩, none, .none, [],
      [240, 159, 152, 128, 32, 208, 186, 208, 176, 209, 132, 208, 181], [], [],
      [exPosting 2 true, exPosting 3 false], [], [], ⟨⟨1, 1, 0⟩, ⟨4, 1, 0⟩⟩⟩,
    ⟨⟨2024, 1, 16, ⟨⟨4, 1, 0⟩, ⟨4, 11, 0⟩⟩⟩, none, .none, [], [120], [], [],
      [exPosting 5 true, exPosting 6 false], [], [], ⟨⟨4, 1, 0⟩, ⟨7, 1, 0⟩⟩⟩],
   [], [], []⟩

example :
    TreePositionsSound one exDoc exJournal = true ∧ docSmall exDoc = true ∧
    (symbolRanges exJournal).all (fun r => hasEnd r && rngSmall r && rngPos r) = true ∧
    allPairs astDisjoint (symbolRanges exJournal) = true ∧
    allPairs entriesApart exJournal.transactions = true ∧
    allPairs linesApart exJournal.transactions = false ∧
    -- hover on the amount, cursor (UTF-16) after the emoji of the account
    (hover (lines exDoc) exJournal ⟨1, 12⟩).map (fun x => (x.1.kind, hitGuard exDoc x.1, toN x.2)) =
      some (.amount, true, ⟨1, 11, 1, 16⟩) ∧
    (hover (lines exDoc) exJournal ⟨0, 15⟩).map (fun x => (x.1.kind, hitGuard exDoc x.1, covers exDoc (toN x.2) "😀 кафе".toList)) =
      some (.payee, true, true) ∧
    ((references (lines exDoc) exJournal ⟨1, 14⟩ true).map fun x => (hitGuard exDoc x.1, covers exDoc (toN x.2) "USD".toList)) =
      [(true, true), (true, true)] ∧
    ((references (lines exDoc) exJournal ⟨1, 5⟩ true).map fun x => (hitGuard exDoc x.1, covers exDoc (toN x.2) "a😀:b".toList)) =
      [(true, true), (true, true)] := by decide +kernel

end HL.Props.C08
