import HL.Lemmas.LexGCoreP
import HL.Lemmas.ParseGCore
import HL.Model.Pipeline
/-!
  C03 "Supported journals parse silently and faithfully" — the composed, unbounded theorem for
  the core sub-grammar `GCore` (HL/Spec/GCore.lean): full dates, lower-case descriptions,
  postings with `a:b` accounts and optional `[-]digits[.digits] [COMMODITY]` amounts, entries
  separated by one empty line, LF line ends.

  `C03_faithful_core`: for EVERY well-formed `GCore` journal `j` — any number of transactions,
  any number of postings, words, segments and digits of any length — the model of
  `parser.Parse` (lexer model composed with parser model, Unicode tables of the Go toolchain)
  applied to the printed text returns exactly the syntax tree the text was written from, every
  position and range included, and an empty error list.

  How it is put together (by induction; evaluation only for facts about single bytes — the
  tables over all 256 bytes and `classesOk_go` — and for the closed examples):
    L3  extent lemmas, one per token class     HL/Lemmas/LexExtent.lean, LexExtentTok.lean,
                                               LexExtentLook.lean (LexExtentMore.lean: the
                                               classes outside the core grammar, not used here)
        lines → transactions → journals        HL/Lemmas/LexGCore.lean, LexGCoreL.lean (every
        (`lex_header_line`, `lex_posting_lineL`, `lex_txL`, `lexAll_printL`)   layout), LexGCoreP.lean
                                               (the layout of `GCore.print`: `lexAll_print`)
    L4  number layer, dates                    HL/Lemmas/ParseGCoreNum.lean
        amount → posting → postings loop → transaction → journal loop
                                               HL/Lemmas/ParseGCoreL.lean, ParseGCore.lean
  The tie to the real code: op `c03.gcore` (HL/Driver/C03Core.lean, harness/c03core.go) prints random
  `GCore` journals with `GCore.print`, parses the text with the real Go parser and compares the
  tree with `GCore.expected`.
-/
namespace HL.Props.C03
open HL HL.GCore

/-- The Unicode tables of the Go toolchain classify the ASCII letters as the theorem needs. -/
theorem classesOk_go : ClassesOk Classes.go = true := by decide +kernel

/-- Layer L3 composed: the exact token stream (types, values, positions) of every well-formed
    printed journal, for every classifier that gets the ASCII letters right. -/
theorem C03_core_tokens (C : Classes) (hC : ClassesOk C = true) (j : GCore.Journal) (h : GCore.WF j = true) :
    HL.Lex.lexAll C (GCore.print j) = GCore.toksFrom j 1 0 :=
  lexAll_print C hC j h

/-- Layer L4 composed: the parser on that token stream, for every `cls`. -/
theorem C03_core_parse_tokens (cls : HL.Parser.Classes) (j : GCore.Journal) (h : GCore.WF j = true) :
    HL.Parser.parseTokens HL.Parser.defaultNumDeps cls (GCore.toksFrom j 1 0) = (GCore.expected j, []) :=
  parseTokens_toks cls j h

/-- `C03_faithful_core` for every classifier `C` with `ClassesOk C`. -/
theorem C03_faithful_core_classes (C : Classes) (hC : ClassesOk C = true) (j : GCore.Journal)
    (h : GCore.WF j = true) :
    HL.Pipeline.parseText C (GCore.print j) = (GCore.expected j, []) := by
  unfold HL.Pipeline.parseText
  rw [lexAll_print C hC j h]
  exact parseTokens_toks _ j h

/-- **C03 for the core grammar.**  Every well-formed `GCore` journal parses without a single
    error to exactly the tree it was written from (ranges included). -/
theorem C03_faithful_core (j : GCore.Journal) (h : GCore.WF j = true) :
    HL.Pipeline.parseText Classes.go (GCore.print j) = (GCore.expected j, []) :=
  C03_faithful_core_classes Classes.go classesOk_go j h

/-- silently … -/
theorem C03_core_no_errors (j : GCore.Journal) (h : GCore.WF j = true) :
    (HL.Pipeline.parseText Classes.go (GCore.print j)).2 = [] := by
  rw [C03_faithful_core j h]

/-- … and faithfully: as many transactions as were written, each with as many postings. -/
theorem C03_core_counts (j : GCore.Journal) (h : GCore.WF j = true) :
    (HL.Pipeline.parseText Classes.go (GCore.print j)).1.transactions.map (·.postings.length) =
      j.map (·.postings.length) := by
  rw [C03_faithful_core j h]
  have hp : ∀ (ps : List GCore.Posting) (ln o : Nat), (GCore.expectedPostings ps ln o).length = ps.length := by
    intro ps; induction ps with
    | nil => intro _ _; rfl
    | cons p ps ih => intro ln o; simp [GCore.expectedPostings, ih]
  have ht : ∀ (ts : List GCore.Tx) (ln o : Nat),
      (GCore.expectedTxs ts ln o).map (·.postings.length) = ts.map (·.postings.length) := by
    intro ts; induction ts with
    | nil => intro _ _; rfl
    | cons t ts ih => intro ln o; simp [GCore.expectedTxs, GCore.Tx.expected, hp, ih]
  exact ht j 1 0

/-- ```
    2024-01-15 grocery store
        assets:cash  -12.50 USD
        expenses:food:x

    2024-02-01 rent
        a:b  1200
        c:d  0.125 E
    ``` -/
def sample : GCore.Journal := [
  { date := ⟨[50, 48, 50, 52], [48, 49], [49, 53]⟩
    words := [[103, 114, 111, 99, 101, 114, 121], [115, 116, 111, 114, 101]]
    postings := [
      ⟨[[97, 115, 115, 101, 116, 115], [99, 97, 115, 104]], some ⟨true, [49, 50], some [53, 48], some [85, 83, 68]⟩⟩,
      ⟨[[101, 120, 112, 101, 110, 115, 101, 115], [102, 111, 111, 100], [120]], none⟩] },
  { date := ⟨[50, 48, 50, 52], [48, 50], [48, 49]⟩
    words := [[114, 101, 110, 116]]
    postings := [
      ⟨[[97], [98]], some ⟨false, [49, 50, 48, 48], none, none⟩⟩,
      ⟨[[99], [100]], some ⟨false, [48], some [49, 50, 53], some [69]⟩⟩] }]

example : GCore.WF sample = true := by decide

/-- the statement of the theorem on the sample, by evaluation of the model alone -/
example : HL.Pipeline.parseText Classes.go (GCore.print sample) = (GCore.expected sample, []) := by
  decide +kernel

example : (GCore.expected sample).transactions.length = 2 := by decide

/-- The side condition of `Amount.wf` is forced by the code (side condition A of DESIGN 4.3):
    `1.234` behind a non-zero integer part is read as the integer 1234, not as written. -/
theorem C03_core_sideA_counterexample :
    let j : GCore.Journal := [⟨⟨[50, 48, 50, 52], [48, 49], [49, 53]⟩, [[120]],
      [⟨[[97], [98]], some ⟨false, [49], some [50, 51, 52], none⟩⟩]⟩]
    HL.Pipeline.parseText Classes.go (GCore.print j) ≠ (GCore.expected j, []) := by
  decide +kernel

end HL.Props.C03

#print axioms HL.Props.C03.C03_faithful_core
#print axioms HL.Props.C03.C03_faithful_core_classes
