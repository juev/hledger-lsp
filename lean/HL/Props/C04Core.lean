import HL.Lemmas.FormatGCore
import HL.Lemmas.ParseGCoreL
import HL.Props.C03Faithful
import HL.Spec.EraseRanges
import HL.Lemmas.MeaningGCore
/-!
  C04 "formatting never changes what the journal says" and C05 "formatting is idempotent,
  aligned" — the composed statements from TEXT to TEXT for the core grammar `GCore`
  (HL/Spec/GCore.lean), for journals of every size, every formatting option the model accepts
  (any indent, alignment on or off, any minimum column) and no commodity formats in scope
  (`formats = none`; a core journal declares none either).

  The pieces:
    * `format_core`           the edits the formatter returns for the text `GCore.print j` and the
                              tree the parser gives for it (`C03_faithful_core`), applied by the
                              reference applier of HL/Spec/EditSpec.lean, produce exactly
                              `GCore.canon o j` (HL/Spec/GCoreLayout.lean): every posting line
                              rebuilt as indent, account, padding, amount as written; every other
                              byte unchanged;
    * `formatRun_core`        the same through `formatRun` = parse, `formatText`, apply;
    * `C04_preserved_core`    the formatted text parses without error to the tree of the original
                              text up to positions (`Erase.journal`: same transactions, dates,
                              descriptions, accounts, quantities digit for digit, commodities);
    * `C04_other_lines_core`  line by line the two texts are equal except for the posting lines;
    * `C05_idempotent_core`   formatting the formatted text again (with the tree of ITS parse)
                              changes nothing;
    * `C05_aligned_core`      with alignment on, every amount of the formatted text starts at the
                              same column, at least two blanks behind the longest account.
  Beside them: the same for every layout of the family (`parse_printL`, `format_coreL`,
  `formatRun_printL`), in the oracle's relation (`C04_meaning_core`), for two runs from the user's
  text (`C04_formatRun_preserved_core`, `C05_idempotent_twice_core`), and the well-formedness of
  the edits of both runs (`C05_edits_wellformed_core`, `…_again`).

  Generality in the layout: the lexer and parser lemmas are proved for `GCore.printL L`, every
  indent ≥ 1 and every gap ≥ 2 (HL/Lemmas/LexGCoreL.lean, ParseGCoreL.lean), so nothing is
  restricted to the options that keep the four-blank/two-blank layout of `GCore.print`.

  The one hypothesis besides well-formedness: the text is shorter than 4 GiB.  LSP positions are
  `uint32` (`protocol.Position`), the model wraps like the code does, and beyond that size an
  edit lands on the wrong line — the same bound `TreeFits` carries in HL/Props/C05.lean.
-/
namespace HL.Props.C04
open HL HL.GCore HL.Fmt HL.EditSpec

/-- What `Server.Format` computes for a document (model): parse the text, format it with the
    lines of the parse errors skipped and no workspace formats, apply the edits. -/
def formatRun (o : Options) (doc : Bytes) : Option Bytes :=
  let r := HL.Pipeline.parseText Classes.go doc
  applyEdits doc (formatText r.1 r.2 doc none o)

theorem Tx.printL_std (t : GCore.Tx) : t.printL Layout.std = t.print := GCore.Tx.printL_std t

theorem printL_std (j : GCore.Journal) : printL Layout.std j = GCore.print j := GCore.printL_std j

theorem Posting.printL_std (p : GCore.Posting) : p.printL Layout.std = p.print := rfl

theorem Posting.expectedL_std (p : GCore.Posting) (ln o : Nat) : p.expectedL Layout.std ln o = p.expected ln o :=
  GCore.Posting.expectedL_std p ln o

theorem expectedL_std (j : GCore.Journal) : expectedL Layout.std j = GCore.expected j := GCore.expectedL_std j

theorem parse_printL_classes (C : Classes) (hC : ClassesOk C = true) (L : Layout) (hL : L.ok)
    (j : GCore.Journal) (h : GCore.WF j = true) :
    HL.Pipeline.parseText C (printL L j) = (expectedL L j, []) := by
  unfold HL.Pipeline.parseText
  rw [lexAll_printL C hC L hL j h]
  exact parseTokens_toksL _ L j h

/-- **C03 for the core grammar under every layout**: any indent ≥ 1, any gap ≥ 2 in front of
    each amount. -/
theorem parse_printL (L : Layout) (hL : L.ok) (j : GCore.Journal) (h : GCore.WF j = true) :
    HL.Pipeline.parseText Classes.go (printL L j) = (expectedL L j, []) :=
  parse_printL_classes Classes.go HL.Props.C03.classesOk_go L hL j h

theorem canonLayout_ok (o : Options) (j : GCore.Journal) : (canonLayout o j).ok := by
  constructor
  · show 1 ≤ canonIndent o
    unfold canonIndent
    split <;> omega
  · intro p
    show 2 ≤ (if o.alignAmounts then max (canonCol o j - (canonIndent o + p.acct.length)) 2 else 2)
    split
    · exact Nat.le_max_right ..
    · exact Nat.le_refl 2

/-- **The formatter on a core journal.**  For every well-formed core journal `j` and every
    options value: the edits `formatDocument` returns for the text `GCore.print j` and its tree
    (`GCore.expected j` — by `C03_faithful_core` the tree the parser returns for that text; no
    parse errors, so nothing is skipped), applied to that text, give `GCore.canon o j`. -/
theorem format_core (o : Options) (j : GCore.Journal) (h : GCore.WF j = true)
    (hsize : (GCore.print j).length < 4294967296) :
    applyEdits (GCore.print j) (formatDocument (GCore.expected j) (GCore.print j) none o []) =
      some (GCore.canon o j) := by
  have := format_printL Layout.std o j h (by rw [printL_std]; exact hsize)
  rw [printL_std, expectedL_std] at this
  exact this

/-- `format_core` for a text in any layout of the family (the formatter's own output included). -/
theorem format_coreL (L : Layout) (o : Options) (j : GCore.Journal) (h : GCore.WF j = true)
    (hsize : (printL L j).length < 4294967296) :
    applyEdits (printL L j) (formatDocument (expectedL L j) (printL L j) none o []) = some (GCore.canon o j) :=
  format_printL L o j h hsize

/-- Parse, format, apply — on a text of the layout family. -/
theorem formatRun_printL (L : Layout) (hL : L.ok) (o : Options) (j : GCore.Journal) (h : GCore.WF j = true)
    (hsize : (printL L j).length < 4294967296) :
    formatRun o (printL L j) = some (GCore.canon o j) := by
  unfold formatRun formatText
  rw [parse_printL L hL j h]
  exact format_printL L o j h hsize

/-- **From the text the user has to the text the user gets**: parse `GCore.print j` (model of
    `parser.Parse`), format (model of `server.formatText`), apply the edits (reference applier) —
    the result is `GCore.canon o j`. -/
theorem formatRun_core (o : Options) (j : GCore.Journal) (h : GCore.WF j = true)
    (hsize : (GCore.print j).length < 4294967296) :
    formatRun o (GCore.print j) = some (GCore.canon o j) := by
  have := formatRun_printL Layout.std Layout.std_ok o j h (by rw [printL_std]; exact hsize)
  rwa [printL_std] at this

/-- the tree of a posting without positions -/
def plainPosting (p : GCore.Posting) : Ast.Posting :=
  { status := .none
    account := ⟨p.acct, Rng.zero⟩
    amount := p.amount.map fun a =>
      { quantity := a.quantity
        raw := a.signText ++ a.numText
        commodity := match a.com with
          | none => ⟨[], .left, Rng.zero⟩
          | some w => ⟨w, .right, Rng.zero⟩
        signBeforeCommodity := false
        range := Rng.zero }
    assertion := none, cost := none, comment := [], tags := [], virt := .none, range := Rng.zero }

theorem erase_amount (a : GCore.Amount) (ln c o : Nat) :
    Erase.amount (a.expected ln c o) =
      { quantity := a.quantity
        raw := a.signText ++ a.numText
        commodity := match a.com with
          | none => ⟨[], .left, Rng.zero⟩
          | some w => ⟨w, .right, Rng.zero⟩
        signBeforeCommodity := false
        range := Rng.zero } := by
  cases hc : a.com <;> simp [Erase.amount, Erase.commodity, Amount.expected, hc]

theorem erase_postingL (L : Layout) (p : GCore.Posting) (ln o : Nat) :
    Erase.posting (p.expectedL L ln o) = plainPosting p := by
  cases ha : p.amount <;>
    simp [Erase.posting, Erase.account, Posting.expectedL, plainPosting, ha, erase_amount]

theorem erase_postingsL (L : Layout) (ps : List GCore.Posting) :
    ∀ ln o, (expectedPostingsL L ps ln o).map Erase.posting = ps.map plainPosting := by
  induction ps with
  | nil => intro _ _; rfl
  | cons p ps ih => intro ln o; simp only [expectedPostingsL, List.map_cons, erase_postingL, ih]

theorem erase_txsL (L L' : Layout) (j : GCore.Journal) :
    ∀ ln o ln' o', (expectedTxsL L j ln o).map Erase.transaction = (expectedTxsL L' j ln' o').map Erase.transaction := by
  induction j with
  | nil => intro _ _ _ _; rfl
  | cons t ts ih =>
    intro ln o ln' o'
    simp only [expectedTxsL, List.map_cons]
    rw [ih _ _ (ln' + t.postings.length + 2) (o' + (t.printL L').length + 1)]
    congr 1
    simp only [Erase.transaction, Tx.expectedL, erase_postingsL, Erase.date, Option.map_none, List.map_nil]

/-- The trees of one journal under two layouts differ in positions only. -/
theorem erase_expectedL (L L' : Layout) (j : GCore.Journal) :
    Erase.journal (expectedL L j) = Erase.journal (expectedL L' j) := by
  simp only [Erase.journal, expectedL, List.map_nil, erase_txsL L L' j 1 0 1 0]

/-- **C04 for the core grammar.**  For every well-formed core journal and every options value
    the formatted text `GCore.canon o j`
      * parses (model of `parser.Parse`) without a single error,
      * to exactly the tree of that journal under the formatter's layout (every position
        included), and
      * that tree equals the tree of the original text up to positions: same transactions in the
        same order, same dates and descriptions, same postings with the same accounts, the same
        quantities (coefficient and exponent) and raw spellings, the same commodities.
    No guard on the options: every indent and every alignment column is covered. -/
theorem C04_preserved_core (o : Options) (j : GCore.Journal) (h : GCore.WF j = true) :
    HL.Pipeline.parseText Classes.go (GCore.canon o j) = (expectedL (canonLayout o j) j, []) ∧
    Erase.journal (HL.Pipeline.parseText Classes.go (GCore.canon o j)).1 =
      Erase.journal (HL.Pipeline.parseText Classes.go (GCore.print j)).1 ∧
    (HL.Pipeline.parseText Classes.go (GCore.canon o j)).2 = [] := by
  have h1 := parse_printL (canonLayout o j) (canonLayout_ok o j) j h
  refine ⟨h1, ?_, ?_⟩
  · show Erase.journal (HL.Pipeline.parseText Classes.go (printL (canonLayout o j) j)).1 = _
    rw [h1, HL.Props.C03.C03_faithful_core j h, ← expectedL_std]
    exact erase_expectedL _ _ j
  · show (HL.Pipeline.parseText Classes.go (printL (canonLayout o j) j)).2 = []
    rw [h1]

/-- … and in the terms of the C04 oracle (`HL.Meaning.journalEqv`, the comparison applied to the
    trees the real parser returns before and after formatting; `errsEqv` on the error lists). -/
theorem C04_meaning_core (o : Options) (j : GCore.Journal) (h : GCore.WF j = true) :
    Meaning.journalEqv (HL.Pipeline.parseText Classes.go (GCore.print j)).1
      (HL.Pipeline.parseText Classes.go (GCore.canon o j)).1 = true ∧
    Meaning.errsEqv (HL.Pipeline.parseText Classes.go (GCore.print j)).2
      (HL.Pipeline.parseText Classes.go (GCore.canon o j)).2 = true := by
  rw [(C04_preserved_core o j h).1, HL.Props.C03.C03_faithful_core j h, ← expectedL_std]
  exact ⟨journalEqv_expectedL _ _ j, rfl⟩

/-- C04 end to end: what `formatRun` returns for the text of a core journal says what the
    original text said. -/
theorem C04_formatRun_preserved_core (o : Options) (j : GCore.Journal) (h : GCore.WF j = true)
    (hsize : (GCore.print j).length < 4294967296) :
    ∃ d', formatRun o (GCore.print j) = some d' ∧
      (HL.Pipeline.parseText Classes.go d').2 = [] ∧
      Erase.journal (HL.Pipeline.parseText Classes.go d').1 =
        Erase.journal (HL.Pipeline.parseText Classes.go (GCore.print j)).1 :=
  ⟨GCore.canon o j, formatRun_core o j h hsize, (C04_preserved_core o j h).2.2, (C04_preserved_core o j h).2.1⟩

/-- **C04, the lines that are not posting lines.**  The original and the formatted text have the
    same number of lines, and line by line they are equal, except that a posting line corresponds
    to the line of the same posting under the formatter's layout.  (Header lines and empty lines
    of a core journal have no trailing blanks, so "changed at most by loss of trailing blanks"
    is "unchanged" here.) -/
theorem C04_other_lines_core (o : Options) (j : GCore.Journal) (h : GCore.WF j = true) :
    LinesRel Layout.std (canonLayout o j) (FmtText.splitLines (GCore.print j))
      (FmtText.splitLines (GCore.canon o j)) := by
  rw [← printL_std, splitLines_printL _ j h]
  show LinesRel _ _ _ (FmtText.splitLines (printL (canonLayout o j) j))
  rw [splitLines_printL _ j h]
  exact lines_rel _ _ j

/-- **C05 (idempotence) for the core grammar.**  Formatting the formatted text again — parse
    `GCore.canon o j`, format with the tree of THAT parse, apply — returns the same text. -/
theorem C05_idempotent_core (o : Options) (j : GCore.Journal) (h : GCore.WF j = true)
    (hsize : (GCore.canon o j).length < 4294967296) :
    formatRun o (GCore.canon o j) = some (GCore.canon o j) :=
  formatRun_printL (canonLayout o j) (canonLayout_ok o j) o j h hsize

/-- … in terms of the edit list: the edits `formatDocument` returns for `canon o j` and the tree
    of its parse, applied to it, change nothing. -/
theorem C05_idempotent_core_edits (o : Options) (j : GCore.Journal) (h : GCore.WF j = true)
    (hsize : (GCore.canon o j).length < 4294967296) :
    applyEdits (GCore.canon o j)
      (formatDocument (HL.Pipeline.parseText Classes.go (GCore.canon o j)).1 (GCore.canon o j) none o []) =
        some (GCore.canon o j) := by
  rw [(C04_preserved_core o j h).1]
  exact format_printL (canonLayout o j) o j h hsize

/-- Two runs from the user's text: the second run returns what the first returned. -/
theorem C05_idempotent_twice_core (o : Options) (j : GCore.Journal) (h : GCore.WF j = true)
    (hsize : (GCore.print j).length < 4294967296) (hsize' : (GCore.canon o j).length < 4294967296) :
    (formatRun o (GCore.print j)).bind (formatRun o) = formatRun o (GCore.print j) := by
  rw [formatRun_core o j h hsize, Option.bind_some]
  exact C05_idempotent_core o j h hsize'

theorem foldl_max_ge_acc (ps : List GCore.Posting) (acc : Nat) :
    acc ≤ ps.foldl (fun m p => max m p.acct.length) acc := by
  induction ps generalizing acc with
  | nil => exact Nat.le_refl _
  | cons p ps ih => exact Nat.le_trans (Nat.le_max_left _ _) (ih _)

theorem foldl_max_ge (ps : List GCore.Posting) (acc : Nat) (p : GCore.Posting) (hp : p ∈ ps) :
    p.acct.length ≤ ps.foldl (fun m p => max m p.acct.length) acc := by
  induction ps generalizing acc with
  | nil => cases hp
  | cons q ps ih =>
    rcases List.mem_cons.mp hp with rfl | hp
    · exact Nat.le_trans (Nat.le_max_right _ _) (foldl_max_ge_acc ps _)
    · exact ih _ hp

theorem widest_ge (j : GCore.Journal) (t : GCore.Tx) (ht : t ∈ j) (p : GCore.Posting) (hp : p ∈ t.postings) :
    p.acct.length ≤ widest j :=
  foldl_max_ge _ 0 p (List.mem_flatMap.mpr ⟨t, ht, hp⟩)

/-- the lines of the formatted text: the header lines as they were, the posting lines under the
    canonical layout -/
theorem canon_lines (o : Options) (j : GCore.Journal) (h : GCore.WF j = true) :
    FmtText.splitLines (GCore.canon o j) = linesL (canonLayout o j) j :=
  splitLines_printL _ j h

/-- **C05 (alignment) for the core grammar.**  With alignment on, in the formatted text every
    posting line that has an amount is `pre ++ amount` where `pre` — indent, account, padding —
    is exactly `canonCol o j` bytes (= characters: the line is ASCII) long and ends in at least
    two blanks: every amount of the document starts at the same column, and that column is at
    least indent + longest account + 2, hence ≥ indent + this posting's account + 2. -/
theorem C05_aligned_core (o : Options) (j : GCore.Journal) (halign : o.alignAmounts = true)
    (t : GCore.Tx) (ht : t ∈ j) (p : GCore.Posting) (hp : p ∈ t.postings) (a : GCore.Amount)
    (ha : p.amount = some a) :
    ∃ pre, p.printL (canonLayout o j) = pre ++ [0x20, 0x20] ++ a.print ∧
      (pre ++ [0x20, 0x20]).length = canonCol o j ∧
      canonIndent o + widest j + 2 ≤ canonCol o j ∧
      canonIndent o + p.acct.length + 2 ≤ canonCol o j := by
  have hw := widest_ge j t ht p hp
  have hcol : canonIndent o + widest j + 2 ≤ canonCol o j := Nat.le_max_left ..
  have hp2 : canonIndent o + p.acct.length + 2 ≤ canonCol o j :=
    Nat.le_trans (Nat.add_le_add_right (Nat.add_le_add_left hw _) 2) hcol
  -- the gap: what is missing up to the column, `g + 2` blanks
  obtain ⟨g, hg⟩ : ∃ g, canonCol o j = canonIndent o + p.acct.length + (g + 2) :=
    ⟨canonCol o j - (canonIndent o + p.acct.length + 2), by omega⟩
  have hgap : (canonLayout o j).gap p = g + 2 := by
    show (if o.alignAmounts then max (canonCol o j - (canonIndent o + p.acct.length)) 2 else 2) = _
    rw [halign, if_pos rfl, hg, Nat.add_sub_cancel_left, Nat.max_eq_left (Nat.le_add_left 2 g)]
  refine ⟨blanks (canonIndent o) ++ p.acct ++ blanks g, ?_, ?_, hcol, hp2⟩
  · simp only [Posting.printL, Posting.amtTextL, ha, hgap]
    show _ ++ _ ++ (blanks (g + 2) ++ _) = _
    have : blanks (g + 2) = blanks g ++ [0x20, 0x20] := List.replicate_append_replicate.symm
    rw [this]; simp only [List.append_assoc]; rfl
  · rw [hg]
    simp only [List.length_append, blanks_length, List.length_cons, List.length_nil, Nat.add_assoc]

/-- **C05 (well-formed edits) for the core grammar, composed with the parser**: the edits
    returned for the text of a core journal — tree and errors taken from the parse of that text —
    lie inside the document, on character boundaries, start ≤ end, pairwise disjoint. -/
theorem C05_edits_wellformed_core (o : Options) (j : GCore.Journal) (h : GCore.WF j = true)
    (hsize : (GCore.print j).length < 4294967296) :
    editsWellFormed (GCore.print j)
      (formatText (HL.Pipeline.parseText Classes.go (GCore.print j)).1
        (HL.Pipeline.parseText Classes.go (GCore.print j)).2 (GCore.print j) none o) = true := by
  rw [HL.Props.C03.C03_faithful_core j h]
  apply HL.Props.C05.edits_wellformed
  have := treeFits_printL Layout.std j h (by rw [printL_std]; exact hsize)
  rwa [printL_std, expectedL_std] at this

/-- … and for the second run (the formatted text and the tree of its parse). -/
theorem C05_edits_wellformed_core_again (o : Options) (j : GCore.Journal) (h : GCore.WF j = true)
    (hsize : (GCore.canon o j).length < 4294967296) :
    editsWellFormed (GCore.canon o j)
      (formatText (HL.Pipeline.parseText Classes.go (GCore.canon o j)).1
        (HL.Pipeline.parseText Classes.go (GCore.canon o j)).2 (GCore.canon o j) none o) = true := by
  rw [(C04_preserved_core o j h).1]
  exact HL.Props.C05.edits_wellformed _ _ _ _ _ (treeFits_printL (canonLayout o j) j h hsize)

/-- the sample of `C03Faithful.lean`: two transactions, accounts `assets:cash`,
    `expenses:food:x`, `a:b`, `c:d`, amounts with and without sign, decimals, commodity -/
abbrev sample : GCore.Journal := HL.Props.C03.sample

def sampleOpts : Options := ⟨2, true, 0⟩

example : GCore.WF sample = true := by decide
example : (GCore.print sample).length < 4294967296 := by decide +kernel
example : (GCore.canon sampleOpts sample).length < 4294967296 := by decide +kernel

/-- the formatted sample, spelled out: indent 2, amounts at column 19 (0-based):
    ```
    2024-01-15 grocery store
      assets:cash      -12.50 USD
      expenses:food:x

    2024-02-01 rent
      a:b              1200
      c:d              0.125 E
    ``` -/
example : GCore.canon sampleOpts sample =
    [50, 48, 50, 52, 45, 48, 49, 45, 49, 53, 32, 103, 114, 111, 99, 101, 114, 121, 32, 115, 116, 111, 114, 101, 10,
     32, 32, 97, 115, 115, 101, 116, 115, 58, 99, 97, 115, 104, 32, 32, 32, 32, 32, 32, 45, 49, 50, 46, 53, 48, 32, 85, 83, 68, 10,
     32, 32, 101, 120, 112, 101, 110, 115, 101, 115, 58, 102, 111, 111, 100, 58, 120, 10,
     10,
     50, 48, 50, 52, 45, 48, 50, 45, 48, 49, 32, 114, 101, 110, 116, 10,
     32, 32, 97, 58, 98, 32, 32, 32, 32, 32, 32, 32, 32, 32, 32, 32, 32, 32, 32, 49, 50, 48, 48, 10,
     32, 32, 99, 58, 100, 32, 32, 32, 32, 32, 32, 32, 32, 32, 32, 32, 32, 32, 32, 48, 46, 49, 50, 53, 32, 69, 10] := by
  decide +kernel

/-- the statement of `formatRun_core` on the sample, by evaluation of the models alone -/
example : formatRun sampleOpts (GCore.print sample) = some (GCore.canon sampleOpts sample) := by
  decide +kernel

/-- … and of `C05_idempotent_core` -/
example : formatRun sampleOpts (GCore.canon sampleOpts sample) = some (GCore.canon sampleOpts sample) := by
  decide +kernel

/-- the formatter does change this text (the theorems are not about a fixed point only) -/
example : GCore.canon sampleOpts sample ≠ GCore.print sample := by decide +kernel

/-- alignment off, indent 7, on the sample -/
example : formatRun ⟨7, false, 0⟩ (GCore.print sample) = some (GCore.canon ⟨7, false, 0⟩ sample) := by
  decide +kernel

example : canonCol sampleOpts sample = 19 := by decide

end HL.Props.C04

#print axioms HL.Props.C04.format_core
#print axioms HL.Props.C04.formatRun_core
#print axioms HL.Props.C04.C04_preserved_core
#print axioms HL.Props.C04.C05_idempotent_core
#print axioms HL.Props.C04.C05_aligned_core
#print axioms HL.Props.C04.C04_other_lines_core
#print axioms HL.Props.C04.C05_edits_wellformed_core
