import HL.Lemmas.ParserFuel
import HL.Lemmas.ParserList
/-
  C06, parser half: "parser loops advance on every path; parsing is total on arbitrary token
  streams".

  The model (HL/Model/Parser.lean) runs every Go loop on explicit fuel `fuelOf st = rem st.src + 1`.
  The theorems hold for EVERY token source whose bound `rem` strictly decreases on each non-EOF
  token it hands out (`Decr`); the token list of the correspondence is one (`listEnv_decr`).
  They say: every loop body consumes a token, no loop exhausts its fuel with work left, the
  journal loop stops exactly at EOF, and errors are only appended, each on a token the parser has
  consumed or is looking at.
-/
namespace HL.Props.C06Parser
open HL HL.Ast HL.Parser

variable {σ : Type} (E : Env σ)

/-- Every loop body of the parser consumes at least one token (strictly decreases the number of
    tokens left), on every path, for every token source with a decreasing bound:
    `parseJournal`'s `switch`, the postings loop body, the sub-directive loop's first step, the
    skipping loops (`skipToNextLine` from a non-EOF token). -/
theorem loop_bodies_advance (hd : Decr E) (st : PState σ) :
    (st.current.ty ≠ .eof → measure E (journalStep E st).2 < measure E st) ∧
    (st.current.ty = .indent → measure E (parsePosting E st).2 < measure E st) ∧
    (st.current.ty ≠ .eof → measure E (advance E st) < measure E st) ∧
    (st.current.ty ≠ .eof → measure E (skipToNextLine E st) < measure E st) ∧
    (st.current.ty ≠ .eof → measure E (parseDirective E st).2 < measure E st) ∧
    (st.current.ty = .date → measure E (parseTransaction E st).2 < measure E st) :=
  ⟨journalStep_lt E hd st, parsePosting_lt E hd st, advance_lt E hd st, skipToNextLine_lt E hd st,
   parseDirective_lt E hd st, parseTransaction_lt E hd st⟩

theorem step_never_goes_back (hd : Decr E) (st : PState σ) :
    measure E (journalStep E st).2 ≤ measure E st := journalStep_le E hd st

/-- The journal loop never runs out of fuel: any fuel at least the number of tokens left gives
    the result of the canonical run. -/
theorem parse_fuel_suffices (hd : Decr E) (st : PState σ) (n : Nat) (hn : measure E st ≤ n) :
    parseJournalF E n st = parseJournal E st :=
  parseJournalF_fuel E hd n _ st hn (measure_le_fuelOf E st)

theorem loops_fuel_suffice (hd : Decr E) (st : PState σ) (n : Nat) (hn : measure E st ≤ n) :
    skipLoopF E n st = skipLoopF E (fuelOf E st) st ∧
    (∀ b, skipUntilF E b n st = skipUntilF E b (fuelOf E st) st) ∧
    (∀ acc, subValueF E n st acc = subValueF E (fuelOf E st) st acc) ∧
    (∀ acc, includePathF E n st acc = includePathF E (fuelOf E st) st acc) ∧
    postingsF E n st = postingsF E (fuelOf E st) st ∧
    (∀ m, parseSubdirectivesF E n st m = parseSubdirectivesF E (fuelOf E st) st m) :=
  have hf := measure_le_fuelOf E st
  ⟨skipLoopF_fuel E hd n _ st hn hf, fun b => skipUntilF_fuel E hd b n _ st hn hf,
   fun acc => subValueF_fuel E hd n _ st acc hn hf, fun acc => includePathF_fuel E hd n _ st acc hn hf,
   postingsF_fuel E hd n _ st hn hf, fun m => parseSubdirectivesF_fuel E hd n _ st m hn hf⟩

theorem parseJournalF_ends_at_eof (hd : Decr E) (n : Nat) (st : PState σ) (hn : measure E st ≤ n) :
    (parseJournalF E n st).2.current.ty = .eof := by
  induction n generalizing st with
  | zero => unfold parseJournalF; exact eof_of_measure_le_zero E hn
  | succ n ih =>
    unfold parseJournalF
    split
    · assumption
    · rename_i h
      have := journalStep_lt E hd st h
      simp only
      exact ih _ (by omega)

/-- Parsing is total: on every token source with a decreasing bound the journal loop runs to
    EOF (it is not cut short by its fuel), whatever the tokens are. -/
theorem parse_total (hd : Decr E) (st : PState σ) : (parseJournal E st).2.current.ty = .eof :=
  parseJournalF_ends_at_eof E hd _ st (measure_le_fuelOf E st)

theorem parseJournalF_reach (n : Nat) (st : PState σ) : ReachAny E st (parseJournalF E n st).2 := by
  induction n generalizing st with
  | zero => exact ReachAny.refl E st
  | succ n ih =>
    unfold parseJournalF
    split
    · exact ReachAny.refl E st
    · simp only
      exact ReachAny.trans E (RC.any E (journalStep_RC E st)) (ih _)

/-- Errors are only appended, and each new error sits on a token the parser consumed during
    the run or on the token it stopped at. -/
theorem errors_positions_general (st : PState σ) :
    ∃ C new, Reach E st C (parseJournal E st).2 ∧
      (parseJournal E st).2.errors = st.errors ++ new ∧
      ∀ e ∈ new, ∃ t ∈ C ++ [(parseJournal E st).2.current], e.pos = t.pos := by
  obtain ⟨C, r⟩ := parseJournalF_reach E (fuelOf E st) st
  obtain ⟨new, h1, h2⟩ := r.errors E
  exact ⟨C, new, r, h1, h2⟩

variable (num : NumDeps) (cls : Classes)

/-- Arbitrary token lists: the parse of a token list does not depend on the fuel and ends at EOF. -/
theorem parseTokens_total (toks : List Token) :
    let st0 : PState (List Token) := advance (listEnv num cls) ⟨toks, eofToken, [], 0⟩
    (parseJournal (listEnv num cls) st0).2.current.ty = .eof ∧
    ∀ n, measure (listEnv num cls) st0 ≤ n →
      parseJournalF (listEnv num cls) n st0 = parseJournal (listEnv num cls) st0 :=
  ⟨parse_total _ (listEnv_decr num cls) _, fun n hn => parse_fuel_suffices _ (listEnv_decr num cls) _ n hn⟩

/-- Every parse error reported for a token list carries the position of one of its tokens
    (or of the EOF the exhausted list answers with). -/
theorem errors_positions_are_token_positions (toks : List Token) :
    ∀ e ∈ (parseTokens num cls toks).2, ∃ t ∈ toks ++ [eofToken], e.pos = t.pos := by
  intro e he
  let st0 : PState (List Token) := advance (listEnv num cls) ⟨toks, eofToken, [], 0⟩
  obtain ⟨C, new, r, h1, h2⟩ := errors_positions_general (listEnv num cls) st0
  have hst0 : st0.errors = [] := rfl
  have he' : e ∈ new := by
    have : (parseTokens num cls toks).2 = (parseJournal (listEnv num cls) st0).2.errors := rfl
    rw [this, h1, hst0] at he
    simpa using he
  obtain ⟨t, ht, hp⟩ := h2 e he'
  have hm := Reach.mem_stream num cls r t (by
    simp only [List.mem_append, List.mem_singleton] at ht ⊢
    rcases ht with h | h
    · exact Or.inl h
    · exact Or.inr (by simp [strm, h]))
  refine ⟨t, ?_, hp⟩
  rcases hm with h | h
  · have hs : strm st0 = toks ∨ strm st0 = [eofToken] := by
      cases toks <;> simp [st0, strm, advance, listEnv, listSrc]
    rcases hs with hs | hs
    · rw [hs] at h; simp [h]
    · rw [hs] at h; simp at h; simp [h]
  · simp [h]

/-- Non-vacuity: the list source satisfies the hypothesis of the general theorems. -/
example : Decr (listEnv num cls) := listEnv_decr num cls

end HL.Props.C06Parser
