/-
  C14 — Background work never races with, blocks or corrupts later requests.

  Shape of the argument (DESIGN 7.C14):
    1. `lockset_sound` / `no_deadlock` / `progress`: general theorems about the abstract
       transition system of HL/Model/Lockset.lean — for EVERY access table, lock-order table
       and pool of threads (any number of publish and refresh goroutines, any programs).
    2. `table_covered`, `lock_order_acyclic`, `translator_facts`: closed facts about the table
       that tools/access REGENERATES from the Go source on every run
       (HL/Generated/Access.lean), decided by the kernel; `protection_sound`: rows covered by
       the protection of their location cannot race, hence `table_disciplined`.
    3. `server_race_free`, `server_deadlock_free`: 1 applied to 2.
    4. `response_is_function_of_state` and `resolved_never_stale`, on the transition system of
       HL/Spec/Bg.lean (`Server.resolved` against the background tasks): the invariant `BgInv`
       and `Tracks`, which follows one request to its answer.
  Trusted, not proved: that the Go program is an instance of a pool that conforms to the
  extracted table (the translator's completeness and its fresh / atomic / role judgements),
  the Go memory model, and the race detector used by the schedule harness as a cross-check.
-/
import HL.Lemmas.Lockset
import HL.Generated.AccessExpect
import HL.Spec.Bg
namespace HL.Props.C14
open HL.Lockset HL.Lemmas.Lockset HL.Generated.Access HL.Generated.AccessExpect

section general
variable {ι κ : Type} [DecidableEq ι] [DecidableEq κ]

/-- In every reachable state a lock that is held exclusively is held by nobody else
    (mutex / rwmutex semantics are respected by the transition system). -/
theorem locks_exclusive (P : Pool ι κ) {σ : State κ} (hR : Reachable P σ)
    (t1 t2 : Nat) (l : κ) (m : Mode)
    (h1 : (l, Mode.excl) ∈ σ.held t1) (h2 : (l, m) ∈ σ.held t2) : t1 = t2 :=
  (inv_of_reachable hR).mutex t1 t2 l m h1 h2

/-- At every point of every run a thread holds exactly the locks that the acquire / release
    instructions of its executed program prefix leave held: the static lock column of the
    table speaks about the dynamic state. -/
theorem held_is_static (P : Pool ι κ) {σ : State κ} (hR : Reachable P σ) (t : Nat) :
    σ.held t = heldAfter ((P.prog t).take (σ.pc t)) :=
  (inv_of_reachable hR).heldEq t

theorem concurrentRoles_iff (a b : Role) :
    concurrentRoles a b = true ↔ a ≠ .init ∧ b ≠ .init ∧ (a ≠ .main ∨ b ≠ .main) := by
  simp only [concurrentRoles, Bool.and_eq_true, bne_iff_ne, ne_eq, Bool.not_eq_true', Bool.and_eq_false_iff,
    beq_eq_false_iff_ne, and_assoc]

/-- **Soundness of the lockset discipline.**  For every table, every pool of threads whose
    accesses are instances of table rows (with the row's locks statically held) and whose
    thread structure is the server's (sequential initialisation, one handler thread, any
    number of background goroutines): if the table is disciplined, no reachable state has two
    different running threads about to perform conflicting accesses. -/
theorem lockset_sound (T : List (Row ι κ)) (P : Pool ι κ)
    (hC : Conforms T P) (hW : WF P) (hD : disciplined T = true)
    {σ : State κ} (hR : Reachable P σ) : ¬ Race P σ := by
  rintro ⟨t1, t2, a1, a2, hne, hs1, hs2, hn1, hn2, hloc, hw, hat, hf1, hf2⟩
  have hI := inv_of_reachable hR
  obtain ⟨r1, hr1, hrole1, hl1, hk1, ha1, hfr1, hlk1⟩ := hC t1 (σ.pc t1) a1 hn1
  obtain ⟨r2, hr2, hrole2, hl2, hk2, ha2, hfr2, hlk2⟩ := hC t2 (σ.pc t2) a2 hn2
  -- a thread other than the initialisation runs only once that is finished
  have notInit : ∀ {t t' a}, t ≠ t' → σ.started t' = true → σ.started t = true →
      next P σ t = some (.acc a) → P.role t ≠ Role.init := by
    intro t t' a hne hs' hs hn h
    have h0 : t = 0 := (hW.init_iff t).mp h
    subst h0
    have := initDone hW hR t' (fun h => hne h.symm) hs'
    have := (unfinished_of_next hs hn).2
    omega
  have hconc : concurrentRoles (P.role t1) (P.role t2) = true :=
    (concurrentRoles_iff _ _).mpr ⟨notInit hne hs2 hs1 hn1, notInit hne.symm hs1 hs2 hn2,
      Decidable.not_and_iff_or_not.mp fun h => hne (hW.main_unique t1 t2 h.1 h.2)⟩
  have hpair := List.all_eq_true.mp (List.all_eq_true.mp hD r1 hr1) r2 hr2
  -- the rows conflict and their roles run concurrently, so they share a lock
  simp only [pairOK, rowConflict, commonLock, hl1, hl2, hloc, hk1, hk2, ha1, ha2, hfr1, hfr2, hf1, hf2, hrole1,
    hrole2, hconc, beq_self_eq_true, Bool.not_false, Bool.and_true, Bool.true_and, Bool.or_eq_true,
    Bool.and_eq_false_iff, Bool.and_eq_true, beq_iff_eq, beq_eq_false_iff_ne, List.any_eq_true,
    Bool.not_eq_eq_eq_not, Bool.not_true, Bool.or_eq_false_iff] at hpair
  rcases hpair with (hk | hat') | ⟨⟨xl, xm⟩, hx, ⟨yl, ym⟩, hy, hl, hm⟩
  · exact hw.elim hk.1 hk.2
  · exact hat hat'
  · -- impossible: one of the two holds it exclusively
    have hx' : (xl, xm) ∈ σ.held t1 := by rw [hI.heldEq t1]; exact hlk1 _ hx
    have hy' : (yl, ym) ∈ σ.held t2 := by rw [hI.heldEq t2]; exact hlk2 _ hy
    simp only at hl hm
    subst hl
    rcases hm with h | h
    · subst h; exact hne (hI.mutex t1 t2 xl ym hx' hy')
    · subst h; exact hne (hI.mutex t2 t1 xl xm hy' hx').symm

/-- **Deadlock freedom from an acyclic lock order.**  For every pool whose acquisitions respect
    an order table that has a strict rank, and whose threads release what they acquire: in
    every reachable state in which some started thread is not finished, some such thread is
    not blocked — not even under the most blocking reading of Go's RWMutex (a reader waits
    for any holder and for any waiting writer). -/
theorem no_deadlock (O : List (κ × κ)) (rank : κ → Nat) (P : Pool ι κ)
    (hO : OrderConforms O P) (hA : acyclicBy rank O = true) (hB : Balanced P)
    {σ : State κ} (hR : Reachable P σ) (hU : ∃ t, Unfinished P σ t) :
    ∃ t, Unfinished P σ t ∧ ¬ StrictBlocked P σ t := by
  apply Classical.byContradiction
  intro hno
  have hall : ∀ t, Unfinished P σ t → StrictBlocked P σ t :=
    fun t ht => Classical.byContradiction fun hb => hno ⟨t, ht, hb⟩
  have hI := inv_of_reachable hR
  -- whoever waits for `l` waits for a holder of `l`, who waits for a lock of higher rank
  have holder : ∀ t l m, Unfinished P σ t → next P σ t = some (.acq l m) →
      ∃ t' l' m', Unfinished P σ t' ∧ next P σ t' = some (.acq l' m') ∧ (l, l') ∈ O := by
    intro t l m hu hn
    have hex : ∃ t' m', (l, m') ∈ σ.held t' := by
      obtain ⟨l0, m0, hn0, hb⟩ := hall t hu
      cases hn.symm.trans hn0
      rcases hb with hb | ⟨_, w, hsw, hnw⟩
      · exact hb
      · -- a waiting writer is itself blocked by a holder
        obtain ⟨l1, m1, hn1, hb1⟩ := hall w (unfinished_of_next hsw hnw)
        cases hnw.symm.trans hn1
        exact hb1.resolve_right fun h => nomatch h.1
    obtain ⟨t', m', hh⟩ := hex
    have hu' := unfinished_of_holds hI hB hh
    obtain ⟨l', m'', hn', _⟩ := hall t' hu'
    exact ⟨t', l', m'', hu', hn', hO t' (σ.pc t') l' m'' hn' (l, m') (hI.heldEq t' ▸ hh)⟩
  -- so ranks grow without bound along the chain of waiting threads, yet stay below `M`
  let M := (O.map fun q => rank q.2).sum
  have ascend : ∀ k t l m, Unfinished P σ t → next P σ t = some (.acq l m) → rank l + k < M := by
    intro k
    induction k with
    | zero =>
      intro t l m hu hn
      obtain ⟨_, l', _, _, _, hmem⟩ := holder t l m hu hn
      have h1 : rank l < rank l' := of_decide_eq_true (List.all_eq_true.mp hA (l, l') hmem)
      have h2 : rank l' ≤ M := rank_bound rank O (l, l') hmem
      omega
    | succ k ih =>
      intro t l m hu hn
      obtain ⟨t', l', m', hu', hn', hmem⟩ := holder t l m hu hn
      have h1 : rank l < rank l' := of_decide_eq_true (List.all_eq_true.mp hA (l, l') hmem)
      have := ih t' l' m' hu' hn'
      omega
  obtain ⟨t, hu⟩ := hU
  obtain ⟨l, m, hn, _⟩ := hall t hu
  have := ascend M t l m hu hn
  omega

/-- Corollary: under the same hypotheses the system can always take a step while some started
    thread is unfinished. -/
theorem progress (O : List (κ × κ)) (rank : κ → Nat) (P : Pool ι κ)
    (hO : OrderConforms O P) (hA : acyclicBy rank O = true) (hB : Balanced P)
    {σ : State κ} (hR : Reachable P σ) (hU : ∃ t, Unfinished P σ t) :
    ∃ σ', Step P σ σ' := by
  obtain ⟨t, hu, hnb⟩ := no_deadlock O rank P hO hA hB hR hU
  obtain ⟨i, hn⟩ := next_some_of_unfinished hu
  refine ⟨fire σ t i, t, i, hu.1, hn, ?_, rfl⟩
  cases i with
  | acq l m =>
    have hfree : ∀ t' m', (l, m') ∉ σ.held t' := by
      intro t' m' hh
      exact hnb ⟨l, m, hn, Or.inl ⟨t', m', hh⟩⟩
    cases m with
    | excl => exact hfree
    | shared => exact fun t' => hfree t' Mode.excl
  | rel l => trivial
  | acc a => trivial
  | spawn t' => trivial

end general

-- Diagnostics for the build log: if one of the closed facts below fails, these lines name the
-- rows / pairs responsible (function and line in the Go source).
#eval show IO Unit from do
  for r in uncovered do
    IO.println s!"C14 UNCOVERED ACCESS: {repr r.loc} {repr r.kind} by role {repr r.role} holding {repr r.locks} at {r.sites} is not covered by the protection stated in AccessExpect.lean"
  for p in (racePairs accessTable).take 20 do
    IO.println s!"C14 RACE PAIR: {repr p.1.loc}: {repr p.1.kind} by {repr p.1.role} holding {repr p.1.locks} at {p.1.sites}  ||  {repr p.2.kind} by {repr p.2.role} holding {repr p.2.locks} at {p.2.sites}"

theorem holds_spec {r : Row Loc Lock} {l : Lock} {b : Bool} (h : holds r l b = true) :
    ∃ x ∈ r.locks, x.1 = l ∧ (b = true → x.2 = Mode.excl) := by
  simp only [holds, List.any_eq_true, Bool.and_eq_true, beq_iff_eq, Bool.or_eq_true, Bool.not_eq_true'] at h
  obtain ⟨x, hx, hl, hm⟩ := h
  exact ⟨x, hx, hl, fun hb => hm.resolve_left (by simp [hb])⟩

theorem commonLock_of {ι κ : Type} [DecidableEq κ] {r s : Row ι κ} {x y : κ × Mode} (hx : x ∈ r.locks)
    (hy : y ∈ s.locks) (hl : x.1 = y.1) (hm : x.2 = Mode.excl ∨ y.2 = Mode.excl) : commonLock r s = true := by
  simp only [commonLock, List.any_eq_true, Bool.and_eq_true, beq_iff_eq, Bool.or_eq_true]
  exact ⟨x, hx, y, hy, hl, hm⟩

/-- Under one protection scheme a writer that can run beside `s` holds a lock exclusively that
    `s` holds too. -/
theorem lock_of_writer {ι : Type} {p : Protection} {r s : Row ι Lock}
    (cr : coveredBy p r = true) (cs : coveredBy p s = true)
    (hfr : r.fresh = false) (hfs : s.fresh = false) (hri : r.role ≠ .init) (hsi : s.role ≠ .init)
    (hmm : r.role ≠ .main ∨ s.role ≠ .main) (hat : r.atomic = false ∨ s.atomic = false)
    (hw : r.kind = .write) :
    ∃ x ∈ r.locks, ∃ y ∈ s.locks, x.1 = y.1 ∧ x.2 = .excl := by
  cases p <;>
    simp only [coveredBy, hfr, hfs, hw, beq_eq_false_iff_ne.mpr hri, beq_eq_false_iff_ne.mpr hsi,
      Bool.false_or, beq_iff_eq, reduceCtorEq, List.any_eq_true, Bool.and_eq_true, Bool.or_eq_true,
      false_or, false_and, Bool.ite_eq_true_distrib, if_false_right] at cr cs
  case guardedBy l =>
    -- both hold `l`, the writer exclusively
    obtain ⟨x, hx, hxl, hxm⟩ := cr
    obtain ⟨y, hy, hyl, -⟩ := cs
    exact ⟨x, hx, y, hy, hxl.trans hyl.symm, hxm⟩
  case atomicCell => simp [cr, cs] at hat
  case mainOnly => simp [cr, cs] at hmm
  case mainOwned l =>
    -- only the handler thread writes, holding `l` exclusively; `s` is then a background reader
    obtain ⟨hrm, x, hx, hxl, hxm⟩ := cr
    rw [if_neg (hmm.resolve_left (not_not_intro hrm))] at cs
    obtain ⟨-, y, hy, hyl⟩ := cs
    exact ⟨x, hx, y, hy, hxl.trans hyl.symm, hxm⟩

/-- The protections of AccessExpect.lean, for any location type and any assignment of
    protections to locations: if each row is covered by the protection stated for its location,
    the table obeys the lockset discipline. -/
theorem coveredBy_sound {ι : Type} [DecidableEq ι] (prot : ι → Protection) (T : List (Row ι Lock))
    (hT : T.all (fun r => coveredBy (prot r.loc) r) = true) : disciplined T = true := by
  simp only [disciplined, List.all_eq_true] at hT ⊢
  intro r hr s hs
  cases hc : rowConflict r s && concurrentRoles r.role s.role
  · simp only [pairOK, hc, Bool.not_false, Bool.true_or]
  simp only [rowConflict, concurrentRoles_iff, Bool.and_eq_true, Bool.or_eq_true, Bool.not_eq_true', beq_iff_eq,
    Bool.and_eq_false_iff] at hc
  obtain ⟨⟨⟨⟨⟨hloc, hw⟩, hat⟩, hfr⟩, hfs⟩, hri, hsi, hmm⟩ := hc
  have cr := hT r hr
  have cs := hloc ▸ hT s hs
  rw [pairOK, Bool.or_eq_true]
  right
  rcases hw with hw | hw
  · obtain ⟨x, hx, y, hy, hl, hm⟩ := lock_of_writer cr cs hfr hfs hri hsi hmm hat hw
    exact commonLock_of hx hy hl (Or.inl hm)
  · obtain ⟨y, hy, x, hx, hl, hm⟩ := lock_of_writer cs cr hfs hfr hsi hri hmm.symm hat.symm hw
    exact commonLock_of hx hy hl.symm (Or.inr hm)

theorem covered_eq (r : Row Loc Lock) : covered r = coveredBy (protection r.loc) r := by
  have hk : (!(r.kind == Kind.write)) = (r.kind == Kind.read) := by cases r.kind <;> rfl
  unfold covered coveredBy holds
  cases protection r.loc <;>
    simp only [hk, Bool.not_true, Bool.not_false, Bool.false_or, Bool.true_or, Bool.and_true]

/-- `coveredBy_sound` for the protections inferred from the regenerated table. -/
theorem protection_sound (T : List (Row Loc Lock)) (hT : T.all covered = true) :
    disciplined T = true :=
  coveredBy_sound protection T (funext covered_eq ▸ hT)

/-- The rows of a location are found once, not once per row. -/
theorem covered_of_blocks {ι : Type} [DecidableEq ι] (key : ι → Nat) (T : List (Row ι Lock))
    (hg : grouped key (blocks T) = true)
    (hc : (blocks T).all (fun R => R.all (coveredBy (inferFrom R))) = true) :
    T.all (fun r => coveredBy (inferFrom (T.filter (·.loc == r.loc))) r) = true := by
  rw [List.all_eq_true]
  intro r hr
  rw [← flatten_blocks T] at hr
  obtain ⟨R, hR, hrR⟩ := List.mem_flatten.mp hr
  have := filter_loc_of_grouped hg hR hrR
  rw [flatten_blocks] at this
  rw [this]
  exact List.all_eq_true.mp (List.all_eq_true.mp hc R hR) r hrR

/-- Every row of the regenerated table is an instance of the protection that
    HL/Generated/AccessExpect.lean states for its location (guarded by a named lock / atomic
    cell / immutable after initialisation / handler-thread only). -/
theorem table_covered : accessTable.all covered = true := by
  rw [funext covered_eq]
  exact covered_of_blocks Loc.ctorIdx accessTable (by decide +kernel) (by decide +kernel)

/-- The access table extracted from the current Go source obeys the lockset discipline:
    every two conflicting accesses that can be performed by two different threads hold a
    common lock, at least one exclusively. -/
theorem table_disciplined : disciplined accessTable = true :=
  protection_sound accessTable table_covered

theorem table_disciplined_by_protection : disciplined accessTable = true := table_disciplined

/-- The lock-acquisition nesting extracted from the source is acyclic (strictly ranked). -/
theorem lock_order_acyclic : acyclicBy lockRank lockOrder = true := by decide +kernel

/-- Facts about the source that the thread structure of the model relies on: the translator
    understood every construct and had complete type information; the jsonrpc2 handler is
    called inline (one `main` thread); NewServer and SetClient precede serving; the
    initialisation code starts no goroutine; lock-owning structs are only constructed during
    initialisation (so a lock field identifies one lock). -/
theorem translator_facts :
    unsupported = [] ∧ typeErrors = 0 ∧ serialHandler = true ∧ setClientBeforeServe = true ∧
    noSpawnInInit = true ∧ constructedOK = true := by
  refine ⟨by decide, by decide, by decide, by decide, by decide +kernel, by decide +kernel⟩

/-- The locations a background goroutine (publish / refresh) writes after publication, from the
    regenerated table.  Everything else a handler reads is written by the handler thread itself
    (or during initialisation), so a response can deviate from the one computed from the
    document state only through these: the settings and the CLI client (configuration,
    C19), the loader cache and limits (only consulted by loads), the workspace's
    declared-account / commodity caches (recomputed from the workspace state under its lock),
    and `Server.resolved` — the subject of `response_is_function_of_state` below. -/
def backgroundWrites : List Loc :=
  ((accessTable.filter fun r => (r.role == .publish || r.role == .refresh) && r.kind == .write && !r.fresh).map
    (·.loc)).eraseDups

/-- Whatever a background goroutine writes after publication is written under a lock that every
    other access of the location takes too, or through a `sync` type — no field is named here, so
    renaming or regrouping the fields changes nothing; `#eval backgroundWrites` lists them (for
    the current source: the loader cache and limits, `Server.cliClient`, `Server.resolved`,
    `Server.settings`, the workspace's declared-account / commodity caches). -/
theorem background_writes_protected :
    backgroundWrites.all (fun l => match protection l with
      | .guardedBy _ => true | .atomicCell => true | _ => false) = true := by
  decide +kernel

/-- The handlers that read `Server.resolved` (harness kinds completion / hover / definition /
    references; Rename, InlineCompletion and the accessor GetResolved are not exercised by the
    harness). -/
theorem resolved_readers :
    resolvedReaders = ["Completion", "Definition", "GetResolved", "Hover", "InlineCompletion",
      "References", "Rename"] := rfl

/-- What the transition system `HL.Bg` assumes about writers of `Server.resolved`, as a fact
    regenerated from the source: every call that can change the map (Store, Delete, ...; in the
    current source `dropDocCaches` — the delete at a version bump / close, events `change`,
    `close` — and `storeResolvedIfCurrent` — the version-checked store, event `finish` of a
    background task and the `store` access of a request) is made inside docVerMu, the lock
    under which the document's number is read and written.  A store outside it — the
    unconditional store of the pinned code, or a handler storing what it loaded without asking
    whether the document is still at that version — breaks this proof.  (Function names are
    not pinned: a rename does not.) -/
theorem resolved_mutators_versioned :
    resolvedMutators ≠ [] ∧ resolvedMutators.all (·.2) = true := by
  decide

/-- **C14, race part.**  Every pool of threads that is an instance of the extracted table —
    any number of publish and refresh goroutines, any interleaving with the serial handler
    thread — never reaches a state with a data race. -/
theorem server_race_free (P : Pool Loc Lock) (hC : Conforms accessTable P) (hW : WF P)
    {σ : State Lock} (hR : Reachable P σ) : ¬ Race P σ :=
  lockset_sound accessTable P hC hW table_disciplined hR

/-- **C14, blocking part.**  Every pool whose lock acquisitions nest as the extracted
    lock-order table says, and whose threads release their locks, can always make progress. -/
theorem server_deadlock_free (P : Pool Loc Lock) (hO : OrderConforms lockOrder P)
    (hB : Balanced P) {σ : State Lock} (hR : Reachable P σ) (hU : ∃ t, Unfinished P σ t) :
    (∃ t, Unfinished P σ t ∧ ¬ StrictBlocked P σ t) ∧ ∃ σ', Step P σ σ' :=
  ⟨no_deadlock lockOrder lockRank P hO lock_order_acyclic hB hR hU,
   progress lockOrder lockRank P hO lock_order_acyclic hB hR hU⟩

/-- The `Server.cliClient` rows of the table extracted from the source BEFORE
    commit e7bad11 of /repo (frozen copy): `reinitCLI` (reached from
    `refreshConfiguration`, a goroutine) wrote the field without a lock; `getCodeActions` and
    `ExecuteCommand` read it on the handler thread without a lock. -/
def unfixedCliClientRows : List (Row Nat Nat) := [
  ⟨0, .init, .write, [], false, true, ["server.NewServer server.go:43"]⟩,
  ⟨0, .init, .write, [], false, false, ["server.Server.reinitCLI server.go:49"]⟩,
  ⟨0, .main, .read, [], false, false, ["server.Server.ExecuteCommand code_action.go:79", "server.Server.getCodeActions code_action.go:41"]⟩,
  ⟨0, .refresh, .write, [], false, false, ["server.Server.reinitCLI server.go:49"]⟩]

/-- On the unfixed rows the discipline fails, and exactly for the predicted pairs: the handler
    thread's read against a refresh goroutine's write, and two refresh goroutines writing
    concurrently.  (Reproduced against the real code with `go test -race`; fixed by guarding
    the field with settingsMu.) -/
theorem unfixed_cliClient_race_detected :
    disciplined unfixedCliClientRows = false ∧
    (racePairs unfixedCliClientRows).map (fun p => (p.1.role, p.1.kind, p.2.role, p.2.kind)) =
      [(.main, .read, .refresh, .write), (.refresh, .write, .main, .read),
       (.refresh, .write, .refresh, .write)] := by
  constructor <;> decide +kernel

/-- ... and the race is real in the transition system: a pool conforming to the unfixed rows
    reaches a state in which the handler thread and a refresh goroutine are both about to
    touch the field. -/
def racyPool : Pool Nat Nat where
  prog := fun t => match t with
    | 0 => [.spawn 1]
    | 1 => [.spawn 2, .acc ⟨0, .read, false, false⟩]
    | 2 => [.acc ⟨0, .write, false, false⟩]
    | _ => []
  role := fun t => match t with
    | 0 => .init
    | 1 => .main
    | _ => .refresh

theorem unfixed_race_reachable : ∃ σ, Reachable racyPool σ ∧ Race racyPool σ := by
  let σ1 : State Nat := fire State.init 0 (.spawn 1 : Instr Nat Nat)
  let σ2 : State Nat := fire σ1 1 (.spawn 2 : Instr Nat Nat)
  have r1 : Reachable racyPool σ1 :=
    .step .init ⟨0, .spawn 1, rfl, rfl, trivial, rfl⟩
  have r2 : Reachable racyPool σ2 :=
    .step r1 ⟨1, .spawn 2, rfl, rfl, trivial, rfl⟩
  refine ⟨σ2, r2, 1, 2, ⟨0, .read, false, false⟩, ⟨0, .write, false, false⟩, by decide, rfl, rfl, rfl, rfl, ?_⟩
  exact ⟨rfl, Or.inr rfl, by decide, rfl, rfl⟩

section bg
open HL.Bg
variable {Text Res Resp : Type}

/-- What the locals of a request in progress hold: the text passed to the loader is the
    handler's `doc`, the tree about to be stored is the tree of `doc`. -/
def ReqOK (load : Text → Res) (r : Req Text Res) : Prop :=
  match r.pc with
  | .lookup | .version | .content _ => True
  | .load _ t => t = r.doc
  | .store _ res => res = load r.doc

/-- Invariant of the model (code with repo_patches/fix-resolved-pending.diff). -/
structure BgInv (load : Text → Res) (σ : St Text Res) : Prop where
  /-- numbers of tasks in flight were drawn from the counter; the task that carries a
      document's current number carries its current text -/
  tasks : ∀ u, ∀ k ∈ σ.pending u, 1 ≤ k.num ∧ k.num ≤ σ.seq ∧ (k.num = σ.ver u → σ.docs u = some k.text)
  verLe : ∀ u, σ.ver u ≤ σ.seq
  /-- the stored tree is never the tree of another text -/
  fresh : ∀ u, σ.resolved u = none ∨ ∃ t, σ.docs u = some t ∧ σ.resolved u = some (load t)
  /-- an open document has a number -/
  opened : ∀ u t, σ.docs u = some t → σ.ver u ≠ 0
  /-- the handler's local `doc` is the document's text for as long as the request lasts -/
  req : ∀ r, σ.req = some r → σ.docs r.uri = some r.doc ∧ ReqOK load r
  /-- every answer was computed with the tree of the text it was computed from -/
  answers : ∀ a ∈ σ.answers, a.tree = some (load a.doc)

theorem bgInv_answer {load : Text → Res} {σ : St Text Res} (h : BgInv load σ) (r : Req Text Res)
    (tree : Option Res) (ht : tree = some (load r.doc)) : BgInv load (answer σ r tree) := by
  obtain ⟨h1, h2, h3, h4, h5, h6⟩ := h
  refine ⟨h1, h2, h3, h4, ?_, ?_⟩
  · intro r' hr'; simp [answer] at hr'
  · intro a ha
    simp only [answer, List.mem_append, List.mem_singleton] at ha
    rcases ha with ha | rfl
    · exact h6 a ha
    · exact ht

theorem bgInv_setPc {load : Text → Res} {σ : St Text Res} (h : BgInv load σ) (r : Req Text Res)
    (pc : RPc Text Res) (hd : σ.docs r.uri = some r.doc) (hok : ReqOK load { r with pc := pc }) :
    BgInv load (setPc σ r pc) := by
  obtain ⟨h1, h2, h3, h4, h5, h6⟩ := h
  refine ⟨h1, h2, h3, h4, ?_, h6⟩
  intro r' hr'
  simp only [setPc, Option.some.injEq] at hr'
  subst hr'
  exact ⟨hd, hok⟩

theorem bgInv_setPending {load : Text → Res} {σ : St Text Res} (h : BgInv load σ) (u : Nat)
    (l : List (Bg.Task Text)) (hl : ∀ k' ∈ l, ∃ k ∈ σ.pending u, k'.text = k.text ∧ k'.num = k.num) :
    BgInv load { σ with pending := Bg.upd σ.pending u l } := by
  obtain ⟨h1, h2, h3, h4, h5, h6⟩ := h
  refine ⟨?_, h2, h3, h4, h5, h6⟩
  intro u' k' hk'
  simp only [Bg.upd] at hk'
  split at hk'
  · rename_i hu; subst hu
    obtain ⟨k, hk, ht, hn⟩ := hl k' hk'
    rw [ht, hn]; exact h1 _ k hk
  · exact h1 _ k' hk'

/-- `storeResolvedIfCurrent` with the tree of the current text of `u` -/
theorem bgInv_store {load : Text → Res} {σ : St Text Res} (h : BgInv load σ) (u : Nat) (t : Text)
    (c : Prop) [Decidable c] (hd : c → σ.docs u = some t) :
    BgInv load { σ with resolved := if c then Bg.upd σ.resolved u (some (load t)) else σ.resolved } := by
  obtain ⟨h1, h2, h3, h4, h5, h6⟩ := h
  refine ⟨h1, h2, ?_, h4, h5, h6⟩
  intro u'
  simp only
  split
  · simp only [Bg.upd]
    split
    · rename_i hv hu; subst hu
      exact Or.inr ⟨t, hd hv, rfl⟩
    · exact h3 u'
  · exact h3 u'

theorem bgInv_step (load : Text → Res) (σ : St Text Res) (e : Ev Text)
    (h : BgInv load σ) : BgInv load (step load true σ e) := by
  have hI := h
  obtain ⟨h1, h2, h3, h4, h5, h6⟩ := h
  cases e with
  | change u t =>
    -- the new number is above every number drawn so far, so no older task carries it; the tree is dropped
    simp only [step]
    split
    · exact hI
    · rename_i hr
      refine ⟨?_, ?_, ?_, ?_, ?_, h6⟩
      · intro u' k hk
        simp only [Bg.upd] at hk ⊢
        by_cases hu : u' = u
        · subst hu
          simp only [if_true, List.mem_append, List.mem_singleton] at hk ⊢
          rcases hk with hk | rfl
          · obtain ⟨a, b, _⟩ := h1 _ k hk
            exact ⟨a, by omega, fun he => by omega⟩
          · exact ⟨by simp, by simp, fun _ => rfl⟩
        · simp only [hu, if_false] at hk ⊢
          obtain ⟨a, b, c⟩ := h1 _ k hk
          exact ⟨a, by omega, c⟩
      · intro u'; have := h2 u'; simp only [Bg.upd]; split <;> omega
      · intro u'; simp only [Bg.upd]; split
        · exact Or.inl rfl
        · exact h3 u'
      · intro u' t'; simp only [Bg.upd]; split
        · intro _; omega
        · exact h4 u' t'
      · intro r hr'; simp [hr] at hr'
  | close u =>
    -- number 0 is carried by no task (numbers start at 1)
    simp only [step]
    split
    · exact hI
    · rename_i hr
      refine ⟨?_, ?_, ?_, ?_, ?_, h6⟩
      · intro u' k hk
        obtain ⟨a, b, c⟩ := h1 _ k hk
        refine ⟨a, b, ?_⟩
        simp only [Bg.upd]
        split
        · intro he; omega
        · exact c
      · intro u'; have := h2 u'; simp only [Bg.upd]; split <;> omega
      · intro u'; simp only [Bg.upd]; split
        · exact Or.inl rfl
        · exact h3 u'
      · intro u' t'; simp only [Bg.upd]; split
        · intro hc; cases hc
        · exact h4 u' t'
      · intro r hr'; simp [hr] at hr'
  | config b => exact ⟨h1, h2, h3, h4, h5, h6⟩
  | start u i =>
    simp only [step]
    split
    · exact hI
    · rename_i k hg
      have hmem : k ∈ σ.pending u := List.mem_of_getElem? hg
      split
      · exact hI
      · split
        · exact bgInv_setPending hI u _ fun k' hk' => (List.mem_or_eq_of_mem_set hk').elim
            (fun h => ⟨k', h, rfl, rfl⟩) (fun h => ⟨k, hmem, by rw [h], by rw [h]⟩)
        · exact bgInv_setPending hI u _ fun k' hk' => ⟨k', List.mem_of_mem_eraseIdx hk', rfl, rfl⟩
  | finish u i =>
    simp only [step]
    split
    · exact hI
    · rename_i k hg
      have hmem : k ∈ σ.pending u := List.mem_of_getElem? hg
      split
      · -- the task that carries the current number carries the current text
        exact bgInv_setPending (bgInv_store hI u k.text _ (h1 _ k hmem).2.2) u _
          fun k' hk' => ⟨k', List.mem_of_mem_eraseIdx hk', rfl, rfl⟩
      · exact hI
  | req u =>
    simp only [step]
    split
    · rename_i t hr hd
      refine ⟨h1, h2, h3, h4, ?_, h6⟩
      intro r hr'
      simp only [Option.some.injEq] at hr'
      subst hr'
      exact ⟨hd, trivial⟩
    · exact hI
  | adv =>
    simp only [step]
    split
    · exact hI
    · rename_i r hr
      obtain ⟨hd, hok⟩ := h5 r hr
      unfold advance
      split
      · -- lookup: a stored tree is the tree of the document's text (`fresh`), which is the handler's `doc`
        split
        · rename_i tree hres
          apply bgInv_answer hI
          rcases h3 r.uri with hn | ⟨t, ht, hr3⟩
          · rw [hn] at hres; cases hres
          · rw [hd] at ht; cases ht
            rw [hres] at hr3; exact hr3
        · simp only [if_true]
          exact bgInv_setPc hI r _ hd trivial
      · -- version: an open document has a number (`opened`)
        split
        · rename_i hv
          exact absurd hv (h4 _ _ hd)
        · exact bgInv_setPc hI r _ hd trivial
      · -- content: the text read is the handler's `doc` (`req`)
        split
        · rename_i hn; rw [hd] at hn; cases hn
        · rename_i t ht
          rw [hd] at ht; cases ht
          exact bgInv_setPc hI r _ hd rfl
      · -- load: what is loaded is `doc`, by `ReqOK`
        rename_i v t hpc
        have : t = r.doc := by simpa [ReqOK, hpc] using hok
        subst this
        exact bgInv_setPc hI r _ hd rfl
      · -- store: the tree is that of `doc`, the document's text, whether it is kept or not
        rename_i v res hpc
        have hres : res = load r.doc := by simpa [ReqOK, hpc] using hok
        subst hres
        exact bgInv_answer (bgInv_store hI r.uri r.doc _ fun _ => hd) r _ rfl

theorem bgInv_init (load : Text → Res) : BgInv load (St.init : St Text Res) where
  tasks := by intro u k hk; simp [St.init] at hk
  verLe := by simp [St.init]
  fresh := fun _ => Or.inl rfl
  opened := by intro u t h; simp [St.init] at h
  req := by intro r h; simp [St.init] at h
  answers := by intro a h; simp [St.init] at h

theorem bgInv_run (load : Text → Res) (es : List (Ev Text)) : BgInv load (run load true es) := by
  unfold run
  suffices ∀ σ : St Text Res, BgInv load σ → BgInv load (es.foldl (step load true) σ) from
    this _ (bgInv_init load)
  induction es with
  | nil => intro σ h; exact h
  | cons e r ih => intro σ h; exact ih _ (bgInv_step load σ e h)

theorem advance_shape (load : Text → Res) (fixed : Bool) (σ : St Text Res) (r : Req Text Res) :
    (∃ pc, (advance load fixed σ r).req = some { r with pc := pc } ∧ (advance load fixed σ r).answers = σ.answers) ∨
    (∃ tree, (advance load fixed σ r).req = none ∧ (advance load fixed σ r).answers = σ.answers ++ [⟨r.uri, r.doc, tree⟩]) := by
  unfold advance
  split
  · split
    · exact Or.inr ⟨_, rfl, rfl⟩
    · split
      · exact Or.inl ⟨_, rfl, rfl⟩
      · exact Or.inr ⟨_, rfl, rfl⟩
  · split
    · exact Or.inr ⟨_, rfl, rfl⟩
    · exact Or.inl ⟨_, rfl, rfl⟩
  · split
    · exact Or.inr ⟨_, rfl, rfl⟩
    · exact Or.inl ⟨_, rfl, rfl⟩
  · exact Or.inl ⟨_, rfl, rfl⟩
  · exact Or.inr ⟨_, rfl, rfl⟩

/-- Only an access of the handler thread touches the answers or a request in progress. -/
theorem step_frame (load : Text → Res) (fixed : Bool) (σ : St Text Res) (e : Ev Text) :
    (∃ r, σ.req = some r ∧ step load fixed σ e = advance load fixed σ r) ∨
    ((step load fixed σ e).answers = σ.answers ∧ ∀ r, σ.req = some r → (step load fixed σ e).req = some r) := by
  cases e with
  | adv =>
    cases h : σ.req with
    | none => exact Or.inr ⟨by simp only [step, h], nofun⟩
    | some r => exact Or.inl ⟨r, rfl, by simp only [step, h]⟩
  | req u =>
    right; simp only [step]
    split
    · next h _ => exact ⟨rfl, fun r hr => absurd (h ▸ hr) nofun⟩
    · exact ⟨rfl, fun _ h => h⟩
  | config b => exact Or.inr ⟨rfl, fun _ h => h⟩
  | _ => right; simp only [step]; repeat' split
         all_goals exact ⟨rfl, fun _ h => h⟩

/-- The request taken on `u` with text `t` when `n` answers had been given is still being
    answered, or the `n`-th answer is its answer. -/
def Tracks (σ : St Text Res) (u : Nat) (t : Text) (n : Nat) : Prop :=
  (∃ r, σ.req = some r ∧ r.uri = u ∧ r.doc = t ∧ σ.answers.length = n) ∨
  (∃ a, σ.answers[n]? = some a ∧ a.uri = u ∧ a.doc = t)

theorem tracks_step (load : Text → Res) (fixed : Bool) (σ : St Text Res) (e : Ev Text) (u : Nat) (t : Text)
    (n : Nat) (h : Tracks σ u t n) : Tracks (step load fixed σ e) u t n := by
  rcases step_frame load fixed σ e with ⟨r, hr, he⟩ | ⟨ha, hq⟩
  · -- the handler thread moves: the request goes on, or is answered with one more answer
    rw [he]
    rcases advance_shape load fixed σ r with ⟨pc, h1, h2⟩ | ⟨tree, h1, h2⟩ <;>
      rcases h with ⟨r', hr', hu, hd, hn⟩ | ⟨a, ha, hu, hd⟩
    · cases hr.symm.trans hr'; exact Or.inl ⟨_, h1, hu, hd, h2 ▸ hn⟩
    · exact Or.inr ⟨a, h2 ▸ ha, hu, hd⟩
    · cases hr.symm.trans hr'
      exact Or.inr ⟨_, by rw [h2, ← hn, List.getElem?_concat_length], hu, hd⟩
    · exact Or.inr ⟨a, by rw [h2, List.getElem?_append_left (List.getElem?_eq_some_iff.mp ha).1]; exact ha, hu, hd⟩
  · rcases h with ⟨r, hr, hu, hd, hn⟩ | ⟨a, h, hu, hd⟩
    · exact Or.inl ⟨r, hq r hr, hu, hd, ha ▸ hn⟩
    · exact Or.inr ⟨a, ha ▸ h, hu, hd⟩

theorem tracks_foldl (load : Text → Res) (fixed : Bool) (es : List (Ev Text)) (σ : St Text Res) (u : Nat)
    (t : Text) (n : Nat) (h : Tracks σ u t n) : Tracks (es.foldl (step load fixed) σ) u t n := by
  induction es generalizing σ with
  | nil => exact h
  | cons e r ih => exact ih _ (tracks_step load fixed σ e u t n h)

theorem run_append (load : Text → Res) (fixed : Bool) (es es' : List (Ev Text)) :
    run load fixed (es ++ es') = es'.foldl (step load fixed) (run load fixed es) := by
  simp [run, List.foldl_append]

/-- **The stored include tree is never the tree of another text** (the protection of fix
    5fbc2c6, kept).  For every history of opens / changes / closes / requests / configuration
    changes and every scheduling of the background tasks: `Server.resolved[u]` is absent or is
    the tree loaded from the CURRENT text of `u`. -/
theorem resolved_never_stale (load : Text → Res) (es : List (Ev Text)) (u : Nat) :
    (run load true es).resolved u = none ∨
    ∃ t, (run load true es).docs u = some t ∧ (run load true es).resolved u = some (load t) :=
  (bgInv_run load es).fresh u

/-- The text a request in progress works with is the document's text, in every state until the
    answer (no notification is handled while a request is being answered). -/
theorem request_text_is_current (load : Text → Res) (es : List (Ev Text)) (r : Req Text Res)
    (hr : (run load true es).req = some r) : (run load true es).docs r.uri = some r.doc :=
  ((bgInv_run load es).req r hr).1

/-- Every answer ever given was computed with the include tree of the text it was computed
    from — never without a tree, never with the tree of another text. -/
theorem every_answer_uses_tree_of_its_text (load : Text → Res) (es : List (Ev Text))
    (a : Answer Text Res) (ha : a ∈ (run load true es).answers) : a.tree = some (load a.doc) :=
  (bgInv_run load es).answers a ha

/-- **Responses are a function of the state at the moment the request was taken** — in full,
    no guard.  For every trace `es` (any number of documents, changes, closes, earlier requests,
    background tasks in any interleaving, diagnostics switched off and on) after which the
    handler thread is free and document `u` is open with text `t`, and for every continuation
    `mid` (the background tasks and configuration changes that run while the request is being
    answered, and whatever follows): the answer to the request taken at that moment — the
    first answer after those given before — is the handler applied to `t` and the include
    tree of `t`, i.e. `specRespond` in the state in which the request was taken. -/
theorem response_is_function_of_state (load : Text → Res) (h : Text → Option Res → Resp)
    (es mid : List (Ev Text)) (u : Nat) (t : Text) (a : Answer Text Res)
    (idle : (run load true es).req = none) (hd : (run load true es).docs u = some t)
    (ha : (run load true (es ++ .req u :: mid)).answers[(run load true es).answers.length]? = some a) :
    a.uri = u ∧ some (a.response h) = specRespond load h (run load true es) u := by
  have h0 : Tracks (step load true (run load true es) (.req u)) u t (run load true es).answers.length := by
    simp only [step, idle, hd]
    exact Or.inl ⟨_, rfl, rfl, rfl, rfl⟩
  have h1 := tracks_foldl load true mid _ u t _ h0
  have e : run load true (es ++ .req u :: mid)
      = mid.foldl (step load true) (step load true (run load true es) (.req u)) := by
    rw [run_append]; rfl
  rw [← e] at h1
  rcases h1 with ⟨r, _, _, _, hn⟩ | ⟨a', ha', hu', hd'⟩
  · rw [List.getElem?_eq_none (by omega)] at ha; cases ha
  · rw [ha] at ha'; cases ha'
    have := every_answer_uses_tree_of_its_text load (es ++ .req u :: mid) a (List.mem_of_getElem? ha)
    exact ⟨hu', by simp [Answer.response, specRespond, hd, this, hd']⟩

/-- ... and the request is answered: five accesses of the handler thread after it was taken, at
    the latest, whatever the background does in between (here: a task of the document reads
    the settings, loads and stores, another document changes... the hypotheses of the theorem
    are met by a trace in which every kind of event occurs).  Non-vacuity. -/
example :
    let load := fun t : Nat => t + 100
    let es : List (Ev Nat) := [.change 0 1, .change 1 5, .start 1 0, .config false, .change 0 2, .start 0 1]
    let mid : List (Ev Nat) := [.adv, .start 0 0, .adv, .config true, .finish 1 0, .adv, .change 0 9, .adv,
      .finish 0 0, .adv, .change 0 3]
    (run load true es).req = none ∧ (run load true es).docs 0 = some 2 ∧
    (run load true es).resolved 0 = none ∧ (run load true es).pending 0 = [⟨1, 1, false⟩] ∧
    (run load true (es ++ .req 0 :: mid)).answers = [⟨0, 2, some 102⟩] ∧
    (run load true (es ++ .req 0 :: mid)).docs 0 = some 3 := by
  decide +kernel

/-- The repaired window, diagnostics on: a request taken right after a change, before the
    task of that change has run, is answered with the tree of the new text, and the tree is
    kept; the task of the OLDER text that finishes afterwards does not replace it. -/
example :
    let load := fun t : Nat => t + 100
    let es : List (Ev Nat) := [.change 0 1, .start 0 0, .change 0 2, .req 0, .adv, .adv, .adv, .adv, .adv, .finish 0 0]
    (run load true es).answers = [⟨0, 2, some 102⟩] ∧ (run load true es).resolved 0 = some 102 := by
  decide +kernel

/-- The code before repo_patches/fix-resolved-pending.diff (`fixed := false`): a request handled
    before the task of the current content has stored its tree was answered by the fall-back,
    without the included files; the same trace on the repaired code (which needs four more
    accesses) answers with the tree of the current text. -/
theorem pinned_resolved_pending_counterexample :
    let load := fun t : Nat => t + 100
    let h := fun (t : Nat) (r : Option Nat) => (t, r)
    let es : List (Ev Nat) := [.change 0 1, .start 0 0, .finish 0 0, .change 0 2]
    (run load false (es ++ [.req 0, .adv])).answers.map (·.response h) = [(2, none)] ∧
    specRespond load h (run load false es) 0 = some (2, some 102) ∧
    (run load true (es ++ [.req 0, .adv, .adv, .adv, .adv, .adv])).answers.map (·.response h) = [(2, some 102)] := by
  decide +kernel

/-- ... and with diagnostics switched off the task ended without loading, so the fall-back
    stayed for good; the repaired code loads in the handler, and keeps the tree. -/
theorem pinned_resolved_pending_after_skip_counterexample :
    let load := fun t : Nat => t + 100
    let h := fun (t : Nat) (r : Option Nat) => (t, r)
    let es : List (Ev Nat) := [.change 0 1, .start 0 0, .finish 0 0, .config false, .change 0 2, .start 0 0]
    (run load false es).pending 0 = [] ∧
    (run load false (es ++ [.req 0, .adv])).answers.map (·.response h) = [(2, none)] ∧
    specRespond load h (run load false es) 0 = some (2, some 102) ∧
    (run load true (es ++ [.req 0, .adv, .adv, .adv, .adv, .adv])).answers.map (·.response h) = [(2, some 102)] ∧
    (run load true (es ++ [.req 0, .adv, .adv, .adv, .adv, .adv])).resolved 0 = some 102 := by
  decide +kernel

end bg

/-- locks in the order in which they may be taken (ascending rank) -/
def insertLock (x : Lock × Mode) : List (Lock × Mode) → List (Lock × Mode)
  | [] => [x]
  | y :: r => if lockRank x.1 ≤ lockRank y.1 then x :: y :: r else y :: insertLock x r

def sortLocks (ls : List (Lock × Mode)) : List (Lock × Mode) := ls.foldl (fun acc x => insertLock x acc) []

/-- the program "take the row's locks, perform its access, release them" -/
def progOf (r : Row Loc Lock) : List (Instr Loc Lock) :=
  let ls := sortLocks r.locks
  ls.map (fun x => Instr.acq x.1 x.2) ++ [.acc ⟨r.loc, r.kind, r.atomic, r.fresh⟩] ++
    ls.reverse.map (fun x => Instr.rel x.1)

def pickRow (role : Role) (p : Row Loc Lock → Bool) : List (Instr Loc Lock) :=
  match accessTable.find? (fun r => r.role == role && p r) with
  | some r => progOf r
  | none => []

/-- A small instance of the server, built from rows of the regenerated table (no field or mutex
    is named): initialisation performs a write and starts the handler thread; the handler
    performs a locked access, starts a refresh and a publish goroutine and performs a locked
    write; refresh performs a write under two nested locks; publish a locked read and a write. -/
def demoPool : Pool Loc Lock where
  prog := fun t => match t with
    | 0 => pickRow .init (fun r => r.kind == .write) ++ [.spawn 1]
    | 1 => pickRow .main (fun r => r.locks.length ≥ 1) ++ [.spawn 2, .spawn 3] ++
           pickRow .main (fun r => r.kind == .write && r.locks.length ≥ 1)
    | 2 => pickRow .refresh (fun r => r.kind == .write && r.locks.length ≥ 2)
    | 3 => pickRow .publish (fun r => r.kind == .read && r.locks.length ≥ 1) ++
           pickRow .publish (fun r => r.kind == .write && r.locks.length ≥ 1)
    | _ => []
  role := fun t => match t with
    | 0 => .init
    | 1 => .main
    | 2 => .refresh
    | _ => .publish

def hasAccess (p : List (Instr Loc Lock)) : Bool := p.any fun i => match i with | .acc _ => true | _ => false

/-- executable form of `Conforms` for one program -/
def progConforms (T : List (Row Loc Lock)) (role : Role) (p : List (Instr Loc Lock)) : Bool :=
  (List.range p.length).all fun n =>
    match p[n]? with
    | some (.acc a) => T.any fun r => r.role == role && r.loc == a.loc && r.kind == a.kind &&
        r.atomic == a.atomic && r.fresh == a.fresh &&
        r.locks.all fun x => (heldAfter (p.take n)).contains x
    | _ => true

def progOrder (O : List (Lock × Lock)) (p : List (Instr Loc Lock)) : Bool :=
  (List.range p.length).all fun n =>
    match p[n]? with
    | some (.acq l _) => (heldAfter (p.take n)).all fun x => O.contains (x.1, l)
    | _ => true

example : (List.range 4).all (fun t => progConforms accessTable (demoPool.role t) (demoPool.prog t)
    && progOrder lockOrder (demoPool.prog t) && (heldAfter (demoPool.prog t)).isEmpty
    && hasAccess (demoPool.prog t)) = true := by
  decide +kernel

/-- …and the instance is not degenerate: the refresh thread really nests two locks. -/
example : ((demoPool.prog 2).filter fun i => match i with | .acq _ _ => true | _ => false).length ≥ 2 := by
  decide +kernel

end HL.Props.C14
