/-
  C03 (shared with C06, C07, C08, C17) — CRLF line ends are line ends.

  The repaired lexer (internal/parser/lexer.go, `atLineEnd`; model HL/Model/Lexer.lean `atEol`)
  treats a carriage return that is directly followed by a line feed as part of the line end.
  `crlf_is_lf`: for EVERY byte string without a carriage return (invalid UTF-8, unterminated
  constructs, any number of lines, with or without a final line end) and every classifier, the
  token stream of the text with every LF replaced by CR LF is the token stream of the text
  itself — same token types, same values, same lines and columns — with every byte offset moved
  by the number of line ends in front of it.  Helper lemmas: HL/Lemmas/LexExt.lean (every scan
  function, loop and look-ahead in front of two different line ends), HL/Lemmas/LexCrlfLine.lean
  (one line), HL/Lemmas/LexCrlfFile.lean (composition with line-locality).  On the pinned lexer this was false: `HL.Props.C03Cex.pinned_crlf_line_ends_counterexample`.
-/
import HL.Lemmas.LexCrlfFile
import HL.Lemmas.GCoreCrlf
import HL.Props.C03Faithful
namespace HL.Props.C03
open HL HL.Lex

/-- **crlf_is_lf.**  Lexing `t` with every LF replaced by CR LF yields the tokens of `t` with
    every offset moved by the number of preceding line ends (`crShift`: a position on line `n`
    is `n − 1` bytes further on; type, value, line and column of every token are unchanged; a
    Newline token starts at the CR and ends behind the LF).  No guard but the absence of CR in
    `t`: all byte strings, all classifiers. -/
theorem crlf_is_lf (C : Classes) (t : Bytes) (h : (0x0D : UInt8) ∉ t) :
    lexAll C (toCrlf t) = (lexAll C t).map crShift :=
  lexAll_crlf C t h

/-- What `crShift` does to a token, spelled out. -/
theorem crShift_spec (x : Token) :
    (crShift x).ty = x.ty ∧ (crShift x).val = x.val ∧
    (crShift x).pos.line = x.pos.line ∧ (crShift x).pos.col = x.pos.col ∧
    (crShift x).stop.line = x.stop.line ∧ (crShift x).stop.col = x.stop.col ∧
    (crShift x).pos.off = x.pos.off + (x.pos.line - 1) ∧
    (crShift x).stop.off = x.stop.off + (x.stop.line - 1) :=
  ⟨rfl, rfl, rfl, rfl, rfl, rfl, rfl, rfl⟩

/-- Consequently the parser, which never looks at offsets, is handed the same token types, values,
    lines and columns for the CRLF text as for the LF text. -/
theorem crlf_same_tokens (C : Classes) (t : Bytes) (h : (0x0D : UInt8) ∉ t) :
    (lexAll C (toCrlf t)).map (fun x => (x.ty, x.val, x.pos.line, x.pos.col, x.stop.line, x.stop.col)) =
    (lexAll C t).map (fun x => (x.ty, x.val, x.pos.line, x.pos.col, x.stop.line, x.stop.col)) := by
  rw [crlf_is_lf C t h, List.map_map]
  rfl

/-- **Mixed line ends.**  The same for the whole domain "CR only as part of CRLF" — LF files,
    CRLF files and files that mix the two line ends: for every byte string `t` in which every
    carriage return is directly followed by a line feed (`CrOk`) and every classifier, the token
    stream of `t` is the token stream of `t` without its carriage returns — same types, values,
    lines and columns — with every offset moved by the number of carriage returns in front of
    the position's line (`mixShift t`). -/
theorem crlf_mixed_is_lf (C : Classes) (t : Bytes) (h : CrOk t = true) :
    lexAll C t = (lexAll C (dropCR t)).map (mixShift t) :=
  lexAll_mixed C t h

/-- One line (the core of the proof, for every lexer state): with `s ++ "\n"` ahead and neither
    CR nor LF in `s`, lexing `s ++ "\r\n"` instead gives the same tokens; only the end of the
    Newline token and the EOF token lie one byte further on. -/
theorem crlf_is_lf_one_line (C : Classes) (z : Z) (s : Bytes) (hz : z.after = s ++ [0x0A])
    (h1 : (0x0A : UInt8) ∉ s) (h2 : (0x0D : UInt8) ∉ s) :
    lexS C { z with after := s ++ [0x0D, 0x0A] } = (lexS C z).map (crLine z.line) := by
  have hol : OL z := ⟨s, hz, h1, h2⟩
  have : ({ z with after := s ++ [0x0D, 0x0A] } : Z) = z.crx := by
    simp only [Z.crx, hz, crx_append]
  rw [this]
  exact lexS_crx C _ hol (Nat.le_refl _)

open HL.Parser (crlfShift crShift_eq_tok)

/-- **CRLF is LF, for the whole of `parser.Parse`.**  For every byte string `t` without a carriage
    return — any text at all: journals inside and outside grammar G, malformed text, invalid
    UTF-8 — and every classifier: parsing `t` with every LF replaced by CR LF yields the syntax
    tree and the error list of `t` itself, with every position moved by `crlfShift` (same lines
    and columns, offsets grown by the number of preceding line ends) and nothing else changed:
    the same transactions, postings, amounts, comments, tags and directives, the same error
    messages.  In particular a journal parses silently with LF line ends iff it does with CRLF
    line ends. -/
theorem crlf_parse_is_lf (C : Classes) (t : Bytes) (h : (0x0D : UInt8) ∉ t) :
    HL.Pipeline.parseText C (toCrlf t) =
      (crlfShift.journal (HL.Pipeline.parseText C t).1, (HL.Pipeline.parseText C t).2.map crlfShift.perr) := by
  unfold HL.Pipeline.parseText
  rw [crlf_is_lf C t h]
  have : (lexAll C t).map crShift = (lexAll C t).map crlfShift.tok :=
    List.map_congr_left fun x _ => crShift_eq_tok x
  rw [this]
  exact HL.Parser.parseTokens_shift _ _ crlfShift _

theorem crlf_same_errors (C : Classes) (t : Bytes) (h : (0x0D : UInt8) ∉ t) :
    (HL.Pipeline.parseText C (toCrlf t)).2 = [] ↔ (HL.Pipeline.parseText C t).2 = [] := by
  rw [crlf_parse_is_lf C t h]
  simp

/-- **C03 for the core grammar with CRLF line ends.**  Every well-formed `GCore` journal — any
    number of transactions and postings, names, words and digit strings of any length — printed
    with `"\r\n"` line ends (`GCore.printC true`) parses without a single error to exactly the
    tree that text was written from (`GCore.expectedC true`: the nodes, lines and columns of the
    LF tree, every offset counted in the CRLF text), for every classifier that gets the ASCII
    letters right.  Composition of `C03_faithful_core` with `crlf_parse_is_lf`. -/
theorem C03_faithful_core_crlf_classes (C : Classes) (hC : GCore.ClassesOk C = true) (j : GCore.Journal)
    (h : GCore.WF j = true) :
    HL.Pipeline.parseText C (GCore.printC true j) = (GCore.expectedC true j, []) := by
  rw [GCore.printC_true j h, crlf_parse_is_lf C _ (GCore.print_noCR j h), GCore.expectedC_true,
    C03_faithful_core_classes C hC j h]
  rfl

theorem C03_faithful_core_crlf (j : GCore.Journal) (h : GCore.WF j = true) :
    HL.Pipeline.parseText Classes.go (GCore.printC true j) = (GCore.expectedC true j, []) :=
  C03_faithful_core_crlf_classes Classes.go classesOk_go j h

/-- With LF line ends `printC` / `expectedC` are `print` / `expected`: the statement above for
    `cr = false` is `C03_faithful_core`. -/
theorem printC_expectedC_false (j : GCore.Journal) :
    GCore.printC false j = GCore.print j ∧ GCore.expectedC false j = GCore.expected j :=
  ⟨GCore.printC_false j, GCore.expectedC_false j⟩

/-- non-vacuity: a two-transaction journal with every optional part, by evaluation of the model -/
example :
    let j : GCore.Journal := [
      { date := ⟨[50, 48, 50, 52], [48, 49], [49, 53]⟩
        words := [[103, 114, 111, 99, 101, 114, 121], [115, 116, 111, 114, 101]]
        postings := [
          ⟨[[97, 115, 115, 101, 116, 115], [99, 97, 115, 104]], some ⟨true, [49, 50], some [53, 48], some [85, 83, 68]⟩⟩,
          ⟨[[101, 120, 112, 101, 110, 115, 101, 115], [102, 111, 111, 100], [120]], none⟩] },
      { date := ⟨[50, 48, 50, 52], [48, 50], [48, 49]⟩
        words := [[114, 101, 110, 116]]
        postings := [
          ⟨[[97], [98]], some ⟨false, [49, 50, 48, 48], none, none⟩⟩,
          ⟨[[99], [100]], some ⟨false, [48], some [49, 50, 53], some [69]⟩⟩] }]
    GCore.WF j = true ∧ (GCore.printC true j).length = (GCore.print j).length + 7 ∧
      HL.Pipeline.parseText Classes.go (GCore.printC true j) = (GCore.expectedC true j, []) := by
  decide +kernel

/-- Non-vacuity, evaluated by the kernel: a three-line journal with a comment, a code, a quoted
    commodity and a line without a final line end. -/
example :
    let t : Bytes := asc "2024-01-15 * (c1) shop | note ; k:v\n    a:b  1 \"X Y\" @ 2 USD  ; c\n\n    (c:d)  -3 EUR"
    (0x0D : UInt8) ∉ t ∧ lexAll Classes.go (toCrlf t) = (lexAll Classes.go t).map crShift ∧
      (lexAll Classes.go t).length = 26 := by decide +kernel

end HL.Props.C03
