/-
  C03 — kernel-checked counterexamples for the open findings (and, about the pinned lexer, for
  the repaired ones), and end-to-end examples.
  (The line-shape lemmas of the parser are in HL/Props/C03.lean.)

  Each journal of a `…_counterexample` below is derivable from grammar G (DESIGN.md 4.2) and the
  model of `parser.Parse` (lexer model composed with parser model, with the Unicode classifier of
  the Go toolchain) reports a syntax error on it; the same shapes fail on the real parser
  (witnesses under replays/C03/, replayed on every run).  The `…_parses` theorems and the last
  example are texts that do parse, evaluated the same way.
-/
import HL.Model.Pipeline
import HL.Model.LexerPinned
namespace HL.Props.C03Cex
open HL

/-- finding `description-first-word-decides-token`: a description that is an all-caps word is lexed as a commodity symbol (`2024-01-15 ACME\n    a:b  1 USD\n    c:d\n`). -/
theorem description_first_word_counterexample :
    (HL.Pipeline.parseText Classes.go [50, 48, 50, 52, 45, 48, 49, 45, 49, 53, 32, 65, 67, 77, 69, 10, 32, 32, 32, 32, 97, 58, 98, 32, 32, 49, 32, 85, 83, 68, 10, 32, 32, 32, 32, 99, 58, 100, 10]).2 ≠ [] := by decide +kernel

/-- finding `description-first-word-decides-token`: a description with a leading digit is lexed as a number (`2024-01-15 7-Eleven\n    a:b  1 USD\n    c:d\n`). -/
theorem description_leading_digit_counterexample :
    (HL.Pipeline.parseText Classes.go [50, 48, 50, 52, 45, 48, 49, 45, 49, 53, 32, 55, 45, 69, 108, 101, 118, 101, 110, 10, 32, 32, 32, 32, 97, 58, 98, 32, 32, 49, 32, 85, 83, 68, 10, 32, 32, 32, 32, 99, 58, 100, 10]).2 ≠ [] := by decide +kernel

/-- finding `description-first-word-decides-token`: a description containing a colon is lexed as an account name (`2024-01-15 shop: food\n    a:b  1 USD\n    c:d\n`). -/
theorem description_colon_counterexample :
    (HL.Pipeline.parseText Classes.go [50, 48, 50, 52, 45, 48, 49, 45, 49, 53, 32, 115, 104, 111, 112, 58, 32, 102, 111, 111, 100, 10, 32, 32, 32, 32, 97, 58, 98, 32, 32, 49, 32, 85, 83, 68, 10, 32, 32, 32, 32, 99, 58, 100, 10]).2 ≠ [] := by decide +kernel

/-- The journal of the repaired finding `crlf-line-ends`
    (`2024-01-15 x\r\n    a:b  1 USD\r\n    c:d\r\n`). -/
def crlfJournal : Bytes := [50, 48, 50, 52, 45, 48, 49, 45, 49, 53, 32, 120, 13, 10, 32, 32, 32, 32, 97, 58, 98, 32, 32, 49, 32, 85, 83, 68, 13, 10, 32, 32, 32, 32, 99, 58, 100, 13, 10]

/-- Repaired finding `crlf-line-ends`: a journal with CRLF line ends parses silently, and its
    tree has the one transaction with both postings (the general statements are
    `HL.Props.C03.crlf_is_lf` and `HL.Props.C03.C03_faithful_core_crlf`). -/
theorem crlf_line_ends_parses :
    (HL.Pipeline.parseText Classes.go crlfJournal).2 = [] ∧
    (HL.Pipeline.parseText Classes.go crlfJournal).1.transactions.map (·.postings.length) = [2] := by
  decide +kernel

/-- What the PINNED lexer (HL/Model/LexerPinned.lean: only LF ends a line) did on the same journal:
    the CR behind `USD` became a Text token with an empty value, the parser reported an error on
    the first posting line and the transaction lost its second posting. -/
theorem pinned_crlf_line_ends_counterexample :
    let r := HL.Parser.parseTokens HL.Parser.defaultNumDeps (HL.Pipeline.parserClasses Classes.go)
      (HL.Lex.Pinned.lexAll Classes.go crlfJournal)
    r.2 ≠ [] ∧ r.1.transactions.map (·.postings.length) = [1] ∧
    ((HL.Lex.Pinned.lexAll Classes.go crlfJournal).filter
      (fun t => t.ty == .text && t.val.isEmpty)).length = 2 := by
  decide +kernel

/-- finding `text-commodity-swallows-rest-of-line`: a lower-case right commodity is free text that runs over the cost (`2024-01-15 x\n    a:b  2 hours @ 10 USD\n    c:d\n`). -/
theorem text_commodity_swallows_counterexample :
    (HL.Pipeline.parseText Classes.go [50, 48, 50, 52, 45, 48, 49, 45, 49, 53, 32, 120, 10, 32, 32, 32, 32, 97, 58, 98, 32, 32, 50, 32, 104, 111, 117, 114, 115, 32, 64, 32, 49, 48, 32, 85, 83, 68, 10, 32, 32, 32, 32, 99, 58, 100, 10]).2 ≠ [] := by decide +kernel

/-- finding `sign-before-spaced-letter-commodity`: a sign before a letter commodity followed by a blank is not a sign (`2024-01-15 x\n    a:b  -USD 1\n    c:d\n`). -/
theorem sign_before_spaced_commodity_counterexample :
    (HL.Pipeline.parseText Classes.go [50, 48, 50, 52, 45, 48, 49, 45, 49, 53, 32, 120, 10, 32, 32, 32, 32, 97, 58, 98, 32, 32, 45, 85, 83, 68, 32, 49, 10, 32, 32, 32, 32, 99, 58, 100, 10]).2 ≠ [] := by decide +kernel

/-- finding `digit-ending-account-before-commodity`: the look-behind sees the digit ending the account name (`2024-01-15 x\n    a:b2  USD5\n    c:d\n`). -/
theorem digit_ending_account_counterexample :
    (HL.Pipeline.parseText Classes.go [50, 48, 50, 52, 45, 48, 49, 45, 49, 53, 32, 120, 10, 32, 32, 32, 32, 97, 58, 98, 50, 32, 32, 85, 83, 68, 53, 10, 32, 32, 32, 32, 99, 58, 100, 10]).2 ≠ [] := by decide +kernel

/-- finding `directive-commodity-not-upper-case`: a price directive for a lower-case commodity (`P 2024-01-15 hrs 5 USD\n`). -/
theorem directive_commodity_counterexample :
    (HL.Pipeline.parseText Classes.go [80, 32, 50, 48, 50, 52, 45, 48, 49, 45, 49, 53, 32, 104, 114, 115, 32, 53, 32, 85, 83, 68, 10]).2 ≠ [] := by decide +kernel

/-- finding `trailing-mark-then-word-commodity`: after a trailing mark the commodity word is not seen as following an amount (`2024-01-15 x\n    a:b  5. C7x\n    c:d\n`). -/
theorem trailing_mark_commodity_counterexample :
    (HL.Pipeline.parseText Classes.go [50, 48, 50, 52, 45, 48, 49, 45, 49, 53, 32, 120, 10, 32, 32, 32, 32, 97, 58, 98, 32, 32, 53, 46, 32, 67, 55, 120, 10, 32, 32, 32, 32, 99, 58, 100, 10]).2 ≠ [] := by decide +kernel

/-- Repaired finding `tab-before-amount`: a TAB between account and amount parses. -/
theorem tab_before_amount_parses :
    (HL.Pipeline.parseText Classes.go [50, 48, 50, 52, 45, 48, 49, 45, 49, 53, 32, 120, 10, 32, 32, 32, 32, 97, 58, 98, 9, 49, 32, 85, 83, 68, 10, 32, 32, 32, 32, 99, 58, 100, 10]).2 = [] := by decide +kernel

/-- A TEST (not the unbounded claim): one plain journal of G with secondary date, status, code,
    payee | note, tags, a virtual posting, a cost and an assertion parses without error. -/
example : (HL.Pipeline.parseText Classes.go [50, 48, 50, 52, 45, 48, 49, 45, 49, 53, 61, 50, 48, 50, 52, 45, 48, 49, 45, 49, 54, 32, 42, 32, 40, 52, 50, 41, 32, 115, 104, 111, 112, 32, 124, 32, 109, 105, 108, 107, 32, 32, 59, 32, 107, 58, 32, 118, 10, 32, 32, 32, 32, 97, 58, 98, 32, 32, 45, 49, 44, 50, 51, 52, 46, 53, 48, 32, 69, 85, 82, 32, 64, 32, 50, 32, 85, 83, 68, 32, 61, 32, 36, 53, 10, 32, 32, 32, 32, 40, 99, 58, 100, 41, 32, 32, 49, 32, 34, 88, 32, 89, 34, 10, 32, 32, 32, 32, 101, 58, 102, 10]).2 = [] := by decide +kernel

end HL.Props.C03Cex
