import HL.Lemmas.BalanceDiag
import HL.Lemmas.DecString

/-!
  C02 "Unbalanced-transaction verdicts are exact" — the arithmetic core.

  * `check_exact`: for EVERY transaction `Balance.check` (the model of `CheckBalance`) either
    panics exactly when `decimal.Mul` overflows, or returns a result that corresponds to the
    statement's verdict on the exact rational image of the transaction, including equality of
    the difference map as a finite map to `Rat` (order-free).
  * `diag_exact`: the diagnostic code analyzeInternal emits is the one the verdict demands.
  * `message_numbers_exact`: every difference named in the UNBALANCED message is the absolute
    residual of its commodity, which is non-zero.
  * `verdict_notation_invariant`: transactions with the same rational image get the same verdict.
-/
namespace HL.Props.C02
open HL HL.Ast HL.Balance HL.Spec.Bal

/-- Equality of a decimal difference map and a rational one as finite maps. -/
def SameMap (a : Sums) (b : List (Bytes × Rat)) : Prop :=
  ∀ c, (KV.find? a c).map Dec.toRat = KV.find? b c

/-- What it means for a `CheckBalance` result to state a verdict. -/
def Corresponds (r : Result) : Verdict → Prop
  | .ok => r.balanced = true ∧ r.differences = []
  | .multiple => r.balanced = false ∧ r.differences = [] ∧ r.inferredIdx = -1
  | .unbalanced d => r.balanced = false ∧ r.differences ≠ [] ∧ (KV.keys r.differences).Nodup ∧
      SameMap r.differences d

/-- The only way `CheckBalance` can fail: at most one posting lacks an amount (so the sums are
    computed) and some real posting with a unit cost makes `decimal.Mul` overflow int32. -/
def Overflows (tx : Transaction) : Prop :=
  missing (image tx) ≤ 1 ∧ ∃ p ∈ filterReal tx.postings, mulOverflow p

theorem sameMap_isEmpty {a : Sums} {b : List (Bytes × Rat)} (h : SameMap a b) : a.isEmpty = b.isEmpty := by
  cases a with
  | nil =>
    cases b with
    | nil => rfl
    | cons x r => have := h x.1; simp [KV.find?] at this
  | cons x r =>
    cases b with
    | nil => have := h x.1; simp [KV.find?] at this
    | cons y s => rfl

theorem rabs_eq (q : Rat) : Dec.rabs q = rabs q := rfl

theorem differences_sameMap (tx : Transaction) (sums : Sums)
    (hs : sumByCommodity (filterReal tx.postings) [] = some sums) :
    (KV.keys (differencesOf sums)).Nodup ∧
    SameMap (differencesOf sums) (diffs totalBySignum (image tx)) := by
  obtain ⟨hn, hv⟩ := sum_spec _ _ _ hs List.nodup_nil
  have hsub : List.Sublist (KV.keys (differencesOf sums)) (KV.keys sums) := by
    clear hs hn hv
    induction sums with
    | nil => exact List.Sublist.slnil
    | cons a r ih =>
      rw [differencesOf_cons]
      split
      · exact ih.cons _
      · exact ih.cons_cons _
  refine ⟨hsub.nodup hn, fun c => ?_⟩
  have hres : Dec.toRat (KV.get sums c Dec.zero) = residual totalBySignum (image tx) c := by
    rw [hv c, residual, contributions_image]
    exact (congrArg (· + _) Dec.toRat_zero).trans (Rat.zero_add _)
  rw [find?_differencesOf sums hn c, find?_diffs, ← hres, KV.get_eq_find?]
  cases hf : KV.find? sums c with
  | none => simp [Dec.toRat_zero]
  | some v =>
    simp only [Option.getD_some]
    by_cases hz : Dec.toRat v = 0
    · simp [hz, (Dec.isZero_iff v).2 hz]
    · have : Dec.isZero v = false := Bool.eq_false_iff.2 fun e => hz ((Dec.isZero_iff v).1 e)
      simp [hz, this, Dec.abs_exact, rabs_eq]

/-- For every transaction — any number of postings, any commodities, any
    decimals — the model of `CheckBalance` panics exactly in the overflow case and otherwise
    states the verdict of the exact-sum rule on the rational image of the transaction. -/
theorem check_exact (tx : Transaction) :
    match check tx with
    | none => Overflows tx
    | some r => Corresponds r (verdict (image tx)) := by
  have hm := missing_image tx
  unfold check verdict verdictWith Overflows
  simp only [hm]
  generalize countInferred (filterReal tx.postings) 0 (0, -1) = ci
  obtain ⟨cnt, idx⟩ := ci
  simp only
  by_cases h1 : cnt > 1
  · simp [h1, Corresponds]
  · simp only [h1, if_false]
    cases hs : sumByCommodity (filterReal tx.postings) [] with
    | none => exact ⟨by omega, (sum_none_iff _ _).1 hs⟩
    | some sums =>
      by_cases h2 : cnt = 1
      · simp [h2, Corresponds]
      · obtain ⟨hnd, hsame⟩ := differences_sameMap tx sums hs
        simp only [h2, beq_iff_eq, if_false, ← sameMap_isEmpty hsame]
        cases hd : (differencesOf sums).isEmpty
        · exact ⟨rfl, fun (e : differencesOf sums = []) => (by rw [e] at hd; cases hd), hnd, hsame⟩
        · exact ⟨rfl, List.isEmpty_iff.1 hd⟩

/-- `CheckBalance` fails exactly in the overflow case. -/
theorem check_none_iff (tx : Transaction) : check tx = none ↔ Overflows tx := by
  refine ⟨fun h => by have := check_exact tx; rwa [h] at this, ?_⟩
  rintro ⟨hle, hov⟩
  rw [missing_image] at hle
  unfold check
  simp only [Nat.not_lt.2 hle, if_false, (sum_none_iff _ _).2 hov]

/-- Decimal exponents within the parser's bound (|exponent| ≤ 1000, fix ee1337e). -/
def BoundedExps (tx : Transaction) : Prop :=
  ∀ p ∈ tx.postings, ∀ a c, p.amount = some a → p.cost = some c →
    (-1000 ≤ a.quantity.exp ∧ a.quantity.exp ≤ 1000 ∧ -1000 ≤ c.amount.quantity.exp ∧ c.amount.quantity.exp ≤ 1000)

theorem check_some (tx : Transaction) (h : ¬ Overflows tx) :
    ∃ r, check tx = some r ∧ Corresponds r (verdict (image tx)) := by
  have hc := check_exact tx
  cases hr : check tx with
  | none => rw [hr] at hc; exact absurd hc h
  | some r => rw [hr] at hc; exact ⟨r, rfl, hc⟩

/-- On every transaction the parser can produce, `CheckBalance` returns and is exact. -/
theorem check_exact_bounded (tx : Transaction) (hb : BoundedExps tx) :
    ∃ r, check tx = some r ∧ Corresponds r (verdict (image tx)) := by
  refine check_some tx ?_
  rintro ⟨_, p, hp, a, c, ha, hcst, _, hov⟩
  have := hb p (List.mem_filter.1 hp).1 a c ha hcst
  unfold Dec.int32Max Dec.int32Min at hov
  omega

example : BoundedExps ⟨default, none, .none, [], [], [], [],
    [⟨.none, ⟨bs "a:b", default⟩, some ⟨⟨150, -2⟩, [], ⟨bs "USD", .right, default⟩, false, default⟩, none,
      some ⟨⟨⟨3, 0⟩, [], ⟨bs "EUR", .right, default⟩, false, default⟩, false, default⟩, [], [], .none, default⟩],
    [], [], default⟩ := by
  intro p hp a c ha hc
  simp only [List.mem_singleton] at hp
  subst hp
  cases ha; cases hc
  decide

def codeOf : Verdict → Option Code
  | .ok => none
  | .multiple => some .multipleInferred
  | .unbalanced _ => some .unbalanced

/-- UNBALANCED is emitted exactly for `unbalanced`, MULTIPLE_INFERRED exactly
    for `multiple`, nothing for `ok` (whenever `CheckBalance` returns). -/
theorem diag_exact (tx : Transaction) (h : ¬ Overflows tx) :
    diagCode tx = some (codeOf (verdict (image tx))) := by
  obtain ⟨r, hr, hc⟩ := check_some tx h
  unfold diagCode
  rw [hr]
  cases hv : verdict (image tx) with
  | ok => rw [hv] at hc; simp [hc.1, codeOf]
  | multiple => rw [hv] at hc; simp [hc.1, hc.2.1, hc.2.2, codeOf, balanceDiagnostic]
  | unbalanced d => rw [hv] at hc; simp [hc.1, hc.2.1, codeOf, balanceDiagnostic]

theorem verdict_unbalanced {tx : RTx} {d : List (Bytes × Rat)} (h : verdict tx = .unbalanced d) :
    d = diffs totalBySignum tx := by
  unfold verdict verdictWith at h
  split at h
  · cases h
  · split at h
    · cases h
    · simp only at h
      split at h <;> cases h
      rfl

theorem differences_exact (tx : Transaction) (r : Result) (h : check tx = some r)
    (hd : r.differences ≠ []) (c : Bytes) :
    (KV.find? r.differences c).map Dec.toRat =
      (if residual totalBySignum (image tx) c = 0 then none
       else some (rabs (residual totalBySignum (image tx) c))) := by
  have hc := check_exact tx
  rw [h] at hc
  cases hv : verdict (image tx) with
  | ok => rw [hv] at hc; exact absurd hc.2 hd
  | multiple => rw [hv] at hc; exact absurd hc.2.1 hd
  | unbalanced d => rw [hv] at hc; rw [hc.2.2.2 c, verdict_unbalanced hv, find?_diffs]

/-- Whatever order Go's map iteration takes, each pair
    `(commodity, difference)` written into the UNBALANCED message is a commodity whose exact
    residual is non-zero together with the exact absolute value of that residual, and every
    commodity with a non-zero residual is named. -/
theorem message_numbers_exact (tx : Transaction) (r : Result) (h : check tx = some r)
    (hu : r.balanced = false) (hd : r.differences ≠ []) (c : Bytes) :
    (KV.find? r.differences c).map Dec.toRat =
      (if residual totalBySignum (image tx) c = 0 then none
       else some (rabs (residual totalBySignum (image tx) c))) :=
  differences_exact tx r h hd c

/-- The number printed after "off by" for commodity `c`
    (`Decimal.String()` of the difference) reads back as the exact absolute residual of `c`. -/
theorem message_numbers_parse_back (tx : Transaction) (r : Result) (h : check tx = some r)
    (hu : r.balanced = false) (hd : r.differences ≠ []) (c : Bytes) (v : Dec)
    (hv : KV.find? r.differences c = some v) (hexp : Dec.int32Min ≤ v.exp) :
    (Dec.ofString (Dec.toString v)).map Dec.toRat = some (rabs (residual totalBySignum (image tx) c)) ∧
    residual totalBySignum (image tx) c ≠ 0 := by
  have := differences_exact tx r h hd c
  rw [hv, Option.map_some] at this
  rw [Num.toString_roundtrip v hexp]
  split at this
  · cases this
  · exact ⟨this, ‹_›⟩

/-- The UNBALANCED message is assembled from exactly the
    entries of the difference map, each commodity once, with the value the map holds for it
    (so, by `message_numbers_exact`, the exact absolute residual), in sorted order. -/
theorem message_names_the_differences (d : Sums) :
    ((sortedDifferences d).map (·.1)).Perm (KV.keys d) ∧
    ∀ kv ∈ sortedDifferences d, KV.find? d kv.1 = some kv.2 :=
  ⟨(keys_sortedDifferences d ▸ KV.sortStrings_perm (KV.keys d) : (KV.keys (sortedDifferences d)).Perm _),
    find?_of_mem_sortedDifferences d⟩

/-- Two transactions whose postings have the same exact
    rational image (same kinds, commodities and values — however the numbers were written,
    wherever the signs and commodities stood) receive the same diagnostic. -/
theorem verdict_notation_invariant (tx₁ tx₂ : Transaction) (himg : image tx₁ = image tx₂)
    (h₁ : ¬ Overflows tx₁) (h₂ : ¬ Overflows tx₂) :
    diagCode tx₁ = diagCode tx₂ ∧
    ∀ r₁ r₂, check tx₁ = some r₁ → check tx₂ = some r₂ →
      r₁.balanced = r₂.balanced ∧
      ∀ c, (KV.find? r₁.differences c).map Dec.toRat = (KV.find? r₂.differences c).map Dec.toRat := by
  refine ⟨by rw [diag_exact tx₁ h₁, diag_exact tx₂ h₂, himg], ?_⟩
  intro r₁ r₂ e₁ e₂
  have c₁ := check_exact tx₁
  have c₂ := check_exact tx₂
  rw [e₁, himg] at c₁
  rw [e₂] at c₂
  cases hv : verdict (image tx₂) <;> rw [hv] at c₁ c₂
  · exact ⟨c₁.1.trans c₂.1.symm, fun c => by rw [c₁.2, c₂.2]⟩
  · exact ⟨c₁.1.trans c₂.1.symm, fun c => by rw [c₁.2.1, c₂.2.1]⟩
  · exact ⟨c₁.1.trans c₂.1.symm, fun c => (c₁.2.2.2 c).trans (c₂.2.2.2 c).symm⟩

def mkAmt (c : Int) (e : Int) (sym : String) : Amount := ⟨⟨c, e⟩, [], ⟨bs sym, .right, default⟩, false, default⟩
def mkPost (acct : String) (a : Option Amount) (c : Option Cost) : Posting :=
  ⟨.none, ⟨bs acct, default⟩, a, none, c, [], [], .none, default⟩
def mkTx (ps : List Posting) : Transaction := ⟨default, none, .none, [], [], [], [], ps, [], [], default⟩

/-- `a:b  0 AAPL @@ 5 USD` / `c:d  0 USD`. -/
def zeroTotalTx : Transaction := mkTx [
  mkPost "a:b" (some (mkAmt 0 0 "AAPL")) (some ⟨mkAmt 5 0 "USD", true, default⟩),
  mkPost "c:d" (some (mkAmt 0 0 "USD")) none]

/-- Before repo_patches/fix-zero-quantity-total-cost.diff a zero quantity with a total cost
    contributed the whole total: the transaction above, whose every converted amount is 0, was
    reported "USD off by 5". -/
theorem pinned_zero_quantity_total_cost_counterexample :
    checkPinned zeroTotalTx = some ⟨false, [(bs "USD", ⟨5, 0⟩)], -1⟩ ∧
    check zeroTotalTx = some ⟨true, [], -1⟩ := by
  constructor <;> decide +kernel

/-- The decimal `parseAmount` computes from a notation: the digits as written, integer part then
    fraction, as coefficient; the exponent written less the number of fraction digits. -/
theorem normalize_exact (n : G.Number) (hwf : G.wf n = true) (hA : G.shapeA n = false) :
    Num.quantity n.neg (G.render n) =
      some ⟨if n.neg then -(G.natOf (n.intDigits ++ n.frac) : Int) else (G.natOf (n.intDigits ++ n.frac) : Int),
        G.expValue n.exp - n.frac.length⟩ := by
  obtain ⟨w1, _, hnone, _, _, _, hexp, w7, w8⟩ := Num.wf_parts hwf
  have hof := Num.ofString_canon n.neg n.intDigits n.frac n.mark.isSome n.exp w1
    hnone hexp
    (by unfold Dec.int32Min; omega) (by unfold Dec.int32Max; omega)
  have hb : ¬ (G.expValue n.exp - (n.frac.length : Int) > Num.maxAmountExponent ∨
      G.expValue n.exp - (n.frac.length : Int) < -Num.maxAmountExponent) := by
    unfold Num.maxAmountExponent; omega
  rw [Num.quantity, Num.prepare_render n hwf hA, Num.canon, hof]
  simp only [hb, if_false]

/-- For every notation of DESIGN 4.3 — any number of digits, digit groups
    written with ',' '.' or blanks, decimal mark '.' or ',', trailing mark, exponent with or
    without sign, either sign of the number — that is well formed and not of the shape side
    condition A excludes, the chain parseAmount runs on the Number token (sign prefix, blank
    removal, `normalizeNumber`, `decimal.NewFromString`, exponent bound) yields a decimal whose
    exact value is the value written. -/
theorem normalize_value (n : G.Number) (hwf : G.wf n = true) (hA : G.shapeA n = false) :
    (Num.quantity n.neg (G.render n)).map Dec.toRat = some (G.value n) := by
  rw [normalize_exact n hwf hA, Option.map_some, Num.toRat_canon]
  unfold G.value G.magnitude
  cases n.neg <;> rfl

/-- what reaches `NewFromString` is the canonical spelling `[-]digits[.digits][E±digits]`. -/
theorem normalize_canonical (n : G.Number) (hwf : G.wf n = true) (hA : G.shapeA n = false) :
    Num.prepare n.neg (G.render n) = Num.canon n := Num.prepare_render n hwf hA

structure WAmount where
  n : G.Number
  c : Bytes

/-- a posting as written (what the generator's ground truth records). -/
structure WPosting where
  kind : Virtual
  account : Bytes
  amount : Option WAmount
  cost : Option (Bool × WAmount)

def WAmount.ok (a : WAmount) : Prop := G.wf a.n = true ∧ G.shapeA a.n = false

/-- the exact rational transaction a list of written postings denotes. -/
def written (w : List WPosting) : RTx :=
  w.map fun p => ⟨p.kind, p.account, p.amount.map fun a => ⟨G.value a.n, a.c⟩,
    p.cost.map fun tc => ⟨tc.1, G.value tc.2.n, tc.2.c⟩⟩

/-- `parseAmount` read this amount from that notation: the commodity is the one written and the
    quantity is what the modelled chain computes from the Number token and the sign. -/
def ReadAs (a : Amount) (w : WAmount) : Prop :=
  a.commodity.symbol = w.c ∧ Num.quantity w.n.neg (G.render w.n) = some a.quantity

/-- the posting structure was recovered (kinds, accounts, presence of amount and cost). -/
def PostingReadAs (p : Posting) (w : WPosting) : Prop :=
  p.virt = w.kind ∧ p.account.name = w.account ∧
  (match p.amount, w.amount with
    | none, none => True
    | some a, some wa => ReadAs a wa ∧ wa.ok
    | _, _ => False) ∧
  (match p.cost, w.cost with
    | none, none => True
    | some c, some wc => c.isTotal = wc.1 ∧ ReadAs c.amount wc.2 ∧ wc.2.ok
    | _, _ => False)

inductive AllReadAs : List Posting → List WPosting → Prop
  | nil : AllReadAs [] []
  | cons {p w ps ws} : PostingReadAs p w → AllReadAs ps ws → AllReadAs (p :: ps) (w :: ws)

theorem readAs_value {a : Amount} {w : WAmount} (h : ReadAs a w) (hok : w.ok) :
    Dec.toRat a.quantity = G.value w.n := by
  have := normalize_value w.n hok.1 hok.2
  rw [h.2] at this
  simpa using this

theorem image_of_readAs (ps : List Posting) (w : List WPosting)
    (h : AllReadAs ps w) : ps.map imagePosting = written w := by
  induction h with
  | nil => rfl
  | @cons p wp ps ws hp _ ih =>
    unfold written at ih ⊢
    rw [List.map_cons, List.map_cons, ih]
    congr 1
    obtain ⟨h1, h2, h3, h4⟩ := hp
    unfold imagePosting
    congr 1
    · match p.amount, wp.amount, h3 with
      | none, none, _ => rfl
      | some a, some wa, h => simp only [Option.map_some, imageAmount, readAs_value h.1 h.2, h.1.1]
      | none, some _, h | some _, none, h => exact h.elim
    · match p.cost, wp.cost, h4 with
      | none, none, _ => rfl
      | some c, some wc, h => simp only [Option.map_some, imageCost, readAs_value h.2.1 h.2.2, h.2.1.1, h.1]
      | none, some _, h | some _, none, h => exact h.elim

/-- If the parser recovered the posting structure of a transaction
    and read every amount from the notation it was written in (any notation of 4.3 outside the
    shape side condition A excludes), then `CheckBalance` states exactly the verdict of the
    exact-sum rule on the values WRITTEN — notation, sign placement and commodity side do not
    enter.  (The structural hypothesis is the lexer/parser part of the pipeline, C03; the
    correspondence checks it on every generated transaction.) -/
theorem check_exact_written (tx : Transaction) (w : List WPosting)
    (h : AllReadAs tx.postings w) :
    match check tx with
    | none => Overflows tx
    | some r => Corresponds r (verdict (written w)) := by
  have himg : image tx = written w := image_of_readAs tx.postings w h
  have := check_exact tx
  rw [himg] at this
  exact this

def dg (s : String) : List G.Digit := s.toList.map fun c => Fin.ofNat 10 (c.toNat - 48)

/-! Non-vacuity: one notation of every class of 4.3 satisfies the hypotheses (and the model
    computes the value written). -/
def nPlain : G.Number := ⟨false, dg "123", none, none, [], none⟩                       -- 123
def nDot : G.Number := ⟨true, dg "1", none, some 46, dg "5", none⟩                     -- -1.5
def nComma : G.Number := ⟨false, dg "1", none, some 44, dg "5", none⟩                  -- 1,5
def nGroupCommaDot : G.Number := ⟨false, dg "1234", some 44, some 46, dg "56", none⟩   -- 1,234.56
def nGroupDotComma : G.Number := ⟨false, dg "1234", some 46, some 44, dg "56", none⟩   -- 1.234,56
def nGroupSpace : G.Number := ⟨false, dg "1234", some 32, some 44, dg "56", none⟩      -- 1 234,56
def nGroupInt3 : G.Number := ⟨false, dg "1234567", some 44, none, [], none⟩            -- 1,234,567
def nGroupInt1 : G.Number := ⟨false, dg "1234", some 46, none, [], none⟩               -- 1.234 (grouped)
def nTrailing : G.Number := ⟨false, dg "12", none, some 46, [], none⟩                  -- 12.
def nExp : G.Number := ⟨false, dg "1", none, some 46, dg "5", some ⟨false, .minus, dg "2"⟩⟩  -- 1.5e-2
def nExpPlus : G.Number := ⟨false, dg "1", none, none, [], some ⟨true, .plus, dg "2"⟩⟩       -- 1E+2
def nGroupExp : G.Number := ⟨false, dg "1234", some 44, none, [], some ⟨true, .none, dg "2"⟩⟩ -- 1,234E2

example : [nPlain, nDot, nComma, nGroupCommaDot, nGroupDotComma, nGroupSpace, nGroupInt3, nGroupInt1,
    nTrailing, nExp, nExpPlus, nGroupExp].all (fun n => G.wf n && !G.shapeA n) = true := by decide +kernel

example : G.render nGroupCommaDot = bs "1,234.56" ∧ G.render nGroupSpace = bs "1 234,56" ∧
    G.render nExp = bs "1.5e-2" ∧ G.render nGroupInt3 = bs "1,234,567" := by decide +kernel

example : Num.quantity false (bs "1 234,56") = some ⟨123456, -2⟩ ∧
    Num.quantity false (bs "1.5E3") = some ⟨15, 2⟩ ∧
    Num.quantity true (bs "1,234,567") = some ⟨-1234567, 0⟩ := by decide +kernel

/-- non-vacuity of `check_exact_written`: `a:b  1,234.56 USD` / `c:d  -1234,56 USD`. -/
example : AllReadAs
    [mkPost "a:b" (some (mkAmt 123456 (-2) "USD")) none, mkPost "c:d" (some (mkAmt (-123456) (-2) "USD")) none]
    [⟨.none, bs "a:b", some ⟨nGroupCommaDot, bs "USD"⟩, none⟩,
     ⟨.none, bs "c:d", some ⟨⟨true, dg "1234", none, some 44, dg "56", none⟩, bs "USD"⟩, none⟩] := by
  refine .cons ⟨rfl, rfl, ⟨⟨rfl, ?_⟩, ?_, ?_⟩, trivial⟩ (.cons ⟨rfl, rfl, ⟨⟨rfl, ?_⟩, ?_, ?_⟩, trivial⟩ .nil)
  all_goals decide +kernel

/-- The shape side condition A excludes really is read differently: `1,234` written to mean
    1.234 (decimal comma, three decimals) is read as the grouped integer 1234 — the project's
    documented disambiguation rule. -/
theorem sideA_counterexample :
    let n : G.Number := ⟨false, dg "1", none, some 44, dg "234", none⟩
    G.wf n = true ∧ G.shapeA n = true ∧ G.render n = bs "1,234" ∧
    Num.quantity n.neg (G.render n) = some ⟨1234, 0⟩ ∧
    (Num.quantity n.neg (G.render n)).map Dec.toRat ≠ some (G.value n) := by
  decide +kernel

/-- Same for the point: `1.234` meant as a decimal is read as 1234. -/
theorem sideA_point_counterexample :
    let n : G.Number := ⟨false, dg "1", none, some 46, dg "234", none⟩
    G.shapeA n = true ∧ G.render n = bs "1.234" ∧
    Num.quantity n.neg (G.render n) = some ⟨1234, 0⟩ := by
  decide +kernel

/-- The pinned `normalizeNumber` (before fix 6e9dbd8) applied its rule to the whole token:
    `1.5E3` — three characters after the point — lost the point and became 15E3 = 15000. -/
theorem pinned_exponent_counterexample :
    Dec.ofString (Num.normalizeMantissa (bs "1.5E3")) = some ⟨15, 3⟩ ∧
    Dec.ofString (Num.normalizeNumber (bs "1.5E3")) = some ⟨15, 2⟩ := by
  decide +kernel

end HL.Props.C02
