/-
  C10 — Include resolution equals graph reachability, with exact cycle verdicts.

  Model: `HL.Loader` (`load`, `loadFromContent`, `loadF`); `m : Mode` says which of the three
  repairs (repo_patches/fix-include-*.diff) the tree has.  Specification: `HL.Reach`
  (`Reach`, `Edge`, `Loadable`, `Located`, the depth-first traversal `dfs`).
  `load_terminates` holds for every tree; the exactness theorems hold for the repaired tree
  (`Mode.repaired`); the behaviour of the pinned tree is stated by the counterexample theorems.
  All theorems quantify over every file system (any number of files, any include graph,
  cyclic or not, any globs), every limit, every content of the cache that is consistent with
  the disk.
-/
import HL.Lemmas.Reach
namespace HL.Props.C10
open HL HL.Loader HL.Reach HL.Lemmas.Loader HL.Lemmas.Reach

/-- Resolving always terminates — on every tree (pinned or repaired), for
    every file system (cyclic or not, finite or not), every limit, cache, root and content the
    entry points' fuel `maxDepth + 1` is enough: `loadF` never runs out of it. -/
theorem load_terminates (fs : FS) (lim : Limits) (m : Mode) (cache : Cache) (root : Path) (file : File) :
    ∃ r es st, loadF fs lim m (fuelFor lim) root file [] 0 ⟨[], cache⟩ = some (r, es, st) := by
  obtain ⟨r, es, st, e, _⟩ := loadF_some fs lim m (fuelFor lim) root file [] 0 ⟨[], cache⟩
    (by unfold fuelFor; omega)
    (by unfold fuelFor depthMeasure; split <;> simp)
  exact ⟨r, es, st, e⟩

/-- … and the result does not depend on the fuel: any larger amount gives the same result. -/
theorem load_fuel_independent (fs : FS) (lim : Limits) (m : Mode) (cache : Cache) (root : Path)
    (file : File) (fuel : Nat) (h : fuelFor lim ≤ fuel) :
    loadF fs lim m fuel root file [] 0 ⟨[], cache⟩ =
      loadF fs lim m (fuelFor lim) root file [] 0 ⟨[], cache⟩ := by
  obtain ⟨r, es, st, e⟩ := load_terminates fs lim m cache root file
  rw [e]
  exact loadF_mono fs lim m _ _ h _ _ _ _ _ _ e

/-! ### The repaired loader is the specification's depth-first traversal -/

/-- order of files and diagnostics of a result -/
def view (r : Result) : Option (List Path) × List Err := (r.res.map (·.order), r.errs)

/-- `LoadFromContent`: on the repaired tree, with any cache consistent with the
    disk, the files loaded, their order and every diagnostic (kind, path, range, in order) are
    those of the specification's depth-first traversal with ancestor stack. -/
theorem loadFromContent_eq_dfs (fs : FS) (lim : Limits) (hl : 1 ≤ lim.maxDepth) (c : Cache)
    (hc : Cons fs lim c) (root : Path) (rf : File) :
    view (loadFromContent fs lim .repaired c root rf) = expectContent fs lim root rf := by
  unfold loadFromContent expectContent view
  split
  · rfl
  · obtain ⟨res, es, st', e, h1, h2, _⟩ := loadF_sim fs lim (fuelFor lim) 0 (by omega)
      (by unfold fuelFor; omega) root rf [] ⟨[], c⟩ hc
    rw [e]
    simp only [Option.map_some, dfs, h1, h2, Nat.sub_zero]

/-- The same for `Load`. -/
theorem load_eq_dfs (fs : FS) (lim : Limits) (hl : 1 ≤ lim.maxDepth) (c : Cache)
    (hc : Cons fs lim c) (root : Path) :
    view (load fs lim .repaired c root) = expect fs lim root := by
  unfold load expect
  cases fs root with
  | none => rfl
  | some rf => exact loadFromContent_eq_dfs fs lim hl c hc root rf

/-- for a root within the size limit: there is a journal, and its order and the diagnostics are
    those of `dfs` -/
theorem loadFromContent_dfs (fs : FS) (lim : Limits) (hl : 1 ≤ lim.maxDepth) (c : Cache)
    (hc : Cons fs lim c) (root : Path) (rf : File) (hsz : rf.size ≤ lim.maxSize) :
    ∃ res, (loadFromContent fs lim .repaired c root rf).res = some res ∧
      res.order = (dfs fs lim root rf).order ∧
      (loadFromContent fs lim .repaired c root rf).errs = (dfs fs lim root rf).errs := by
  have h := loadFromContent_eq_dfs fs lim hl c hc root rf
  rw [expectContent, if_neg (Nat.not_lt.mpr hsz)] at h
  obtain ⟨h1, h2⟩ := Prod.mk.inj h
  obtain ⟨res, hr, ho⟩ := Option.map_eq_some_iff.mp h1
  exact ⟨res, hr, ho, h2⟩

/-! ### Files loaded = files reachable, each once -/

section
variable (fs : FS) (lim : Limits) (root : Path) (rf : File)

theorem dfs_pre2 : Pre2 fs lim root rf root rf [] [] :=
  ⟨by simp [fileOf], Or.inl rfl, Reach.root, fun x hx => by simp at hx,
    fun x hx => by simp only [List.mem_singleton] at hx; exact Or.inl hx⟩

theorem dfs_shape : (dfs fs lim root rf).seen = (dfs fs lim root rf).order.reverse ++ [root] ∧
    (dfs fs lim root rf).seen.Nodup :=
  visit_shape fs lim _ root rf [] [] (by simp) List.nodup_nil

/-- No file is loaded twice, and the root is not among the included files. -/
theorem dfs_nodup : (dfs fs lim root rf).order.Nodup ∧ root ∉ (dfs fs lim root rf).order := by
  obtain ⟨h1, h2⟩ := dfs_shape fs lim root rf
  rw [h1] at h2
  have := List.nodup_append.mp h2
  refine ⟨(List.reverse_perm _).nodup_iff.mp this.1, ?_⟩
  intro hr
  exact this.2.2 root (List.mem_reverse.mpr hr) root (by simp) rfl

/-- Every file loaded is reachable from the root through include directives. -/
theorem dfs_sound : ∀ g ∈ (dfs fs lim root rf).order, Reach fs lim root rf g :=
  (visit_sound fs lim root rf _ root rf [] [] (dfs_pre2 fs lim root rf)).2.1

theorem dfs_pre3 : Pre3 fs root rf root rf [] [] :=
  ⟨by simp [fileOf], Or.inl rfl, fun x hx => by simp at hx⟩

theorem dfs_reach_seen (hnd : NoDepth (dfs fs lim root rf).errs) :
    ∀ g, Reach fs lim root rf g → g ∈ (dfs fs lim root rf).seen := by
  obtain ⟨p1, p2⟩ := visit_complete fs lim root rf (lim.maxDepth - 1) root rf [] []
    (dfs_pre3 fs root rf)
  have hcl := p2 hnd
  intro g hg
  induction hg with
  | root => exact p1 root List.mem_cons_self
  | step _ he hl ih => exact hcl _ ih (by simp) _ he hl

/-- If the depth limit was not hit, every reachable file is loaded — whatever other
    diagnostics (missing, oversized, cycles, bad globs) were produced on the way. -/
theorem dfs_complete (hnd : NoDepth (dfs fs lim root rf).errs) :
    ∀ g, Reach fs lim root rf g → g = root ∨ g ∈ (dfs fs lim root rf).order := by
  intro g hg
  have := dfs_reach_seen fs lim root rf hnd g hg
  rw [(dfs_shape fs lim root rf).1] at this
  simp only [List.mem_append, List.mem_reverse, List.mem_singleton] at this
  exact this.symm

/-- If the depth limit was not hit and some reachable file lies on a cycle of include
    directives, a cycle diagnostic is produced. -/
theorem dfs_cyclic_has_error (hnd : NoDepth (dfs fs lim root rf).errs)
    (hcy : ∃ x, Reach fs lim root rf x ∧ OnCycle fs lim root rf x) :
    ∃ e ∈ (dfs fs lim root rf).errs, e.kind = .cycle := by
  apply Classical.byContradiction
  intro hno
  have hnc : NoCyc (dfs fs lim root rf).errs := fun e he hk => hno ⟨e, he, hk⟩
  obtain ⟨x, hx, hon⟩ := hcy
  have hpost := visit_acyc fs lim root rf (lim.maxDepth - 1) root rf [] []
    ⟨dfs_pre3 fs root rf, by simp, fun x hx => by simp at hx⟩ hnd hnc
  exact hpost.2 x (dfs_reach_seen fs lim root rf hnd x hx) (by simp) hon

/-- Every diagnostic is attached to the directive that names the offending file, in a file that
    is itself reachable, and says something true (see `HL.Reach.Located`). -/
theorem dfs_located : ∀ e ∈ (dfs fs lim root rf).errs, Located fs lim root rf e :=
  (visit_sound fs lim root rf _ root rf [] [] (dfs_pre2 fs lim root rf)).2.2

end

/-- On the repaired tree `LoadFromContent(root, content)` (content within
    the size limit, any consistent cache) returns a journal whose `FileOrder`
    * has no duplicates and does not contain the root,
    * contains only files reachable from the root through include directives
      (plain, `./`, `../`, absolute, `~/` and glob forms alike — `Names`),
    * and, when no depth-limit diagnostic was produced, contains every such file. -/
theorem files_eq_reach (fs : FS) (lim : Limits) (hl : 1 ≤ lim.maxDepth) (c : Cache)
    (hc : Cons fs lim c) (root : Path) (rf : File) (hsz : rf.size ≤ lim.maxSize) :
    ∃ res, (loadFromContent fs lim .repaired c root rf).res = some res ∧
      res.order.Nodup ∧ root ∉ res.order ∧
      (∀ g ∈ res.order, Reach fs lim root rf g) ∧
      (NoDepth (loadFromContent fs lim .repaired c root rf).errs →
        ∀ g, Reach fs lim root rf g → g = root ∨ g ∈ res.order) := by
  obtain ⟨res, hr, h1, h2⟩ := loadFromContent_dfs fs lim hl c hc root rf hsz
  rw [h2]
  exact ⟨res, hr, h1 ▸ (dfs_nodup fs lim root rf).1, h1 ▸ (dfs_nodup fs lim root rf).2,
    h1 ▸ dfs_sound fs lim root rf, h1 ▸ dfs_complete fs lim root rf⟩

/-- The same for `Load(root)`: the root is read from disk. -/
theorem files_eq_reach_load (fs : FS) (lim : Limits) (hl : 1 ≤ lim.maxDepth) (c : Cache)
    (hc : Cons fs lim c) (root : Path) (rf : File) (hroot : fs root = some rf)
    (hsz : rf.size ≤ lim.maxSize) :
    ∃ res, (load fs lim .repaired c root).res = some res ∧
      res.order.Nodup ∧ root ∉ res.order ∧
      (∀ g ∈ res.order, Reach fs lim root rf g) ∧
      (NoDepth (load fs lim .repaired c root).errs →
        ∀ g, Reach fs lim root rf g → g = root ∨ g ∈ res.order) := by
  have : load fs lim .repaired c root = loadFromContent fs lim .repaired c root rf := by
    unfold load; rw [hroot]
  rw [this]
  exact files_eq_reach fs lim hl c hc root rf hsz

/-- On every tree `Files` has an entry exactly for the paths of `FileOrder`,
    and every entry is the parse of the file as it is on disk (consistent cache). -/
theorem files_match_order (fs : FS) (lim : Limits) (m : Mode) (c : Cache) (hc : Cons fs lim c)
    (root : Path) (rf : File) (res : Res) (h : (loadFromContent fs lim m c root rf).res = some res) :
    (∀ q, (res.files.get q).isSome = true ↔ q ∈ res.order) ∧
    (∀ q f, res.files.get q = some f → fs q = some f) := by
  unfold loadFromContent at h
  split at h
  · simp at h
  · split at h
    · simp at h
    · rename_i r es st e
      simp only at h
      subst h
      obtain ⟨h1, h2⟩ := ((loadF_inv fs lim m _ _ _ _ _ _ _ _ _ hc e).2 res rfl).2
      exact ⟨h2, fun q f hq => (h1.toCons fs lim q f hq).1⟩

/-- On the repaired tree every diagnostic of a load is `Located`: a missing,
    oversized or too-deep include (and a cycle, a refused path, a glob without match) is
    reported with the range of the directive that names it, in a file that is reachable, and
    the reason given is true. -/
theorem errors_local (fs : FS) (lim : Limits) (hl : 1 ≤ lim.maxDepth) (c : Cache)
    (hc : Cons fs lim c) (root : Path) (rf : File) (hsz : rf.size ≤ lim.maxSize) :
    ∀ e ∈ (loadFromContent fs lim .repaired c root rf).errs, Located fs lim root rf e := by
  obtain ⟨_, _, _, h2⟩ := loadFromContent_dfs fs lim hl c hc root rf hsz
  rw [h2]
  exact dfs_located fs lim root rf

/-- … and an error on one directive does not stop the others: the loop over a file's
    directives is a fold, each step starts from wherever the previous one ended. -/
theorem errors_do_not_stop (fs : FS) (lim : Limits) (rec : RecS) (cd : Bool) (f : Path)
    (stk : List Path) (its₁ its₂ : List Item) (o : Out) :
    visitItems fs lim rec cd f stk (its₁ ++ its₂) o =
      visitItems fs lim rec cd f stk its₂ (visitItems fs lim rec cd f stk its₁ o) := by
  induction its₁ generalizing o with
  | nil => rfl
  | cons it rest ih => cases it <;> simp only [List.cons_append, visitItems, ih]

/-- A failed include leaves the files loaded so far untouched and adds exactly one diagnostic
    on the directive (`rng`) naming the file (`g`). -/
theorem failed_include_is_local (fs : FS) (lim : Limits) (rec : RecS) (cd : Bool) (f : Path)
    (stk : List Path) (rng : Rng) (g : Path) (o : Out)
    (h1 : stk.contains g = false) (h2 : o.seen.contains g = false)
    (h3 : ¬ (Loadable fs lim g ∧ cd = true)) :
    ∃ e, e.path = g ∧ e.rng = rng ∧ e.kind ≠ .cycle ∧
      follow fs lim rec cd f stk rng g o = { o with errs := o.errs ++ [e] } := by
  have n1 : g ∉ stk := fun h => Bool.false_ne_true (h1.symm.trans (List.contains_iff_mem.mpr h))
  have n2 : g ∉ o.seen := fun h => Bool.false_ne_true (h2.symm.trans (List.contains_iff_mem.mpr h))
  exact follow_cases (P := fun r => ∃ e : Err, e.path = g ∧ e.rng = rng ∧ e.kind ≠ .cycle ∧
      r = { o with errs := o.errs ++ [e] }) fs lim rec cd f stk rng g o
    (fun h => absurd h n1) (fun _ h => absurd h n2)
    (fun _ _ _ => ⟨_, rfl, rfl, (fun h => Kind.noConfusion h), rfl⟩) (fun _ _ _ _ _ => ⟨_, rfl, rfl, (fun h => Kind.noConfusion h), rfl⟩)
    (fun _ _ _ _ _ _ => ⟨_, rfl, rfl, (fun h => Kind.noConfusion h), rfl⟩)
    (fun fg _ _ hfg hs hcd => absurd ⟨⟨fg, hfg, hs⟩, hcd⟩ h3)

/-- The step of the traversal that follows one directive of `f`
    (range `rng`, target `g`) while `stk` is the stack of files currently being included
    (`f` on top):
    * `g` on the stack (a back edge) — exactly one cycle diagnostic is attached to this
      directive, nothing is loaded;
    * `g` not on the stack — this directive gets no cycle diagnostic: it is skipped silently
      (already loaded along another path — a diamond is not an error), or gets one
      non-cycle diagnostic, or `g` is loaded and the only further diagnostics are those of
      loading `g`. -/
theorem cycle_iff_backedge (fs : FS) (lim : Limits) (rec : RecS) (cd : Bool) (f : Path)
    (stk : List Path) (rng : Rng) (g : Path) (o : Out) :
    (stk.contains g = true →
      follow fs lim rec cd f stk rng g o = { o with errs := o.errs ++ [⟨.cycle, g, "", rng, some f⟩] }) ∧
    (stk.contains g = false →
      follow fs lim rec cd f stk rng g o = o ∨
      (∃ e, e.path = g ∧ e.rng = rng ∧ e.kind ≠ .cycle ∧
        follow fs lim rec cd f stk rng g o = { o with errs := o.errs ++ [e] }) ∨
      (∃ fg, fs g = some fg ∧ follow fs lim rec cd f stk rng g o =
        { order := o.order ++ g :: (rec g fg stk o.seen).order,
          errs := o.errs ++ (rec g fg stk o.seen).errs, seen := (rec g fg stk o.seen).seen })) := by
  refine ⟨fun h => if_pos h, fun h => ?_⟩
  have n1 : g ∉ stk := fun h' => Bool.false_ne_true (h.symm.trans (List.contains_iff_mem.mpr h'))
  exact follow_cases (P := fun r => r = o ∨ (∃ e : Err, e.path = g ∧ e.rng = rng ∧ e.kind ≠ .cycle ∧
      r = { o with errs := o.errs ++ [e] }) ∨ ∃ fg, fs g = some fg ∧ r =
        { order := o.order ++ g :: (rec g fg stk o.seen).order,
          errs := o.errs ++ (rec g fg stk o.seen).errs, seen := (rec g fg stk o.seen).seen })
    fs lim rec cd f stk rng g o (fun h => absurd h n1) (fun _ _ => Or.inl rfl)
    (fun _ _ _ => Or.inr (Or.inl ⟨_, rfl, rfl, (fun h => Kind.noConfusion h), rfl⟩))
    (fun _ _ _ _ _ => Or.inr (Or.inl ⟨_, rfl, rfl, (fun h => Kind.noConfusion h), rfl⟩))
    (fun _ _ _ _ _ _ => Or.inr (Or.inl ⟨_, rfl, rfl, (fun h => Kind.noConfusion h), rfl⟩))
    (fun fg _ _ hfg _ _ => Or.inr (Or.inr ⟨fg, hfg, rfl⟩))
/-- A cycle diagnostic reported by the repaired loader is a real cycle of
    include directives through the directive it is attached to: the including file `b`
    names `g` there, and `g` leads back to `b`. -/
theorem cycle_sound (fs : FS) (lim : Limits) (hl : 1 ≤ lim.maxDepth) (c : Cache)
    (hc : Cons fs lim c) (root : Path) (rf : File) (hsz : rf.size ≤ lim.maxSize)
    (e : Err) (he : e ∈ (loadFromContent fs lim .repaired c root rf).errs) (hk : e.kind = .cycle) :
    ∃ b, e.base = some b ∧ Reach fs lim root rf b ∧ EdgeL fs lim root rf b e.path ∧
      LeadsL fs lim root rf e.path b := by
  have hloc := errors_local fs lim hl c hc root rf hsz e he
  cases hloc with
  | cycle hr hf hi hn hent hlead => exact ⟨_, rfl, hr, ⟨⟨_, hf, _, hi, hn⟩, hent⟩, hlead⟩
  | notFound => simp at hk
  | tooLarge => simp at hk
  | depth => simp at hk
  | directive _ _ _ h => rcases h with h | h | h <;> simp [h] at hk
  | parse => simp [parseErr] at hk

/-- no reachable file lies on a cycle of include directives -/
def Acyclic (fs : FS) (lim : Limits) (root : Path) (rf : File) : Prop :=
  ∀ b, Reach fs lim root rf b → ¬ OnCycle fs lim root rf b

/-- If the include graph has no cycle, the repaired loader reports
    no cycle — however many different paths lead to the same file (diamonds). -/
theorem acyclic_no_cycle_error (fs : FS) (lim : Limits) (hl : 1 ≤ lim.maxDepth) (c : Cache)
    (hc : Cons fs lim c) (root : Path) (rf : File) (hsz : rf.size ≤ lim.maxSize)
    (hac : Acyclic fs lim root rf) :
    ∀ e ∈ (loadFromContent fs lim .repaired c root rf).errs, e.kind ≠ .cycle := by
  intro e he hk
  obtain ⟨b, _, hr, hedge, hlead⟩ := cycle_sound fs lim hl c hc root rf hsz e he hk
  exact hac b hr ⟨e.path, hedge, hlead⟩

/-- When the depth limit is not hit, the repaired loader reports a
    cycle if and only if some file reachable from the root lies on a cycle of include
    directives. -/
theorem cycle_error_iff_cyclic (fs : FS) (lim : Limits) (hl : 1 ≤ lim.maxDepth) (c : Cache)
    (hc : Cons fs lim c) (root : Path) (rf : File) (hsz : rf.size ≤ lim.maxSize)
    (hnd : NoDepth (loadFromContent fs lim .repaired c root rf).errs) :
    (∃ e ∈ (loadFromContent fs lim .repaired c root rf).errs, e.kind = .cycle) ↔
      ∃ x, Reach fs lim root rf x ∧ OnCycle fs lim root rf x := by
  constructor
  · rintro ⟨e, he, hk⟩
    obtain ⟨b, _, hr, hedge, hlead⟩ := cycle_sound fs lim hl c hc root rf hsz e he hk
    exact ⟨b, hr, e.path, hedge, hlead⟩
  · intro hcy
    obtain ⟨_, _, _, h2⟩ := loadFromContent_dfs fs lim hl c hc root rf hsz
    rw [h2] at hnd ⊢
    exact dfs_cyclic_has_error fs lim root rf hnd hcy

def mkInc (p : Nat) (l : Nat) : Inc := ⟨"", ⟨⟨l, 1, 0⟩, ⟨l, 9, 8⟩⟩, .file p⟩
def mkFile (ts : List Nat) : File := ⟨10, 0, ts.zipIdx.map (fun (t, i) => mkInc t (i + 1)), []⟩

/-- diamond f0 → f1, f2; f1 → f3; f2 → f3 -/
def diamond : FS := fun p => match p with
  | 0 => some (mkFile [1, 2]) | 1 => some (mkFile [3]) | 2 => some (mkFile [3])
  | 3 => some (mkFile []) | _ => none

/-- f0 includes f1, f2, f3 side by side -/
def wide : FS := fun p => match p with
  | 0 => some (mkFile [1, 2, 3]) | 1 => some (mkFile []) | 2 => some (mkFile [])
  | 3 => some (mkFile []) | _ => none

/-- f0 → f1 → f0 and f1 → f1 -/
def loop : FS := fun p => match p with
  | 0 => some (mkFile [1]) | 1 => some (mkFile [1, 0]) | _ => none

def brief (r : Result) : Option (List Path) × List (Kind × Path × Option Path × Nat) :=
  (r.res.map (·.order), r.errs.map fun e => (e.kind, e.path, e.base, e.rng.start.line))

/-- Pinned tree (DESIGN §8 row 8, reproduced against the real loader): the second path to f3 in
    a diamond is reported as a cycle "f2 includes f3". -/
theorem diamond_counterexample :
    brief (load diamond ⟨1000, 50⟩ .pinned [] 0) = (some [1, 3, 2], [(.cycle, 3, some 2, 1)]) := by
  decide +kernel

/-- Pinned tree (DESIGN §8 row 9): with depth limit 2 only the first of three sibling includes is
    loaded; the other two get "depth limit exceeded" with no range (line 0). -/
theorem wide_depth_counterexample :
    brief (load wide ⟨1000, 2⟩ .pinned [] 0) = (some [1], [(.depth, 2, none, 0), (.depth, 3, none, 0)]) := by
  decide +kernel

/-- The repaired tree on the same inputs, and on a graph with a 2-cycle and a self-loop: the
    cycle diagnostics sit on the directives that close the cycles (f1 line 1 → f1, line 2 → f0). -/
example : brief (load diamond ⟨1000, 50⟩ .repaired [] 0) = (some [1, 3, 2], []) := by decide +kernel
example : brief (load wide ⟨1000, 2⟩ .repaired [] 0) = (some [1, 2, 3], []) := by decide +kernel
example : brief (load loop ⟨1000, 50⟩ .repaired [] 0) =
    (some [1], [(.cycle, 1, some 1, 1), (.cycle, 0, some 1, 2)]) := by decide +kernel
/-- Non-vacuity of the hypotheses of the theorems above: an empty cache is consistent, the
    diamond is loaded without depth diagnostics, `loop` has a reachable file on a cycle. -/
example : Cons diamond ⟨1000, 50⟩ [] := fun p f h => by simp [Cache.get] at h
example : NoDepth (loadFromContent diamond ⟨1000, 50⟩ .repaired [] 0 (mkFile [1, 2])).errs := by
  intro e he
  have : (loadFromContent diamond ⟨1000, 50⟩ .repaired [] 0 (mkFile [1, 2])).errs = [] := by decide +kernel
  rw [this] at he; simp at he
example : ∃ x, Reach loop ⟨1000, 50⟩ 0 (mkFile [1]) x ∧ OnCycle loop ⟨1000, 50⟩ 0 (mkFile [1]) x := by
  have e01 : Edge loop 0 (mkFile [1]) 0 1 :=
    ⟨mkFile [1], by simp [fileOf], mkInc 1 1, by simp [mkFile, List.zipIdx], Or.inl rfl⟩
  have e10 : Edge loop 0 (mkFile [1]) 1 0 :=
    ⟨mkFile [1, 0], by simp [fileOf, loop], mkInc 0 2, by simp [mkFile, List.zipIdx], Or.inl rfl⟩
  have l1 : Loadable loop ⟨1000, 50⟩ 1 := ⟨mkFile [1, 0], rfl, by decide⟩
  exact ⟨0, Reach.root, 1, ⟨e01, Or.inr l1⟩, LeadsL.tail (LeadsL.refl 1) ⟨e10, Or.inl rfl⟩⟩

/-- a chain deeper than the limit: the too-deep include is reported on its directive (line 1 of f1) -/
example : brief (load (fun p => if p < 5 then some (mkFile [p + 1]) else none) ⟨1000, 2⟩ .repaired [] 0) =
    (some [1], [(.depth, 2, none, 1)]) := by decide +kernel

end HL.Props.C10
