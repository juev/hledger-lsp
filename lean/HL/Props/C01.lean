/-
  C01 — Document mirror fidelity under any edit history.
  The single-change theorems rest on HL/Lemmas/Text.lean; the simulation between the server's
  store and the client's buffers over histories (`Sim`, `sim_run`) is proved here.
-/
import HL.Lemmas.Text
import HL.Generated.Expect.Text
import HL.Generated.Expect.PureText
import HL.Generated.Expect.Dispatch
namespace HL.Props.C01
open HL.Text HL.Ref HL.Lemmas.Text

/-- A ranged change from a conforming client is applied at the client's UTF-16 offsets:
    for every document, every range (any lines, any characters, past line end, past document
    end) and every inserted text. -/
theorem mirror_change (s : Txt) (r : Range) (t : Txt) (h : rangeOK s r = true) :
    enc16 (applyChange true s r t) = Ref.applyOne (enc16 s) (.ranged r t) := by
  simp only [rangeOK, Bool.and_eq_true, decide_eq_true_eq] at h
  obtain ⟨⟨h1, h2⟩, h3⟩ := h
  have e1 := u16len_take_lspToIdx s r.sl r.sc h1
  have e2 := u16len_take_lspToIdx s r.el r.ec h2
  have l1 := lspToIdx_le s r.sl r.sc
  have l2 := lspToIdx_le s r.el r.ec
  have hle : lspToIdx true s r.sl r.sc ≤ lspToIdx true s r.el r.ec := by
    apply Nat.le_of_not_lt
    intro hlt
    have := u16len_take_lt s _ _ hlt l1
    omega
  unfold applyChange Ref.applyOne
  simp only [Nat.not_lt.mpr hle, if_false, Nat.min_eq_left l1, Nat.min_eq_left l2]
  rw [enc16_append, enc16_append, enc16_take, enc16_drop, e1, e2]

/-- One content change, ranged or range-less, as decoded from the wire. -/
theorem mirror_one (s : Txt) (c : Ref.Change) (h : changeOK s c = true) :
    enc16 (Text.applyOne true s (wire c)) = Ref.applyOne (enc16 s) c := by
  cases c with
  | full t => simp [wire, Text.applyOne, Ref.applyOne]
  | ranged r t =>
    simp only [wire, Text.applyOne]
    exact mirror_change s r t h

/-- Several changes in one notification apply in order. -/
theorem mirror_notification (s : Txt) (cs : List Ref.Change) (h : changesOK s cs = true) :
    enc16 (Text.applyAll true s (cs.map wire)) = Ref.applyAll (enc16 s) cs := by
  induction cs generalizing s with
  | nil => rfl
  | cons c cs ih =>
    simp only [changesOK, Bool.and_eq_true] at h
    obtain ⟨h1, h3⟩ := h
    simp only [Text.applyAll, Ref.applyAll, List.map_cons, List.foldl_cons]
    rw [← mirror_one s c h1]
    exact ih _ h3

/-- The server's store mirrors the client's buffers. -/
def Sim (d : Text.Docs) (rd : Ref.Docs) : Prop := ∀ u, (d.get u).map enc16 = rd.get u

theorem find_filter_ne {α} (d : List (Uri × α)) (u v : Uri) (h : u ≠ v) :
    (d.filter (·.1 != u)).find? (·.1 == v) = d.find? (·.1 == v) := by
  rw [List.find?_filter]
  congr 1
  funext x
  by_cases hx : x.1 = v
  · have : ¬ v = u := fun e => h e.symm
    simp [hx, this]
  · simp [hx]

theorem find_filter_eq {α} (d : List (Uri × α)) (u : Uri) :
    (d.filter (·.1 != u)).find? (·.1 == u) = none := by
  rw [List.find?_filter, List.find?_eq_none]
  intro x _
  by_cases hx : x.1 = u <;> simp [hx]

theorem get_set {α} (d : List (Uri × α)) (u v : Uri) (t : α) :
    (((u, t) :: d.filter (·.1 != u)).find? (·.1 == v)).map (·.2)
      = if u = v then some t else (d.find? (·.1 == v)).map (·.2) := by
  by_cases h : u = v
  · subst h; simp
  · have hb : (u == v) = false := by simpa using h
    simp only [List.find?_cons, hb, h, if_false]
    rw [find_filter_ne d u v h]

theorem get_erase {α} (d : List (Uri × α)) (u v : Uri) :
    ((d.filter (·.1 != u)).find? (·.1 == v)).map (·.2)
      = if u = v then none else (d.find? (·.1 == v)).map (·.2) := by
  by_cases h : u = v
  · subst h; simp
  · simp only [h, if_false]; rw [find_filter_ne d u v h]

theorem sim_step (d : Text.Docs) (rd : Ref.Docs) (n : Ref.Note) (hs : Sim d rd)
    (hn : noteOK d n = true) : Sim (Text.step true d (wireNote n)) (Ref.step rd n) := by
  intro v
  cases n with
  | didOpen u t =>
    simp only [wireNote, Text.step, Ref.step, Text.Docs.get, Text.Docs.set, Text.Docs.erase,
      Ref.Docs.get, Ref.Docs.set, Ref.Docs.erase, get_set]
    split
    · rfl
    · exact hs v
  | didClose u =>
    simp only [wireNote, Text.step, Ref.step, Text.Docs.get, Text.Docs.erase,
      Ref.Docs.get, Ref.Docs.erase, get_erase]
    split
    · rfl
    · exact hs v
  | didChange u cs =>
    have hu := hs u
    simp only [wireNote, Text.step, Ref.step]
    cases hd : Text.Docs.get d u with
    | none =>
      rw [hd] at hu; simp only [Option.map_none] at hu
      rw [← hu]; exact hs v
    | some t =>
      rw [hd] at hu; simp only [Option.map_some] at hu
      rw [← hu]
      simp only [noteOK, hd] at hn
      simp only [Text.Docs.get, Text.Docs.set, Text.Docs.erase,
        Ref.Docs.get, Ref.Docs.set, Ref.Docs.erase, get_set]
      split
      · simp only [Option.map_some]; rw [mirror_notification t cs hn]
      · exact hs v

theorem sim_run (d : Text.Docs) (rd : Ref.Docs) (h : List Ref.Note) (hs : Sim d rd)
    (hok : histOK d h = true) :
    Sim ((h.map wireNote).foldl (Text.step true) d) (h.foldl Ref.step rd) := by
  induction h generalizing d rd with
  | nil => exact hs
  | cons n ns ih =>
    simp only [histOK, Bool.and_eq_true] at hok
    simp only [List.map_cons, List.foldl_cons]
    exact ih _ _ (sim_step d rd n hs hok.1) hok.2

/-- **C01, first sentence.** After any finite history of didOpen / didChange / didClose /
    re-open over any number of documents sent by a conforming client, the text the server
    holds for every URI is exactly the client's text (and is absent exactly when the client
    has the document closed).  No guard on the shape of changes: an insertion at 0:0 is a
    ranged change like any other since the repair of finding `insert-at-origin`. -/
theorem mirror_history (h : List Ref.Note) (hok : histOK [] h = true) (u : Uri) :
    ((Text.run true (h.map wireNote)).get u).map enc16 = (Ref.run h).get u :=
  sim_run [] [] h (fun _ => rfl) hok u

/-- Finding `insert-at-origin` (repaired by a `fix:` commit): with the PINNED decoding
    (`wirePinned`: range by value, `isFullChange`) a ranged insertion at 0:0 is taken for a
    full replacement — the client holds "Xabc", the server "X"; with the repaired decoding
    (`wire`) both hold "Xabc". -/
theorem pinned_insert_at_origin_counterexample :
    let c : Ref.Change := .ranged ⟨0, 0, 0, 0⟩ ['X']
    changeOK ['a', 'b', 'c'] c = true ∧
    enc16 (Text.applyOne true ['a', 'b', 'c'] (wirePinned c)) ≠ Ref.applyOne (enc16 ['a', 'b', 'c']) c ∧
    enc16 (Text.applyOne true ['a', 'b', 'c'] (wire c)) = Ref.applyOne (enc16 ['a', 'b', 'c']) c := by
  decide +kernel

/-- mapper.go as pinned (no CR trimming): a character past the end of a CRLF line lands
    between CR and LF.  This is the defect repaired by the `fix:` commit; the theorems above
    are about the repaired function (`trimCR = true`). -/
theorem pinned_crlf_clamp_counterexample :
    let s : Txt := ['a', 'b', '\r', '\n', 'c']
    let r : Range := ⟨0, 99, 0, 99⟩
    rangeOK s r = true ∧
    enc16 (applyChange false s r ['X']) ≠ Ref.applyOne (enc16 s) (.ranged r ['X']) ∧
    enc16 (applyChange true s r ['X']) = Ref.applyOne (enc16 s) (.ranged r ['X']) := by
  decide +kernel

/-- Non-vacuity: a history with a non-BMP character, a CRLF line, a multi-change
    notification, a range past the line end, close and re-open satisfies `histOK`. -/
example : histOK []
    [.didOpen "a" ['x', '😀', '\r', '\n', 'y'],
     .didChange "a" [.ranged ⟨0, 3, 0, 9⟩ ['z'], .ranged ⟨1, 0, 5, 0⟩ [], .ranged ⟨0, 0, 0, 0⟩ ['w'], .full ['q']],
     .didClose "a", .didOpen "a" []] = true := by decide +kernel

end HL.Props.C01
