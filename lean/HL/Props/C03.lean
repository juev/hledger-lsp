import HL.Lemmas.ParserList
/-
  C03, parser side: per-line-shape lemmas (layer L4 of DESIGN 7.C03).  Given the exact token
  sequence of a line shape, the parser yields the intended syntax-tree node, leaves the error
  list untouched and stops in front of the right token.  Stated over the token-list source;
  `num`/`cls` arbitrary.  They compose with the lexer's extent lemmas (L3) into
  `C03_faithful_core` (HL/Props/C03Faithful.lean).

    date_full_ok, date_partial_ok           Y-M-D and M-D (after a Y directive)
    amount_number_only_ok                   `12.50`
    amount_number_commodity_ok              `12.50 EUR`      (right commodity)
    amount_commodity_number_ok              `$12.50`         (left commodity)
    amount_sign_commodity_number_ok         `-$12.50`        (sign before a left commodity)
    posting_account_only_ok                 `  assets:cash⏎`
    posting_amount_ok                       `  assets:cash  12.50 EUR⏎`
    header_date_text_ok                     `2024-01-15 grocery store⏎`
    top_comment_ok                          `; text` at top level
    year_directive_ok                       `Y 2024⏎` / `year 2024⏎`

  The amount, posting and header shapes are instances of `parseAmount_number` / `_sign` with
  `amountNumber_ok`, of `posting_ok` and of `header_ok`, which leave the rest of the line (the
  postings) to `amountRightCommodity`, `postingTail` (`postingsF`).
-/
namespace HL.Props.C03
open HL HL.Ast HL.Parser HL.PStr

variable (num : NumDeps) (cls : Classes)

theorem parse_eof_only (p : Pos) :
    parseTokens num cls [⟨.eof, [], p, p⟩] = (jempty, []) := by
  rfl

@[simp] theorem advance_list (t : Token) (r : List Token) (c : Token) (e : List ParseError) (y : Int) :
    advance (listEnv num cls) ⟨t :: r, c, e, y⟩ = ⟨r, t, e, y⟩ := rfl

theorem listEnv_num : (listEnv num cls).num = num := rfl

/-- A full date `Y s M s D`. -/
theorem date_full_ok (d x : Token) (rest : List Token) (errs : List ParseError) (dy : Int)
    (a b c : Bytes) (y m dd : Int) (h : d.ty = .date)
    (hs : splitByte d.val (firstSep d.val) = [a, b, c])
    (ha : atoi a = some y) (hb : atoi b = some m) (hc : atoi c = some dd) :
    parseDate (listEnv num cls) ⟨x :: rest, d, errs, dy⟩ =
      (some ⟨y, m, dd, ⟨d.pos, d.stop⟩⟩, ⟨rest, x, errs, dy⟩) := by
  unfold parseDate
  simp only [h, ne_eq, not_true_eq_false, if_false, advance_list, hs, ha, hb, hc, toRange]

/-- A partial date `M s D` while a default year is in force. -/
theorem date_partial_ok (d x : Token) (rest : List Token) (errs : List ParseError) (dy : Int)
    (a b : Bytes) (m dd : Int) (h : d.ty = .date) (hdy : dy ≠ 0)
    (hs : splitByte d.val (firstSep d.val) = [a, b])
    (ha : atoi a = some m) (hb : atoi b = some dd) :
    parseDate (listEnv num cls) ⟨x :: rest, d, errs, dy⟩ =
      (some ⟨dy, m, dd, ⟨d.pos, d.stop⟩⟩, ⟨rest, x, errs, dy⟩) := by
  unfold parseDate
  simp only [h, ne_eq, not_true_eq_false, if_false, advance_list, hs, hdy, ha, hb, toRange]

/-- What makes a Number token an acceptable quantity. -/
def NumOk (n : Token) (q : Dec) : Prop :=
  num.decOfString (num.normalize (dropBlanks n.val)) = some q ∧
  ¬ (q.exp > maxAmountExponent ∨ q.exp < -maxAmountExponent)

theorem parseAmount_number (n : Token) (rest : List Token) (errs : List ParseError) (dy : Int)
    (h3 : n.ty = .number) :
    parseAmount (listEnv num cls) ⟨rest, n, errs, dy⟩ =
      amountNumber (listEnv num cls) n.pos [] emptyCommodity false ⟨rest, n, errs, dy⟩ := by
  unfold parseAmount amountLeadSign amountLeftCommodity amountSecondSign
  simp only [h3, reduceCtorEq, if_false]

theorem parseAmount_sign (sg n : Token) (rest : List Token) (errs : List ParseError) (dy : Int)
    (h1 : sg.ty = .sign) (h3 : n.ty = .number) :
    parseAmount (listEnv num cls) ⟨n :: rest, sg, errs, dy⟩ =
      amountNumber (listEnv num cls) sg.pos sg.val emptyCommodity false ⟨rest, n, errs, dy⟩ := by
  unfold parseAmount amountLeadSign amountLeftCommodity amountSecondSign
  simp only [h1, h3, reduceCtorEq, if_false, if_true, advance_list]

theorem amountNumber_ok (start : Pos) (sign raw : Bytes) (n x : Token) (rest : List Token)
    (errs : List ParseError) (dy : Int) (q : Dec) (h3 : n.ty = .number)
    (hraw : (if sign = [0x2D] ∧ !([0x2D] : Bytes).isPrefixOf n.val then 0x2D :: n.val else n.val) = raw)
    (hq : num.decOfString (num.normalize (dropBlanks raw)) = some q)
    (hexp : ¬ (q.exp > maxAmountExponent ∨ q.exp < -maxAmountExponent))
    (r : Commodity × Pos) (st' : PState (List Token))
    (hr : amountRightCommodity (listEnv num cls) emptyCommodity n.stop ⟨rest, x, errs, dy⟩ = (r, st')) :
    amountNumber (listEnv num cls) start sign emptyCommodity false ⟨x :: rest, n, errs, dy⟩ =
      (some ⟨q, raw, r.1, false, ⟨start, r.2⟩⟩, st') := by
  unfold amountNumber
  simp only [h3, ne_eq, not_true_eq_false, if_false, hraw, listEnv_num, hq, hexp, advance_list, hr, toRange]

theorem amountRightCommodity_none (stop : Pos) (x : Token) (rest : List Token) (errs : List ParseError)
    (dy : Int) (hx : x.ty ≠ .commodity) (hx' : x.ty ≠ .text) :
    amountRightCommodity (listEnv num cls) emptyCommodity stop ⟨rest, x, errs, dy⟩ =
      ((emptyCommodity, stop), ⟨rest, x, errs, dy⟩) := by
  unfold amountRightCommodity
  simp only [emptyCommodity, hx, hx', false_and, or_self, if_false, if_true]

theorem amountRightCommodity_some (stop : Pos) (com x : Token) (rest : List Token) (errs : List ParseError)
    (dy : Int) (h4 : com.ty = .commodity) :
    amountRightCommodity (listEnv num cls) emptyCommodity stop ⟨x :: rest, com, errs, dy⟩ =
      ((⟨com.val, .right, ⟨com.pos, com.stop⟩⟩, com.stop), ⟨rest, x, errs, dy⟩) := by
  unfold amountRightCommodity
  simp only [emptyCommodity, h4, true_or, if_true, advance_list, toRange]

/-- `12.50` followed by a token that is neither a commodity nor a commodity-like text. -/
theorem amount_number_only_ok (n x : Token) (rest : List Token) (errs : List ParseError) (dy : Int) (q : Dec)
    (h3 : n.ty = .number) (hx : x.ty ≠ .commodity) (hx' : x.ty ≠ .text) (hq : NumOk num n q) :
    parseAmount (listEnv num cls) ⟨x :: rest, n, errs, dy⟩ =
      (some ⟨q, n.val, emptyCommodity, false, ⟨n.pos, n.stop⟩⟩, ⟨x :: rest, n, errs, dy⟩ |> advance (listEnv num cls)) := by
  rw [parseAmount_number num cls n _ errs dy h3]
  exact amountNumber_ok num cls _ [] _ n x rest errs dy q h3 rfl hq.1 hq.2 _ _
    (amountRightCommodity_none num cls _ x rest errs dy hx hx')

/-- `12.50 EUR`. -/
theorem amount_number_commodity_ok (n com x : Token) (rest : List Token) (errs : List ParseError) (dy : Int)
    (q : Dec) (h3 : n.ty = .number) (h4 : com.ty = .commodity) (hq : NumOk num n q) :
    parseAmount (listEnv num cls) ⟨com :: x :: rest, n, errs, dy⟩ =
      (some ⟨q, n.val, ⟨com.val, .right, ⟨com.pos, com.stop⟩⟩, false, ⟨n.pos, com.stop⟩⟩, ⟨rest, x, errs, dy⟩) := by
  rw [parseAmount_number num cls n _ errs dy h3]
  exact amountNumber_ok num cls _ [] _ n com _ errs dy q h3 rfl hq.1 hq.2 _ _
    (amountRightCommodity_some num cls _ com x rest errs dy h4)

/-- `$12.50` (a left commodity with a non-empty symbol). -/
theorem amount_commodity_number_ok (com n x : Token) (rest : List Token) (errs : List ParseError) (dy : Int)
    (q : Dec) (h4 : com.ty = .commodity) (h3 : n.ty = .number) (hsym : com.val ≠ []) (hq : NumOk num n q) :
    parseAmount (listEnv num cls) ⟨n :: x :: rest, com, errs, dy⟩ =
      (some ⟨q, n.val, ⟨com.val, .left, ⟨com.pos, com.stop⟩⟩, false, ⟨com.pos, n.stop⟩⟩, ⟨rest, x, errs, dy⟩) := by
  unfold parseAmount amountLeadSign amountLeftCommodity amountSecondSign amountNumber amountRightCommodity
  simp only [h3, h4, advance_list, reduceCtorEq, if_false, if_true, ne_eq, not_true_eq_false, false_and,
    listEnv_num, hq.1, hq.2, hsym, Bool.false_and, toRange]

/-- `-$12.50`: the sign in front of a left commodity is kept in the raw quantity and in
    `signBeforeCommodity`; the number is negated by prefixing `-`. -/
theorem amount_sign_commodity_number_ok (sg com n x : Token) (rest : List Token) (errs : List ParseError)
    (dy : Int) (q : Dec) (h1 : sg.ty = .sign) (hv : sg.val = [0x2D]) (h4 : com.ty = .commodity)
    (h3 : n.ty = .number) (hsym : com.val ≠ []) (hn : ¬ ([0x2D] : Bytes).isPrefixOf n.val)
    (hq : num.decOfString (num.normalize (dropBlanks (0x2D :: n.val))) = some q)
    (hexp : ¬ (q.exp > maxAmountExponent ∨ q.exp < -maxAmountExponent)) :
    parseAmount (listEnv num cls) ⟨com :: n :: x :: rest, sg, errs, dy⟩ =
      (some ⟨q, 0x2D :: n.val, ⟨com.val, .left, ⟨com.pos, com.stop⟩⟩, true, ⟨sg.pos, n.stop⟩⟩,
       ⟨rest, x, errs, dy⟩) := by
  unfold parseAmount amountLeadSign amountLeftCommodity amountSecondSign amountNumber amountRightCommodity
  simp only [h1, h3, h4, hv, advance_list, reduceCtorEq, if_false, if_true, ne_eq, not_true_eq_false,
    listEnv_num, hsym, toRange, Bool.true_and, decide_true, Bool.true_or, hn, Bool.not_false,
    hq, hexp, List.cons_ne_self, List.cons.injEq, and_true]

theorem postingTail_newline (nl : Token) (rest : List Token) (errs : List ParseError) (dy : Int)
    (h5 : nl.ty = .newline) :
    postingTail (listEnv num cls) none ⟨rest, nl, errs, dy⟩ = ((none, none, none, [], []), ⟨rest, nl, errs, dy⟩) := by
  unfold postingTail postingClosing postingAmount postingCost postingAssertion lineComment
  simp only [h5, reduceCtorEq, if_false, or_self]

theorem postingTail_amount (st st' : PState (List Token)) (a : Amount)
    (hty : st.current.ty = .commodity ∨ st.current.ty = .number ∨ st.current.ty = .sign)
    (ha : parseAmount (listEnv num cls) st = (some a, st')) (h5 : st'.current.ty = .newline) :
    postingTail (listEnv num cls) none st = ((some a, none, none, [], []), st') := by
  unfold postingTail postingClosing postingAmount postingCost postingAssertion lineComment
  simp only [reduceCtorEq, if_false, hty, if_true, ha, h5, or_self]

theorem posting_ok (ind acc x : Token) (rest : List Token) (errs : List ParseError) (dy : Int)
    (h1 : ind.ty = .indent) (h2 : acc.ty = .account)
    (t : Option Amount × Option Cost × Option Assertion × Bytes × List Tag) (st' : PState (List Token))
    (ht : postingTail (listEnv num cls) none ⟨rest, x, errs, dy⟩ = (t, st')) :
    parsePosting (listEnv num cls) ⟨acc :: x :: rest, ind, errs, dy⟩ =
      (some ⟨.none, ⟨acc.val, ⟨acc.pos, acc.stop⟩⟩, t.1, t.2.2.1, t.2.1, t.2.2.2.1, t.2.2.2.2, .none,
          ⟨acc.pos, st'.current.pos⟩⟩, st') := by
  unfold parsePosting
  simp only [h1, ne_eq, not_true_eq_false, if_false, advance_list, h2, reduceCtorEq, or_self]
  unfold postingOpen
  simp only [h2, reduceCtorEq, if_false, not_true_eq_false, advance_list, ht, toRange]

/-- `  assets:cash⏎`: a posting with only an account. -/
theorem posting_account_only_ok (ind acc nl : Token) (rest : List Token) (errs : List ParseError) (dy : Int)
    (h1 : ind.ty = .indent) (h2 : acc.ty = .account) (h5 : nl.ty = .newline) :
    parsePosting (listEnv num cls) ⟨acc :: nl :: rest, ind, errs, dy⟩ =
      (some ⟨.none, ⟨acc.val, ⟨acc.pos, acc.stop⟩⟩, none, none, none, [], [], .none, ⟨acc.pos, nl.pos⟩⟩,
       ⟨rest, nl, errs, dy⟩) :=
  posting_ok num cls ind acc nl rest errs dy h1 h2 _ _ (postingTail_newline num cls nl rest errs dy h5)

/-- `  assets:cash  12.50 EUR⏎`. -/
theorem posting_amount_ok (ind acc n com nl : Token) (rest : List Token) (errs : List ParseError) (dy : Int)
    (q : Dec) (h1 : ind.ty = .indent) (h2 : acc.ty = .account) (h3 : n.ty = .number)
    (h4 : com.ty = .commodity) (h5 : nl.ty = .newline) (hq : NumOk num n q) :
    parsePosting (listEnv num cls) ⟨acc :: n :: com :: nl :: rest, ind, errs, dy⟩ =
      (some ⟨.none, ⟨acc.val, ⟨acc.pos, acc.stop⟩⟩,
             some ⟨q, n.val, ⟨com.val, .right, ⟨com.pos, com.stop⟩⟩, false, ⟨n.pos, com.stop⟩⟩,
             none, none, [], [], .none, ⟨acc.pos, nl.pos⟩⟩,
       ⟨rest, nl, errs, dy⟩) :=
  posting_ok num cls ind acc n _ errs dy h1 h2 _ _ (postingTail_amount num cls _ _ _ (.inr (.inl h3))
    (amount_number_commodity_ok num cls n com nl rest errs dy q h3 h4 hq) h5)

theorem header_ok (d tx nl : Token) (rest : List Token) (errs : List ParseError) (dy : Int)
    (a b c : Bytes) (y m dd : Int) (h : d.ty = .date) (ht : tx.ty = .text) (hn : nl.ty = .newline)
    (hs : splitByte d.val (firstSep d.val) = [a, b, c])
    (ha : atoi a = some y) (hb : atoi b = some m) (hc : atoi c = some dd)
    (ps : List Posting) (st' : PState (List Token))
    (hp : postingsF (listEnv num cls) (fuelOf (listEnv num cls) (advance (listEnv num cls) ⟨rest, nl, errs, dy⟩))
      (advance (listEnv num cls) ⟨rest, nl, errs, dy⟩) = (ps, st')) :
    parseTransaction (listEnv num cls) ⟨tx :: nl :: rest, d, errs, dy⟩ =
      (some ⟨⟨y, m, dd, ⟨d.pos, d.stop⟩⟩, none, .none, [], tx.val, [], [], ps, [], [], ⟨d.pos, st'.current.pos⟩⟩,
       st') := by
  unfold parseTransaction
  rw [date_full_ok num cls d tx (nl :: rest) errs dy a b c y m dd h hs ha hb hc]
  simp only
  unfold txHeader txDate2 txStatus txCode txComment
  simp only [ht, reduceCtorEq, if_false]
  unfold txDescription
  simp only [ht, if_true, advance_list, hn, reduceCtorEq, if_false, hp, toRange]

/-- `2024-01-15 grocery store⏎` followed by a line that is not indented: a transaction without
    postings whose description is the text token. -/
theorem header_date_text_ok (d tx nl x : Token) (rest : List Token) (errs : List ParseError) (dy : Int)
    (a b c : Bytes) (y m dd : Int) (h : d.ty = .date) (ht : tx.ty = .text) (hn : nl.ty = .newline)
    (hx : x.ty ≠ .indent)
    (hs : splitByte d.val (firstSep d.val) = [a, b, c])
    (ha : atoi a = some y) (hb : atoi b = some m) (hc : atoi c = some dd) :
    parseTransaction (listEnv num cls) ⟨tx :: nl :: x :: rest, d, errs, dy⟩ =
      (some ⟨⟨y, m, dd, ⟨d.pos, d.stop⟩⟩, none, .none, [], tx.val, [], [], [], [], [], ⟨d.pos, x.pos⟩⟩,
       ⟨rest, x, errs, dy⟩) := by
  refine header_ok num cls d tx nl (x :: rest) errs dy a b c y m dd h ht hn hs ha hb hc [] ⟨rest, x, errs, dy⟩ ?_
  unfold postingsF fuelOf
  simp only [advance_list, hx, ne_eq, not_false_eq_true, if_true]

/-- A top-level comment line: the comment's text, its tags, and nothing else. -/
theorem top_comment_ok (cm x : Token) (rest : List Token) (errs : List ParseError) (dy : Int)
    (h : cm.ty = .comment) :
    journalStep (listEnv num cls) ⟨x :: rest, cm, errs, dy⟩ =
      (.comment ⟨cm.val, parseTags cm.val cm.pos, ⟨cm.pos, Pos.zero⟩⟩, ⟨rest, x, errs, dy⟩) := by
  unfold journalStep
  simp only [h, reduceCtorEq, if_false, if_true, parseComment, advance_list, toRange]

theorem skip_at_newline (nl x : Token) (rest : List Token) (errs : List ParseError) (dy : Int)
    (hn : nl.ty = .newline) :
    skipToNextLine (listEnv num cls) ⟨x :: rest, nl, errs, dy⟩ = ⟨rest, x, errs, dy⟩ := by
  unfold skipToNextLine fuelOf
  simp only [skipLoopF, isLineEnd, hn, decide_true, Bool.true_or, if_true, advance_list]

/-- `Y 2024⏎`: the year directive is recorded, the default year is set, nothing is reported. -/
theorem year_directive_ok (dt n nl x : Token) (rest : List Token) (errs : List ParseError) (dy : Int)
    (y : Int) (hty : dt.ty = .directive) (hd : dt.val = kwY ∨ dt.val = kwYear) (hn : n.ty = .number)
    (hnl : nl.ty = .newline) (hy : atoi n.val = some y) (hr : ¬ (y < 1 ∨ y > 9999)) :
    journalStep (listEnv num cls) ⟨n :: nl :: x :: rest, dt, errs, dy⟩ =
      (.dir (.year y ⟨dt.pos, nl.pos⟩), ⟨rest, x, errs, y⟩) := by
  have hpd : parseDirective (listEnv num cls) ⟨n :: nl :: x :: rest, dt, errs, dy⟩ =
      (.dir (.year y ⟨dt.pos, nl.pos⟩), ⟨rest, x, errs, y⟩) := by
    unfold parseDirective
    have e1 : dt.val ≠ kwAccount := by rcases hd with h | h <;> (rw [h]; decide)
    have e2 : dt.val ≠ kwCommodity := by rcases hd with h | h <;> (rw [h]; decide)
    have e3 : dt.val ≠ kwInclude := by rcases hd with h | h <;> (rw [h]; decide)
    have e4 : dt.val ≠ kwP := by rcases hd with h | h <;> (rw [h]; decide)
    simp only [e1, e2, e3, e4, if_false, hd, if_true, advance_list]
    unfold parseYearDirective
    simp only [hn, ne_eq, not_true_eq_false, if_false, hy, hr, advance_list, toRange,
      skip_at_newline num cls nl x rest errs y hnl, DirResult.ofDir]
  unfold journalStep
  simp only [hty, reduceCtorEq, if_false, if_true, hpd]

end HL.Props.C03
