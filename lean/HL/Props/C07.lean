import HL.Lemmas.ParserTwin
import HL.Lemmas.ParserErrPre
/-
  C07 "A syntax error stays contained in its own entry" — the parser's part, on token streams.

  Within one iteration of `parseJournal`'s loop, which contains every inner loop, only a Newline
  or an Indent is consumed after a Newline; hence in front of every line that starts in column 1
  the loop is back at its head, and what is parsed from there on is what parsing the rest alone
  gives (default year as left so far; the errors so far only a prefix).  From this: containment
  of a damaged entry `Ed` in `A ⏎ Ed ⏎ B` for the entries after it (any damage), with the rest of
  the file moved by `d` lines / bytes, and for the entries before it under a guard (both versions
  of the entry start in column 1 at the same position); closed counterexamples show that "`B`
  starts in column 1" and the guard are needed.
-/
namespace HL.Props.C07
open HL HL.Ast HL.Parser

/-- Within one iteration of the journal loop, for every token source: the tokens consumed are
    accepted by the automaton `nc` (after a Newline only a Newline or an Indent), and the errors
    recorded sit on tokens of the iteration that do not directly follow a Newline. -/
theorem line_end_closes {σ : Type} (E : Env σ) (st : PState σ) :
    ∃ C new, Reach E st C (journalStep E st).2 ∧ (nc 0 C).isSome ∧
      (journalStep E st).2.errors = st.errors ++ new ∧
      ∀ e ∈ new, ∃ t ∈ okSites (C ++ [(journalStep E st).2.current]), e.pos = t.pos :=
  RC.elim E (journalStep_RC E st)

/-- What the automaton forbids: a Newline followed by a token that is neither an Indent nor a
    Newline is never inside what a single iteration consumes. -/
theorem no_iteration_crosses_a_line_start (X R : List Token) (nl y : Token) (h1 : nl.ty = .newline)
    (h2 : y.ty ≠ .indent) (h3 : y.ty ≠ .newline) : nc 0 (X ++ nl :: y :: R) = none :=
  nc_cross 0 X R nl y h1 h2 h3

variable (num : NumDeps) (cls : Classes)

/-- The state of the journal loop in front of the stream `y0 :: Y'`. -/
abbrev headState (y0 : Token) (Y' : List Token) (errs : List ParseError) (dy : Int) : PState (List Token) :=
  ⟨Y', y0, errs, dy⟩

/-- The parse of the stream `y0 :: Y'` on its own, started with default year `dy`:
    journal and errors. -/
def parseFrom (y0 : Token) (Y' : List Token) (dy : Int) : Journal × List ParseError :=
  let r := parseJournal (listEnv num cls) (headState y0 Y' [] dy)
  (r.1, r.2.errors)

/-- `parseTokens` is `parseFrom` with default year 0. -/
theorem parseTokens_eq_parseFrom (t0 : Token) (T : List Token) :
    parseTokens num cls (t0 :: T) = parseFrom num cls t0 T 0 := rfl

/-- `parse_resync`: with `current` = first token of a stream `S = s0 :: S'` the rest of the
    result is the parse of `S` (started with the default year in force); the errors so far are
    just a prefix of the final error list. -/
theorem parse_resync (s0 : Token) (S' : List Token) (errs : List ParseError) (dy : Int) :
    (parseJournal (listEnv num cls) (headState s0 S' errs dy)).1 = (parseFrom num cls s0 S' dy).1 ∧
    (parseJournal (listEnv num cls) (headState s0 S' errs dy)).2.errors = errs ++ (parseFrom num cls s0 S' dy).2 := by
  have := parseJournal_addPre (listEnv num cls) errs (headState s0 S' [] dy)
  have e : addPre errs (headState s0 S' [] dy) = headState s0 S' errs dy := by simp [addPre, headState]
  rw [e] at this
  rw [this]
  exact ⟨rfl, rfl⟩

/-- The same for every token source. -/
theorem parse_resync_general {σ : Type} (E : Env σ) (st : PState σ) (errs : List ParseError) :
    parseJournal E (addPre errs st) = ((parseJournal E st).1, addPre errs (parseJournal E st).2) :=
  parseJournal_addPre E errs st

theorem Runs.parse {st : PState (List Token)} {items y0 Y' errs dy}
    (h : Runs num cls st items (headState y0 Y' errs dy)) :
    (parseJournal (listEnv num cls) st).1 = pushAll items (parseFrom num cls y0 Y' dy).1 ∧
    (parseJournal (listEnv num cls) st).2.errors = errs ++ (parseFrom num cls y0 Y' dy).2 := by
  have p := parse_resync num cls y0 Y' errs dy
  rw [h.parseJournal]
  exact ⟨congrArg (pushAll items) p.1, p.2⟩

/-- `blank_line_closes` / line-start resynchronisation: if the stream in front of the journal
    loop is `X ++ nl :: y0 :: Y'` (`nl` a Newline, `y0` the first token of a line that starts in
    column 1, no EOF in `X`; `X` arbitrary otherwise — it may end with the Newline of a blank
    line), then every inner loop has returned by the time `y0` is current: the run equals the
    items of `X ++ [nl]` pushed onto the parse of `y0 :: Y'` alone, and all errors raised
    before are in the `ErrZone`: on tokens of `X`, or on `nl` if `X` does not end in a Newline. -/
theorem blank_line_closes (X : List Token) (nl y0 : Token) (Y' : List Token)
    (hX : ∀ t ∈ X, t.ty ≠ .eof) (h1 : nl.ty = .newline) (hy : y0.ty ≠ .indent) (hy' : y0.ty ≠ .newline)
    (hE : ∃ t ∈ y0 :: Y', t.ty = .eof) (st : PState (List Token)) (hs : strm st = X ++ nl :: y0 :: Y') :
    ∃ items new dy, ErrZone X nl new ∧ ((∀ t ∈ X, t.ty ≠ .directive) → dy = st.defaultYear) ∧
      (parseJournal (listEnv num cls) st).1 = pushAll items (parseFrom num cls y0 Y' dy).1 ∧
      (parseJournal (listEnv num cls) st).2.errors = st.errors ++ new ++ (parseFrom num cls y0 Y' dy).2 := by
  obtain ⟨items, new, dy, hp, hdy, hrun⟩ := sync num cls y0 Y' nl h1 hy hy' hE X st hX hs
  exact ⟨items, new, dy, hp, hdy, (Runs.parse num cls hrun).1, (Runs.parse num cls hrun).2⟩

/-- The literal blank-line form: after `Newline Newline` followed by a token in column 1 the
    loop is at its head; errors raised before sit on `X` or on the first of the two Newlines. -/
theorem blank_line_closes' (X : List Token) (nl1 nl2 y0 : Token) (Y' : List Token)
    (hX : ∀ t ∈ X, t.ty ≠ .eof) (h1 : nl1.ty = .newline) (h2 : nl2.ty = .newline)
    (hy : y0.ty ≠ .indent) (hy' : y0.ty ≠ .newline)
    (hE : ∃ t ∈ y0 :: Y', t.ty = .eof) (st : PState (List Token))
    (hs : strm st = X ++ nl1 :: nl2 :: y0 :: Y') :
    ∃ items new dy, (∀ x ∈ new, ∃ t ∈ X ++ [nl1], x.pos = t.pos) ∧
      (parseJournal (listEnv num cls) st).1 = pushAll items (parseFrom num cls y0 Y' dy).1 ∧
      (parseJournal (listEnv num cls) st).2.errors = st.errors ++ new ++ (parseFrom num cls y0 Y' dy).2 := by
  have hX' : ∀ t ∈ X ++ [nl1], t.ty ≠ .eof := by
    intro t ht; simp at ht; rcases ht with h | h
    · exact hX t h
    · rw [h, h1]; simp
  obtain ⟨items, new, dy, hp, _, hj, he⟩ :=
    blank_line_closes num cls (X ++ [nl1]) nl2 y0 Y' hX' h2 hy hy' hE st (by simpa using hs)
  refine ⟨items, new, dy, ?_, hj, he⟩
  intro x hx
  obtain ⟨t, hpx, ht⟩ := hp x hx
  refine ⟨t, ?_, hpx⟩
  rcases ht with h | h
  · exact h
  · have : lastNL true (X ++ [nl1]) = true := by rw [lastNL_append]; simp [lastNL, h1]
    rw [this] at h; simp at h

/-- An entry `e0 :: Ed'` in column 1, closed by the Newline `nlE` in front of the next line in
    column 1: the parse from `e0` is the entry's items pushed onto the parse from `b0`. -/
theorem entry_closes (Ed' B' : List Token) (nlE e0 b0 : Token) (dy0 : Int) (hEd : ∀ t ∈ e0 :: Ed', t.ty ≠ .eof)
    (hnE : nlE.ty = .newline) (hb0 : b0.ty ≠ .indent ∧ b0.ty ≠ .newline) (hB : ∃ t ∈ b0 :: B', t.ty = .eof) :
    ∃ items errs dy, ErrZone (e0 :: Ed') nlE errs ∧ ((∀ t ∈ e0 :: Ed', t.ty ≠ .directive) → dy = dy0) ∧
      parseFrom num cls e0 (Ed' ++ nlE :: b0 :: B') dy0 =
        (pushAll items (parseFrom num cls b0 B' dy).1, errs ++ (parseFrom num cls b0 B' dy).2) := by
  obtain ⟨items, errs, dy, hz, hdy, hj, he⟩ :=
    blank_line_closes num cls (e0 :: Ed') nlE b0 B' hEd hnE hb0.1 hb0.2 hB
      (headState e0 (Ed' ++ nlE :: b0 :: B') [] dy0) (by simp [strm])
  simp only [headState, List.nil_append] at he
  exact ⟨items, errs, dy, hz, hdy, Prod.ext hj he⟩

theorem eof_in_tail (e nl : Token) (Ed : List Token) {B : List Token} (h : ∃ t ∈ B, t.ty = .eof) :
    ∃ t ∈ e :: (Ed ++ nl :: B), t.ty = .eof :=
  h.elim fun t ht => ⟨t, List.mem_cons_of_mem _ (List.mem_append_right _ (List.mem_cons_of_mem _ ht.1)), ht.2⟩

theorem eof_in_shifted (d : Shift) {B : List Token} (h : ∃ t ∈ B, t.ty = .eof) : ∃ t ∈ B.map d.tok, t.ty = .eof :=
  h.elim fun t ht => ⟨d.tok t, List.mem_map_of_mem (f := d.tok) ht.1, ht.2⟩

/-- **Containment on token streams.**  The stream is `A ++ nlA :: Ed ++ nlE :: b0 :: B'`:
    `A` = everything before the damaged entry, `Ed` = the damaged entry's tokens (ANY tokens but
    EOF; it starts in column 1), `b0 :: B'` = the rest of the file, starting in column 1 and
    containing the EOF.  Then
      * the journal is the items parsed from `A`, then those from `Ed`, pushed onto the journal
        obtained by parsing `b0 :: B'` on its own with the default year `dyE` in force there;
      * the error list is: errors of the `A` part, errors of the `Ed` part, then exactly the
        errors of parsing `b0 :: B'` on its own;
      * the errors of the `Ed` part sit on tokens of `Ed` or on the Newline ending it; those of
        the `A` part on tokens of `A` or its closing Newline. -/
theorem C07_contained_tokens (A Ed' B' : List Token) (nlA nlE e0 b0 : Token)
    (hA : ∀ t ∈ A, t.ty ≠ .eof) (hEd : ∀ t ∈ e0 :: Ed', t.ty ≠ .eof)
    (hnA : nlA.ty = .newline) (hnE : nlE.ty = .newline)
    (he0 : e0.ty ≠ .indent ∧ e0.ty ≠ .newline) (hb0 : b0.ty ≠ .indent ∧ b0.ty ≠ .newline)
    (hB : ∃ t ∈ b0 :: B', t.ty = .eof) :
    ∃ itemsA itemsE errsA errsE dyA dyE,
      ErrZone A nlA errsA ∧ ErrZone (e0 :: Ed') nlE errsE ∧
      ((∀ t ∈ A, t.ty ≠ .directive) → dyA = 0) ∧
      ((∀ t ∈ e0 :: Ed', t.ty ≠ .directive) → dyE = dyA) ∧
      (parseFrom num cls e0 (Ed' ++ nlE :: b0 :: B') dyA).1 = pushAll itemsE (parseFrom num cls b0 B' dyE).1 ∧
      (parseTokens num cls (A ++ nlA :: e0 :: Ed' ++ nlE :: b0 :: B')).1 =
        pushAll (itemsA ++ itemsE) (parseFrom num cls b0 B' dyE).1 ∧
      (parseTokens num cls (A ++ nlA :: e0 :: Ed' ++ nlE :: b0 :: B')).2 =
        errsA ++ errsE ++ (parseFrom num cls b0 B' dyE).2 := by
  -- the whole stream as a state
  obtain ⟨st0, hs0, he0', hdy0, hp0⟩ : ∃ st0 : PState (List Token),
      strm st0 = A ++ nlA :: e0 :: Ed' ++ nlE :: b0 :: B' ∧ st0.errors = [] ∧ st0.defaultYear = 0 ∧
      parseTokens num cls (A ++ nlA :: e0 :: Ed' ++ nlE :: b0 :: B') =
        ((parseJournal (listEnv num cls) st0).1, (parseJournal (listEnv num cls) st0).2.errors) := by
    cases A with
    | nil => exact ⟨⟨_, nlA, [], 0⟩, rfl, rfl, rfl, rfl⟩
    | cons a A' => exact ⟨⟨_, a, [], 0⟩, rfl, rfl, rfl, rfl⟩
  obtain ⟨itemsA, errsA, dyA, hzA, hdyA, hjA, heA⟩ :=
    blank_line_closes num cls A nlA e0 (Ed' ++ nlE :: b0 :: B') hA hnA he0.1 he0.2
      (eof_in_tail e0 nlE Ed' hB) st0 (by rw [hs0]; simp)
  obtain ⟨itemsE, errsE, dyE, hzE, hdyE, hE⟩ := entry_closes num cls Ed' B' nlE e0 b0 dyA hEd hnE hb0 hB
  refine ⟨itemsA, itemsE, errsA, errsE, dyA, dyE, hzA, hzE, fun h => (hdyA h).trans hdy0, hdyE,
    congrArg Prod.fst hE, ?_, ?_⟩
  · rw [hp0]
    exact hjA.trans (by rw [hE, pushAll_append])
  · rw [hp0]
    simp only
    rw [heA, he0', hE]
    simp

/-- `parse_shift`: moving every position of a token stream by `d` (lines and bytes inserted in
    front of it) moves every position of its parse — ranges of transactions, postings, amounts,
    tags, directives, error positions — by `d` and changes nothing else. -/
theorem parse_shift (d : Shift) (b0 : Token) (B' : List Token) (dy : Int) :
    parseFrom num cls (d.tok b0) (B'.map d.tok) dy =
      (d.journal (parseFrom num cls b0 B' dy).1, (parseFrom num cls b0 B' dy).2.map d.perr) := by
  have := parseJournal_shift num cls d (headState b0 B' [] dy)
  have e : shiftSt d (headState b0 B' [] dy) = headState (d.tok b0) (B'.map d.tok) [] dy := rfl
  rw [e] at this
  unfold parseFrom
  rw [this]
  rfl

/-- The same for a whole file. -/
theorem parseTokens_shift' (d : Shift) (toks : List Token) :
    parseTokens num cls (toks.map d.tok) =
      (d.journal (parseTokens num cls toks).1, (parseTokens num cls toks).2.map d.perr) :=
  parseTokens_shift num cls d toks

/-- One file `A ⏎ Ed ⏎ B` without Directive tokens in `A` and `Ed`. -/
theorem contained_no_directive (A Ed' B' : List Token) (nlA nlE e0 b0 : Token)
    (hA : ∀ t ∈ A, t.ty ≠ .eof ∧ t.ty ≠ .directive) (hEd : ∀ t ∈ e0 :: Ed', t.ty ≠ .eof ∧ t.ty ≠ .directive)
    (hnA : nlA.ty = .newline) (hnE : nlE.ty = .newline)
    (he0 : e0.ty ≠ .indent ∧ e0.ty ≠ .newline) (hb0 : b0.ty ≠ .indent ∧ b0.ty ≠ .newline)
    (hB : ∃ t ∈ b0 :: B', t.ty = .eof) :
    ∃ items errs,
      (parseTokens num cls (A ++ nlA :: e0 :: Ed' ++ nlE :: b0 :: B')).1 = pushAll items (parseFrom num cls b0 B' 0).1 ∧
      (parseTokens num cls (A ++ nlA :: e0 :: Ed' ++ nlE :: b0 :: B')).2 = errs ++ (parseFrom num cls b0 B' 0).2 ∧
      ∀ x ∈ errs, ∃ t ∈ A ++ nlA :: e0 :: Ed' ++ [nlE], x.pos = t.pos := by
  obtain ⟨iA, iE, eA, eE, dyA, dyE, zA, zE, hd, hd', _, hj, hr⟩ :=
    C07_contained_tokens num cls A Ed' B' nlA nlE e0 b0 (fun t ht => (hA t ht).1)
      (fun t ht => (hEd t ht).1) hnA hnE he0 hb0 hB
  have y : dyE = 0 := by rw [hd' (fun t ht => (hEd t ht).2), hd (fun t ht => (hA t ht).2)]
  rw [y] at hj hr
  refine ⟨iA ++ iE, eA ++ eE, hj, hr, fun x hx => ?_⟩
  rcases List.mem_append.1 hx with hx | hx
  · obtain ⟨t, ht, hp⟩ := zA.weaken x hx
    exact ⟨t, by simp at ht ⊢; rcases ht with h | h <;> simp [h], hp⟩
  · obtain ⟨t, ht, hp⟩ := zE.weaken x hx
    exact ⟨t, by simp at ht ⊢; rcases ht with h | h | h <;> simp [h], hp⟩

/-- **Two damages compared.**  `Ed₁` and `Ed₂` are two versions of the same entry (e.g. intact
    and damaged), in the same surroundings `A … B`; neither they nor `A` contain a Directive
    token (so no `Y` directive can change the default year — the stated hypothesis of C07).
    Then everything parsed from `B` — transactions, directives, comments, includes with all
    their content and ranges, and exactly `B`'s own errors — is the same in both files:
    both journals are some items pushed in front of the SAME journal `JB`, both error lists end
    with the SAME `EB`, and all other errors of file i sit in `A` or in `Edᵢ` (or on the Newline
    ending them). -/
theorem C07_suffix_independent_of_damage (A Ed1' Ed2' B' : List Token) (nlA nlE1 nlE2 e1 e2 b0 : Token)
    (hA : ∀ t ∈ A, t.ty ≠ .eof ∧ t.ty ≠ .directive)
    (hEd1 : ∀ t ∈ e1 :: Ed1', t.ty ≠ .eof ∧ t.ty ≠ .directive)
    (hEd2 : ∀ t ∈ e2 :: Ed2', t.ty ≠ .eof ∧ t.ty ≠ .directive)
    (hnA : nlA.ty = .newline) (hn1 : nlE1.ty = .newline) (hn2 : nlE2.ty = .newline)
    (he1 : e1.ty ≠ .indent ∧ e1.ty ≠ .newline) (he2 : e2.ty ≠ .indent ∧ e2.ty ≠ .newline)
    (hb0 : b0.ty ≠ .indent ∧ b0.ty ≠ .newline) (hB : ∃ t ∈ b0 :: B', t.ty = .eof) :
    ∃ JB EB items1 items2 errs1 errs2,
      (JB, EB) = parseFrom num cls b0 B' 0 ∧
      (parseTokens num cls (A ++ nlA :: e1 :: Ed1' ++ nlE1 :: b0 :: B')).1 = pushAll items1 JB ∧
      (parseTokens num cls (A ++ nlA :: e2 :: Ed2' ++ nlE2 :: b0 :: B')).1 = pushAll items2 JB ∧
      (parseTokens num cls (A ++ nlA :: e1 :: Ed1' ++ nlE1 :: b0 :: B')).2 = errs1 ++ EB ∧
      (parseTokens num cls (A ++ nlA :: e2 :: Ed2' ++ nlE2 :: b0 :: B')).2 = errs2 ++ EB ∧
      (∀ x ∈ errs1, ∃ t ∈ A ++ nlA :: e1 :: Ed1' ++ [nlE1], x.pos = t.pos) ∧
      (∀ x ∈ errs2, ∃ t ∈ A ++ nlA :: e2 :: Ed2' ++ [nlE2], x.pos = t.pos) := by
  obtain ⟨i1, e1, hj1, hr1, hp1⟩ :=
    contained_no_directive num cls A Ed1' B' nlA nlE1 e1 b0 hA hEd1 hnA hn1 he1 hb0 hB
  obtain ⟨i2, e2, hj2, hr2, hp2⟩ :=
    contained_no_directive num cls A Ed2' B' nlA nlE2 e2 b0 hA hEd2 hnA hn2 he2 hb0 hB
  exact ⟨_, _, i1, i2, e1, e2, rfl, hj1, hj2, hr1, hr2, hp1, hp2⟩

/-- **Containment with the rest of the file moved.**  Intact file `A … Ed₁ … B`, damaged file
    `A … Ed₂ … B↓d` where the damage inserted `d.dl` lines / `d.doff` bytes, so that every token
    of `B` is moved by `d` (this is what the lexer's line locality gives).  No Directive token
    in `A`, `Ed₁`, `Ed₂`.  Then what the damaged file yields for `B` is what the intact file
    yields for `B`, moved by `d`: same transactions / directives / comments / includes with the
    same content, ranges shifted by `d`; and exactly `B`'s own errors, shifted by `d`.  All other
    errors of the damaged file sit on tokens of `A` or `Ed₂` (or the Newline ending them). -/
theorem C07_contained_shifted (d : Shift) (A Ed1' Ed2' B' : List Token) (nlA nlE1 nlE2 e1 e2 b0 : Token)
    (hA : ∀ t ∈ A, t.ty ≠ .eof ∧ t.ty ≠ .directive)
    (hEd1 : ∀ t ∈ e1 :: Ed1', t.ty ≠ .eof ∧ t.ty ≠ .directive)
    (hEd2 : ∀ t ∈ e2 :: Ed2', t.ty ≠ .eof ∧ t.ty ≠ .directive)
    (hnA : nlA.ty = .newline) (hn1 : nlE1.ty = .newline) (hn2 : nlE2.ty = .newline)
    (he1 : e1.ty ≠ .indent ∧ e1.ty ≠ .newline) (he2 : e2.ty ≠ .indent ∧ e2.ty ≠ .newline)
    (hb0 : b0.ty ≠ .indent ∧ b0.ty ≠ .newline) (hB : ∃ t ∈ b0 :: B', t.ty = .eof) :
    ∃ JB EB items1 items2 errs1 errs2,
      (JB, EB) = parseFrom num cls b0 B' 0 ∧
      (parseTokens num cls (A ++ nlA :: e1 :: Ed1' ++ nlE1 :: b0 :: B')).1 = pushAll items1 JB ∧
      (parseTokens num cls (A ++ nlA :: e2 :: Ed2' ++ nlE2 :: d.tok b0 :: B'.map d.tok)).1 =
        pushAll items2 (d.journal JB) ∧
      (parseTokens num cls (A ++ nlA :: e1 :: Ed1' ++ nlE1 :: b0 :: B')).2 = errs1 ++ EB ∧
      (parseTokens num cls (A ++ nlA :: e2 :: Ed2' ++ nlE2 :: d.tok b0 :: B'.map d.tok)).2 =
        errs2 ++ EB.map d.perr ∧
      (∀ x ∈ errs1, ∃ t ∈ A ++ nlA :: e1 :: Ed1' ++ [nlE1], x.pos = t.pos) ∧
      (∀ x ∈ errs2, ∃ t ∈ A ++ nlA :: e2 :: Ed2' ++ [nlE2], x.pos = t.pos) := by
  have hB2 : ∃ t ∈ d.tok b0 :: B'.map d.tok, t.ty = .eof := eof_in_shifted d hB
  obtain ⟨i1, e1, hj1, hr1, hp1⟩ :=
    contained_no_directive num cls A Ed1' B' nlA nlE1 e1 b0 hA hEd1 hnA hn1 he1 hb0 hB
  obtain ⟨i2, e2, hj2, hr2, hp2⟩ :=
    contained_no_directive num cls A Ed2' (B'.map d.tok) nlA nlE2 e2 (d.tok b0) hA hEd2 hnA hn2 he2 hb0 hB2
  rw [parse_shift] at hj2 hr2
  exact ⟨_, _, i1, i2, e1, e2, rfl, hj1, hj2, hr1, hr2, hp1, hp2⟩

/-- **Entries before the damage (`_partial`: guard = both versions of the damaged entry start
    in column 1, at the same position).**  Two files share everything up to and including the
    Newline `nlA`; then the first continues with `y0 :: Y'`, the second with `z0 :: Z'`, where
    `y0` and `z0` are tokens in column 1 (neither Indent nor Newline) at the same position.
    Then everything parsed from the common part `A` is IDENTICAL in both files — the same items
    (transactions, directives, comments, includes, with all ranges), the same errors, the same
    default year handed on — and each file continues with the parse of its own tail.
    Without the guard this is false: `C07_blank_line_after_error_counterexample`. -/
theorem C07_prefix_partial (A Y' Z' : List Token) (nlA y0 z0 : Token)
    (hA : ∀ t ∈ A, t.ty ≠ .eof) (hnA : nlA.ty = .newline)
    (hy : y0.ty ≠ .indent ∧ y0.ty ≠ .newline) (hz : z0.ty ≠ .indent ∧ z0.ty ≠ .newline)
    (hpos : y0.pos = z0.pos) (hE : ∃ t ∈ y0 :: Y', t.ty = .eof) :
    ∃ itemsA errsA dyA,
      parseTokens num cls (A ++ nlA :: y0 :: Y') =
        (pushAll itemsA (parseFrom num cls y0 Y' dyA).1, errsA ++ (parseFrom num cls y0 Y' dyA).2) ∧
      parseTokens num cls (A ++ nlA :: z0 :: Z') =
        (pushAll itemsA (parseFrom num cls z0 Z' dyA).1, errsA ++ (parseFrom num cls z0 Z' dyA).2) := by
  -- the same for a first token `c` and a rest `P` of the common part, whichever `A ++ [nlA]` has
  have core : ∀ c P, lastNL (c.ty = .newline) P = true → (∀ t ∈ c :: P, t.ty ≠ .eof) →
      ∃ itemsA errsA dyA,
        parseTokens num cls (c :: (P ++ y0 :: Y')) =
          (pushAll itemsA (parseFrom num cls y0 Y' dyA).1, errsA ++ (parseFrom num cls y0 Y' dyA).2) ∧
        parseTokens num cls (c :: (P ++ z0 :: Z')) =
          (pushAll itemsA (parseFrom num cls z0 Z' dyA).1, errsA ++ (parseFrom num cls z0 Z' dyA).2) := by
    intro c P hlast hne
    obtain ⟨items, new, dy, r1, r2⟩ :=
      twin_sync num cls ⟨y0, Y', z0, Z', hpos, hy.1, hy.2, hz.1, hz.2⟩ hE P ⟨P ++ y0 :: Y', c, [], 0⟩
        ⟨P ++ z0 :: Z', c, [], 0⟩ ⟨rfl, rfl, rfl, P, rfl, rfl, hlast⟩ rfl hne
    exact ⟨items, new, dy, Prod.ext (Runs.parse num cls r1).1 (Runs.parse num cls r1).2,
      Prod.ext (Runs.parse num cls r2).1 (Runs.parse num cls r2).2⟩
  cases A with
  | nil => exact core nlA [] (by simp [lastNL, hnA]) (by simp [hnA])
  | cons a A' =>
    have := core a (A' ++ [nlA]) (by rw [lastNL_append]; simp [lastNL, hnA]) (by
      intro t ht
      rcases List.mem_append.1 (show t ∈ (a :: A') ++ [nlA] from ht) with h | h
      · exact hA t h
      · rw [List.mem_singleton.1 h, hnA]; decide)
    simpa using this

/-- **C07 on token streams, both sides at once (`_partial`).**
    Intact file  `A ⏎ Ed₁ ⏎ B`, damaged file `A ⏎ Ed₂ ⏎ B↓d` (the damage replaced the entry `Ed₁`
    by ANY tokens `Ed₂` without EOF and moved the rest of the file by `d` lines/bytes).
    Guard: both versions start in column 1 at the same position (`e1.pos = e2.pos`, neither an
    Indent nor a Newline), and neither contains a Directive token (no `Y` directive appears or
    disappears — the stated dependence of C07 on the default year).  Then
      * what precedes the entry is parsed identically in both files: the same `itemsA`, the same
        errors `errsA`;
      * what follows it is parsed to the same journal `JB` with the same errors `EB`, up to the
        shift `d` of every position;
      * the only other errors are `errsE₁` / `errsE₂`, sitting on tokens of `Ed₁` / `Ed₂` or on
        the Newline that ends the entry. -/
theorem C07_contained_partial (d : Shift) (A Ed1' Ed2' B' : List Token) (nlA nlE1 nlE2 e1 e2 b0 : Token)
    (hA : ∀ t ∈ A, t.ty ≠ .eof)
    (hEd1 : ∀ t ∈ e1 :: Ed1', t.ty ≠ .eof ∧ t.ty ≠ .directive)
    (hEd2 : ∀ t ∈ e2 :: Ed2', t.ty ≠ .eof ∧ t.ty ≠ .directive)
    (hnA : nlA.ty = .newline) (hn1 : nlE1.ty = .newline) (hn2 : nlE2.ty = .newline)
    (he1 : e1.ty ≠ .indent ∧ e1.ty ≠ .newline) (he2 : e2.ty ≠ .indent ∧ e2.ty ≠ .newline)
    (hpos : e1.pos = e2.pos)
    (hb0 : b0.ty ≠ .indent ∧ b0.ty ≠ .newline) (hB : ∃ t ∈ b0 :: B', t.ty = .eof) :
    ∃ itemsA errsA dyA itemsE1 itemsE2 errsE1 errsE2,
      let JB := (parseFrom num cls b0 B' dyA).1
      let EB := (parseFrom num cls b0 B' dyA).2
      parseTokens num cls (A ++ nlA :: e1 :: Ed1' ++ nlE1 :: b0 :: B') =
        (pushAll (itemsA ++ itemsE1) JB, errsA ++ errsE1 ++ EB) ∧
      parseTokens num cls (A ++ nlA :: e2 :: Ed2' ++ nlE2 :: d.tok b0 :: B'.map d.tok) =
        (pushAll (itemsA ++ itemsE2) (d.journal JB), errsA ++ errsE2 ++ EB.map d.perr) ∧
      ErrZone (e1 :: Ed1') nlE1 errsE1 ∧ ErrZone (e2 :: Ed2') nlE2 errsE2 := by
  have hB2 : ∃ t ∈ d.tok b0 :: B'.map d.tok, t.ty = .eof := eof_in_shifted d hB
  -- the common part
  obtain ⟨itemsA, errsA, dyA, hp1, hp2⟩ :=
    C07_prefix_partial num cls A (Ed1' ++ nlE1 :: b0 :: B') (Ed2' ++ nlE2 :: d.tok b0 :: B'.map d.tok)
      nlA e1 e2 hA hnA he1 he2 hpos (eof_in_tail e1 nlE1 Ed1' hB)
  -- each tail: the entry, then the rest
  obtain ⟨iE1, eE1, dyE1, z1, hd1, h1⟩ :=
    entry_closes num cls Ed1' B' nlE1 e1 b0 dyA (fun t ht => (hEd1 t ht).1) hn1 hb0 hB
  obtain ⟨iE2, eE2, dyE2, z2, hd2, h2⟩ :=
    entry_closes num cls Ed2' (B'.map d.tok) nlE2 e2 (d.tok b0) dyA (fun t ht => (hEd2 t ht).1) hn2 hb0 hB2
  rw [hd1 fun t ht => (hEd1 t ht).2] at h1
  rw [hd2 fun t ht => (hEd2 t ht).2, parse_shift] at h2
  refine ⟨itemsA, errsA, dyA, iE1, iE2, eE1, eE2, ?_, ?_, z1, z2⟩
  · rw [show A ++ nlA :: e1 :: Ed1' ++ nlE1 :: b0 :: B' = A ++ nlA :: e1 :: (Ed1' ++ nlE1 :: b0 :: B') by simp,
      hp1, h1, pushAll_append, List.append_assoc]
  · rw [show A ++ nlA :: e2 :: Ed2' ++ nlE2 :: d.tok b0 :: B'.map d.tok =
        A ++ nlA :: e2 :: (Ed2' ++ nlE2 :: d.tok b0 :: B'.map d.tok) by simp,
      hp2, h2, pushAll_append, List.append_assoc]

/- The token lists of the counterexamples are those the real lexer produces for the texts quoted. -/

/-- `unicode.IsLetter` / `IsDigit` restricted to ASCII: enough for the closed examples. -/
def asciiClasses : Classes :=
  ⟨fun c => (65 ≤ c && c ≤ 90) || (97 ≤ c && c ≤ 122), fun c => 48 ≤ c && c ≤ 57⟩

/-- Tokens of `"2024-01-01\n"`. -/
def cxEntry : List Token := [
  ⟨.date, [50, 48, 50, 52, 45, 48, 49, 45, 48, 49], ⟨1, 1, 0⟩, ⟨1, 11, 10⟩⟩]
def cxNl : Token := ⟨.newline, [10], ⟨1, 11, 10⟩, ⟨2, 1, 11⟩⟩
/-- Tokens of the rest of the file `"  a:b  1\n"`: it starts with an Indent. -/
def cxIndented : List Token := [
  ⟨.indent, [32, 32], ⟨2, 1, 11⟩, ⟨2, 3, 13⟩⟩,
  ⟨.account, [97, 58, 98], ⟨2, 3, 13⟩, ⟨2, 6, 16⟩⟩,
  ⟨.number, [49], ⟨2, 8, 18⟩, ⟨2, 9, 19⟩⟩,
  ⟨.newline, [10], ⟨2, 9, 19⟩, ⟨3, 1, 20⟩⟩,
  ⟨.eof, [], ⟨3, 1, 20⟩, ⟨3, 1, 20⟩⟩]

/-- The hypothesis "the rest of the file starts in column 1" of `C07_contained_tokens` cannot be
    dropped: a rest that starts with an Indent is a continuation of the entry before it.  In
    context (`2024-01-01⏎  a:b  1⏎`) it is a posting of the transaction and raises no error; on
    its own it is one "unexpected token: Indent" error and no transaction. -/
theorem C07_indent_continuation_counterexample :
    (parseTokens defaultNumDeps asciiClasses (cxEntry ++ cxNl :: cxIndented)).2.length = 0 ∧
    (parseTokens defaultNumDeps asciiClasses cxIndented).2.length = 1 ∧
    ((parseTokens defaultNumDeps asciiClasses (cxEntry ++ cxNl :: cxIndented)).1.transactions.map
      (·.postings.length)) = [1] ∧
    (parseTokens defaultNumDeps asciiClasses cxIndented).1.transactions.length = 0 := by
  decide +kernel

/-- Tokens of `"2024-01-01 a\n  !!bad\n\n"`: a transaction whose only posting line is erroneous,
    followed by a blank line. -/
def cxBefore : List Token := [
  ⟨.date, [50, 48, 50, 52, 45, 48, 49, 45, 48, 49], ⟨1, 1, 0⟩, ⟨1, 11, 10⟩⟩,
  ⟨.text, [97], ⟨1, 12, 11⟩, ⟨1, 13, 12⟩⟩,
  ⟨.newline, [10], ⟨1, 13, 12⟩, ⟨2, 1, 13⟩⟩,
  ⟨.indent, [32, 32], ⟨2, 1, 13⟩, ⟨2, 3, 15⟩⟩,
  ⟨.status, [33], ⟨2, 3, 15⟩, ⟨2, 4, 16⟩⟩,
  ⟨.status, [33], ⟨2, 4, 16⟩, ⟨2, 5, 17⟩⟩,
  ⟨.text, [98, 97, 100], ⟨2, 5, 17⟩, ⟨2, 8, 20⟩⟩,
  ⟨.newline, [10], ⟨2, 8, 20⟩, ⟨3, 1, 21⟩⟩,
  ⟨.newline, [10], ⟨3, 1, 21⟩, ⟨4, 1, 22⟩⟩]
/-- Tokens of the next entry as written: `"2024-01-02 e\n  x:y  1\n"`. -/
def cxNextIntact : List Token := [
  ⟨.date, [50, 48, 50, 52, 45, 48, 49, 45, 48, 50], ⟨4, 1, 22⟩, ⟨4, 11, 32⟩⟩,
  ⟨.text, [101], ⟨4, 12, 33⟩, ⟨4, 13, 34⟩⟩,
  ⟨.newline, [10], ⟨4, 13, 34⟩, ⟨5, 1, 35⟩⟩,
  ⟨.indent, [32, 32], ⟨5, 1, 35⟩, ⟨5, 3, 37⟩⟩,
  ⟨.account, [120, 58, 121], ⟨5, 3, 37⟩, ⟨5, 6, 40⟩⟩,
  ⟨.number, [49], ⟨5, 8, 42⟩, ⟨5, 9, 43⟩⟩,
  ⟨.newline, [10], ⟨5, 9, 43⟩, ⟨6, 1, 44⟩⟩,
  ⟨.eof, [], ⟨6, 1, 44⟩, ⟨6, 1, 44⟩⟩]
/-- … and damaged by two blanks in front of its header: `"  2024-01-02 e\n  x:y  1\n"`. -/
def cxNextDamaged : List Token := [
  ⟨.indent, [32, 32], ⟨4, 1, 22⟩, ⟨4, 3, 24⟩⟩,
  ⟨.date, [50, 48, 50, 52, 45, 48, 49, 45, 48, 50], ⟨4, 3, 24⟩, ⟨4, 13, 34⟩⟩,
  ⟨.text, [101], ⟨4, 14, 35⟩, ⟨4, 15, 36⟩⟩,
  ⟨.newline, [10], ⟨4, 15, 36⟩, ⟨5, 1, 37⟩⟩,
  ⟨.indent, [32, 32], ⟨5, 1, 37⟩, ⟨5, 3, 39⟩⟩,
  ⟨.account, [120, 58, 121], ⟨5, 3, 39⟩, ⟨5, 6, 42⟩⟩,
  ⟨.number, [49], ⟨5, 8, 44⟩, ⟨5, 9, 45⟩⟩,
  ⟨.newline, [10], ⟨5, 9, 45⟩, ⟨6, 1, 46⟩⟩,
  ⟨.eof, [], ⟨6, 1, 46⟩, ⟨6, 1, 46⟩⟩]

/-- **Containment fails for an entry BEFORE the damage** even across a blank line: when the last
    posting line of a transaction had a syntax error, `parsePosting` skips to the next line and
    the postings loop then swallows the blank line's Newline as well, so the transaction is
    still open; if the damage makes the next entry's lines start with an Indent they become its
    postings.  Intact file: first transaction has no posting, second has one.  Damaged file
    (`  2024-01-02 e`): ONE transaction, which has gained the posting `x:y  1`, and its range
    now ends on line 6. -/
theorem C07_blank_line_after_error_counterexample :
    ((parseTokens defaultNumDeps asciiClasses (cxBefore ++ cxNextIntact)).1.transactions.map
      (fun t => (t.postings.map (·.account.name), t.range.stop.line))) = [([], 4), ([[120, 58, 121]], 6)] ∧
    ((parseTokens defaultNumDeps asciiClasses (cxBefore ++ cxNextDamaged)).1.transactions.map
      (fun t => (t.postings.map (·.account.name), t.range.stop.line))) = [([[120, 58, 121]], 6)] := by
  decide +kernel

/-- Towards non-vacuity of `C07_contained_tokens`: the intact file above has the required shape
    (`A = cxBefore` without its last Newline, the entry `2024-01-02 e …`, then just the EOF).
    Checked here: no EOF in `A`, `A` is closed by a Newline, the entry starts with a Date token. -/
example :
    (∀ t ∈ cxBefore.dropLast, t.ty ≠ .eof) ∧ (cxBefore.getLast?.map (·.ty)) = some .newline ∧
    (cxNextIntact.head?.map (·.ty)) = some .date := by
  decide +kernel

end HL.Props.C07
