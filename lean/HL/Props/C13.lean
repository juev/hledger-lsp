import HL.Model.Srv
import HL.Lemmas.Srv
/-!
# C13  Published diagnostics converge to the latest content under any timing

Model: `HL/Model/Srv.lean` — the server as a labelled transition system; `diag` (what the
diagnostics of a text are) is an uninterpreted parameter, every theorem holds for every `diag`.

* `stale_publish_counterexample` — the pinned code (`guarded := false`): two tasks, the older one
  publishes last, the client is left with the diagnostics of superseded content.
* `C13_converges` — the repaired code (commit 1aee86a of /repo,
  `guarded := true`): after ANY finite trace (any number of documents, opens, changes, closes,
  any interleaving of the background tasks' steps), if no task is in flight then for every open
  document the client's last notification carries the diagnostics of the current text.
* `never_regresses` — the versions the client receives for one URI are strictly increasing.
* `can_quiesce`, `eventually_shows_latest` — from every reachable state the tasks can run to
  completion without further notifications (no deadlock on `publishMu`; the hypothesis of
  `C13_converges` is reachable from everywhere: the newest task is never stuck).
-/

namespace HL.Props.C13
open HL.Srv

variable {Text Diags : Type}

/-- Pinned code: open with text 10 (task 1), change to text 11 (task 2), both tasks analyse,
    task 2 publishes, then task 1.  No task is left, the document holds 11, the client shows the
    diagnostics of 10.  (`diag := id`: the diagnostics of a text are the text itself.) -/
theorem stale_publish_counterexample :
    let s := run (Text := Nat) (fun t => t) false
      [.openDoc 0 10, .change 0 11, .analyse 1, .analyse 2, .publish 2, .publish 1]
    Quiescent s ∧ s.docs 0 = some 11 ∧ shown s 0 = some 10 ∧ publishedVersions s 0 = [2, 1] := by
  decide

/-- The same schedule, as far as it exists in the repaired code: task 1 fails the version check
    and publishes nothing whether it reaches the lock before or after task 2. -/
example :
    let s := run (Text := Nat) (fun t => t) true
      [.openDoc 0 10, .change 0 11, .analyse 1, .analyse 2,
       .lock 2, .check 2, .publish 2, .unlock 2, .lock 1, .check 1, .unlock 1]
    Quiescent s ∧ s.docs 0 = some 11 ∧ shown s 0 = some 11 ∧ publishedVersions s 0 = [2] := by
  decide

theorem quiescent_iff (diag : Text → Diags) (es : List (Ev Text)) :
    Quiescent (run diag true es) ↔ ∀ i, (run diag true es).tasks i = none := by
  constructor
  · intro h i
    cases hk : (run diag true es).tasks i with
    | none => rfl
    | some k => rw [← hk]; exact h i ((inv_run diag es).task_le i k hk)
  · intro h i _; exact h i

/-- Per URI and without waiting for the other documents: as soon as the task of the
    current version of `u` is gone, `u` shows the diagnostics of its current text — whatever
    older tasks for `u` or tasks for other documents are still doing. -/
theorem C13_converges_per_uri (diag : Text → Diags) (es : List (Ev Text)) :
    let s := run diag true es
    ∀ u t v, s.docs u = some t → s.ver u = some v → s.tasks v = none → shown s u = some (diag t) := by
  intro s u t v hd hv hnone
  rcases (inv_run diag es).main u t v hd hv with ⟨k, hk, _, _⟩ | hlast
  · rw [hnone] at hk; cases hk
  · show ((s.log u).getLast?).map (·.2) = some (diag t)
    rw [show (s.log u).getLast? = some (v, diag t) from hlast]; rfl

/-- For every `diag` and every finite trace of the repaired server: in a state with no
    task in flight, every open document's last published diagnostics are those of its current
    text. -/
theorem C13_converges (diag : Text → Diags) (es : List (Ev Text)) :
    let s := run diag true es
    Quiescent s → ∀ u t, s.docs u = some t → shown s u = some (diag t) := by
  intro s hq u t hd
  have hinv : Inv diag s := inv_run diag es
  have hv : (s.ver u).isSome := by rw [← hinv.docs_ver u, hd]; rfl
  obtain ⟨v, hv⟩ := Option.isSome_iff_exists.mp hv
  exact C13_converges_per_uri diag es u t v hd hv (hq v (hinv.ver_le u v hv))

/-- Diagnostics of a superseded version never overwrite newer ones: the versions the client
    receives for a URI are strictly increasing, in every reachable state. -/
theorem never_regresses (diag : Text → Diags) (es : List (Ev Text)) (u : Uri) :
    (publishedVersions (run diag true es) u).Pairwise (· < ·) :=
  (inv_run diag es).sorted u

/-- Mutual exclusion on `publishMu`, as a corollary of the invariant. -/
theorem one_publisher_at_a_time (diag : Text → Diags) (es : List (Ev Text)) (i j : Nat)
    (ki kj : Task Text Diags) :
    let s := run diag true es
    s.tasks i = some ki → s.tasks j = some kj → ki.pc.holds = true → kj.pc.holds = true → i = j := by
  intro s hi hj hhi hhj
  have h1 := (inv_run diag es).owner i ki hi hhi
  have h2 := (inv_run diag es).owner j kj hj hhj
  rw [h1] at h2; exact Option.some.inj h2

/-- No deadlock, no starvation of the newest task: from every reachable state the background
    tasks alone (no further notification) can run to completion, and this does not touch the
    documents.  So the hypothesis of `C13_converges` can be reached from everywhere. -/
theorem can_quiesce (diag : Text → Diags) (es : List (Ev Text)) :
    ∃ es' : List (Ev Text), (∀ e ∈ es', Ev.isTask e = true) ∧
      Quiescent (run diag true (es ++ es')) ∧ (run diag true (es ++ es')).docs = (run diag true es).docs := by
  obtain ⟨es', h1, h2, h3⟩ := drain (run diag true es) (inv_run diag es)
  exact ⟨es', h1, by rw [run_append]; exact h2, by rw [run_append]; exact h3⟩

/-- "Once notifications stop …": after any trace there is a continuation made of background steps
    only after which every open document shows the diagnostics of its (unchanged) latest content.
    (`C13_converges` says the same of EVERY such continuation that ends with no task in flight.) -/
theorem eventually_shows_latest (diag : Text → Diags) (es : List (Ev Text)) :
    ∃ es' : List (Ev Text), (∀ e ∈ es', Ev.isTask e = true) ∧
      ∀ u t, (run diag true es).docs u = some t → shown (run diag true (es ++ es')) u = some (diag t) := by
  obtain ⟨es', h1, h2, h3⟩ := can_quiesce diag es
  refine ⟨es', h1, fun u t hd => ?_⟩
  exact C13_converges diag (es ++ es') h2 u t (by rw [h3]; exact hd)

/-- A trace with two documents, a stale task that passes the check *before* the newer change
    arrives and publishes *after* it (the interleaving that needs `publishMu` to be held across
    check and publish), a suppressed task, a close and a re-open.  It reaches a quiescent state
    with both documents open and non-empty logs, so `C13_converges` is not vacuous; the log of
    document 0 shows the stale publish followed by the newest. -/
example :
    let s := run (Text := Nat) (fun t => t + 100) true
      [.openDoc 0 10, .openDoc 1 20, .analyse 1, .lock 1, .check 1,
       .change 0 11,                       -- arrives while task 1 is between check and publish
       .analyse 3, .lock 3,                -- not enabled: task 1 holds the mutex (skipped)
       .publish 1, .unlock 1,              -- stale diagnostics go out …
       .lock 3, .check 3, .publish 3, .unlock 3,   -- … and are overwritten by the newest
       .change 1 21, .analyse 2, .analyse 4,
       .lock 2, .check 2, .unlock 2,       -- task 2 is superseded: publishes nothing
       .lock 4, .check 4, .publish 4, .unlock 4,
       .close 1, .openDoc 1 22, .analyse 5, .lock 5, .check 5, .publish 5, .unlock 5]
    Quiescent s ∧ s.docs 0 = some 11 ∧ s.docs 1 = some 22 ∧
      s.log 0 = [(1, 110), (3, 111)] ∧ s.log 1 = [(4, 121), (5, 122)] := by
  decide

/-- The first disjunct of `Inv.main` is real: states that are not quiescent may show old
    diagnostics (here: none at all), which is why the theorem waits for the newest task. -/
example :
    let s := run (Text := Nat) (fun t => t) true [.openDoc 0 10, .analyse 1]
    ¬ Quiescent s ∧ shown s 0 = none := by
  decide

end HL.Props.C13
