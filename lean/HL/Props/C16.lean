/-
  C16 — Completion is sound, complete for prefixes, bounded and frequency-ranked.

  Model: HL/Model/Completion.lean (internal/server/completion.go with the completion repairs, the
  account list of internal/analyzer/indexer.go, maxResults normalisation of settings.go).
  Spec : HL/Spec/CompletionSpec.lean.

  All theorems hold for every lower-casing function `lower`, every symbol table, line, cursor,
  trigger and configuration.  `sound`, `prefix_complete`, `bounded`, `frequency_ranked` hold for
  EVERY sorted permutation `ranked` of the filtered, scored candidates (`IsRanking`), so they do
  not depend on how ties are ordered; `rankExec_isRanking` shows the executable ranking
  (`sort.SliceStable`) is one of them, `limit_prefix_full` and `ranking_stable` are about that
  ranking itself.

  The code before the repairs is `HL.Completion.Pinned` (HL/Model/CompletionPinned.lean); the
  `pinned_*_counterexample` theorems record what it did on the witnesses of the findings.
-/
import HL.Lemmas.Completion
import HL.Lemmas.Text
import HL.Model.CompletionPinned
namespace HL.Props.C16
open HL.Text HL.Completion HL.CompletionSpec HL.Lemmas.Text

/-- The executable pipeline of the driver is `finish` on one admissible ranking, so every theorem
    below applies to `complete`. -/
theorem complete_is_finish (lower : Char → Char) (t : Table) (st : Settings) (line : Str)
    (ch : Nat) (trig : Str) :
    ∃ ranked, IsRanking (countsFor t (determineContext line ch trig)) (scoredFor lower t st line ch trig) ranked ∧
      complete lower t st line ch trig = finish st line ch trig ranked :=
  ⟨_, rankExec_isRanking _ _, rfl⟩

/-- `sound`: every returned label is in the symbol table of its context and matches the query —
    as a subsequence (letter case ignored) with fuzzy matching on, as a prefix with it off. -/
theorem sound (lower : Char → Char) (t : Table) (st : Settings) (line : Str) (ch : Nat)
    (trig : Str) (ranked : List Scored)
    (hr : IsRanking (countsFor t (determineContext line ch trig)) (scoredFor lower t st line ch trig) ranked)
    (hj : judged (determineContext line ch trig) = true)
    (s : Scored) (hs : s ∈ (finish st line ch trig ranked).items) :
    s.label ∈ namesOf t (finish st line ch trig ranked).ctx ∧
    matchesQ lower st.fuzzy (finish st line ch trig ranked).query s.label = true := by
  simp only [finish] at hs ⊢
  have h1 : s ∈ ranked := (truncate_sublist _ _).subset hs
  have h2 : s ∈ scoredFor lower t st line ch trig := hr.1.mem_iff.1 h1
  unfold scoredFor at h2
  simp only [] at h2
  obtain ⟨hl, hm⟩ := mem_filterAndScore _ _ _ _ _ h2
  refine ⟨labelsFor_subset lower t _ line _ hj _ hl, ?_⟩
  generalize extractQuery (determineContext line ch trig) line (takeU16 line ch) = q at hm ⊢
  unfold matchesQ subseqCI prefixCI
  rcases hm with ⟨hq, _⟩ | ⟨_, hf, _, hp⟩ | ⟨_, hf, hpos⟩
  · subst hq
    cases st.fuzzy <;> simp [List.isSublist_iff_sublist]
  · simp only [hf, Bool.false_eq_true, if_false]
    exact List.isPrefixOf_iff_prefix.2 hp
  · simp only [hf, if_true]
    exact List.isSublist_iff_sublist.2 (fuzzyItemScore_pos lower q s.label hpos)

/-- In the form of the executable oracle. -/
theorem sound_oracle (lower : Char → Char) (t : Table) (st : Settings) (line : Str) (ch : Nat)
    (trig : Str) (ranked : List Scored)
    (hr : IsRanking (countsFor t (determineContext line ch trig)) (scoredFor lower t st line ch trig) ranked)
    (hj : judged (determineContext line ch trig) = true) :
    soundOK lower st.fuzzy t (finish st line ch trig ranked).ctx (finish st line ch trig ranked).query
      ((finish st line ch trig ranked).items.map (·.label)) = true := by
  unfold soundOK
  rw [List.all_eq_true]
  intro l hl
  obtain ⟨s, hs, rfl⟩ := List.mem_map.1 hl
  have := sound lower t st line ch trig ranked hr hj s hs
  simp only [Bool.and_eq_true, List.contains_iff_mem]
  exact this

/-- `segment-colon` (repaired): before the repair the query `exp:` returned `foo:expenses` (its
    segment `expenses` matches `exp`), which does not contain `exp:` as a subsequence; the
    repaired code considers only segments followed by a colon and returns `expenses:food` alone. -/
theorem pinned_segment_colon_counterexample :
    let names := ["foo:expenses".toList, "expenses:food".toList]
    (Pinned.filterAndScore goLower names "exp:".toList true).map (·.label) = names ∧
    subseqCI goLower "exp:".toList "foo:expenses".toList = false ∧
    (filterAndScore goLower names "exp:".toList true).map (·.label) = ["expenses:food".toList] := by
  decide +kernel

/-- The same through the whole pipeline: a posting line `    exp:` with the cursor at its end. -/
theorem pinned_segment_colon_pipeline_counterexample :
    let t : Table := { (default : Table) with accounts := ["foo:expenses".toList] }
    let r := Pinned.complete goLower true t ⟨50, true⟩ "    exp:".toList 8 []
    let r' := complete goLower t ⟨50, true⟩ "    exp:".toList 8 []
    r.ctx = .account ∧ r.query = "exp:".toList ∧ r.items.map (·.label) = ["foo:expenses".toList] ∧
    matchesQ goLower true r.query "foo:expenses".toList = false ∧
    r'.ctx = .account ∧ r'.query = "exp:".toList ∧ r'.items = [] := by
  decide +kernel

/-- Non-vacuity of `sound`: a query ending in a colon with fuzzy matching on, non-empty answer. -/
example :
    let t : Table := { (default : Table) with accounts := ["foo:expenses".toList, "Expenses:food".toList] }
    let r := complete goLower t ⟨50, true⟩ "  exp:".toList 6 []
    judged r.ctx = true ∧ r.query = "exp:".toList ∧ r.items.map (·.label) = ["Expenses:food".toList] := by
  decide +kernel

/-- A non-empty (indeed any) case-insensitive prefix scores above zero. -/
theorem prefix_scores_positive (lower : Char → Char) (q n : Str) (h : prefixCI lower q n = true) :
    0 < fuzzyItemScore lower q n ∧ 0 < fuzzyScore lower n q :=
  ⟨fuzzyItemScore_of_prefix lower q n (List.isPrefixOf_iff_prefix.1 h),
   fuzzyScore_pos_of_prefix lower n q (List.isPrefixOf_iff_prefix.1 h)⟩

/-- The narrowing of the account candidates keeps every account that starts with the typed
    fragment, letter case ignored (the typed parent is a prefix of the fragment). -/
theorem narrowing_keeps_prefixed (lower : Char → Char) (t : Table) (line : Str) (col : Nat) (n : Str)
    (hn : n ∈ t.accounts) (hp : prefixCI lower (extractQuery .account line col) n = true) :
    n ∈ accountsForPrefix lower t (extractAccountPrefix line col) :=
  accountsForPrefix_complete lower t _ n hn
    (((extractAccountPrefix_prefix line col).map lower).trans (List.isPrefixOf_iff_prefix.1 hp))

/-- `prefix_complete`: every name of the context's table that has the query as a
    case-insensitive prefix is in the untruncated list. -/
theorem prefix_complete (lower : Char → Char) (t : Table) (st : Settings) (line : Str)
    (ch : Nat) (trig : Str) (ranked : List Scored)
    (hr : IsRanking (countsFor t (determineContext line ch trig)) (scoredFor lower t st line ch trig) ranked)
    (hj : judged (determineContext line ch trig) = true)
    (n : Str) (hn : n ∈ namesOf t (determineContext line ch trig))
    (hp : prefixCI lower (finish st line ch trig ranked).query n = true) :
    n ∈ ranked.map (·.label) := by
  have hp' := List.isPrefixOf_iff_prefix.1 hp
  have hlab := labelsFor_complete lower t _ line (takeU16 line ch) hj n hn hp'
  have hsc := filterAndScore_complete lower _ (extractQuery (determineContext line ch trig) line (takeU16 line ch))
    st.fuzzy n hlab hp'
  exact (hr.1.map _).mem_iff.2 hsc

/-- ... and in the returned list when the limit allows. -/
theorem prefix_complete_within_limit (lower : Char → Char) (t : Table) (st : Settings)
    (line : Str) (ch : Nat) (trig : Str) (ranked : List Scored)
    (hr : IsRanking (countsFor t (determineContext line ch trig)) (scoredFor lower t st line ch trig) ranked)
    (hj : judged (determineContext line ch trig) = true)
    (hlim : ranked.length ≤ normMax st.maxRaw)
    (n : Str) (hn : n ∈ namesOf t (determineContext line ch trig))
    (hp : prefixCI lower (finish st line ch trig ranked).query n = true) :
    n ∈ (finish st line ch trig ranked).items.map (·.label) := by
  have := prefix_complete lower t st line ch trig ranked hr hj n hn hp
  simp only [finish]
  rw [truncate_eq_take _ _ (normMax_pos _), List.take_of_length_le hlim]
  exact this

/-- In the form of the executable oracle: `completeOK` accepts every answer. -/
theorem prefix_complete_oracle (lower : Char → Char) (t : Table) (st : Settings)
    (line : Str) (ch : Nat) (trig : Str) (ranked : List Scored)
    (hr : IsRanking (countsFor t (determineContext line ch trig)) (scoredFor lower t st line ch trig) ranked)
    (hj : judged (determineContext line ch trig) = true) :
    completeOK lower t (finish st line ch trig ranked).ctx (finish st line ch trig ranked).query
      ((finish st line ch trig ranked).items.map (·.label)) (normMax st.maxRaw) = true := by
  unfold completeOK
  by_cases hlen : (finish st line ch trig ranked).items.length ≥ normMax st.maxRaw
  · simp only [List.length_map, ge_iff_le, Bool.or_eq_true, decide_eq_true_eq]
    exact Or.inl hlen
  · simp only [Bool.or_eq_true]
    refine Or.inr ?_
    rw [List.all_eq_true]
    intro n hn
    by_cases hp : prefixCI lower (finish st line ch trig ranked).query n = true
    · have hlim : ranked.length ≤ normMax st.maxRaw := by
        simp only [finish, truncate_eq_take _ _ (normMax_pos _), List.length_take] at hlen
        omega
      have := prefix_complete_within_limit lower t st line ch trig ranked hr hj hlim n hn hp
      simp only [Bool.or_eq_true, List.contains_iff_mem]
      exact Or.inr this
    · simp only [Bool.or_eq_true, Bool.not_eq_true']
      exact Or.inl (by simpa using hp)

/-- `byprefix-narrowing` (repaired): `expenses:food` and `Expenses:Fun` are two accounts; before
    the repair typing `expenses:f` hit the case-sensitive index key `expenses:` and `Expenses:Fun`,
    which starts with the fragment when letter case is ignored, was not offered; likewise
    `assets:my bank:` was looked up as `bank:`.  The repaired code offers them. -/
theorem pinned_byprefix_narrowing_counterexample :
    let t : Table := { (default : Table) with
      accounts := ["expenses:food".toList, "Expenses:Fun".toList],
      byPrefix := [("expenses:".toList, ["expenses:food".toList]), ("Expenses:".toList, ["Expenses:Fun".toList])] }
    let r := Pinned.complete goLower true t ⟨50, true⟩ "    expenses:f".toList 14 []
    let r' := complete goLower t ⟨50, true⟩ "    expenses:f".toList 14 []
    indexSuperset t = true ∧ indexSubset t = true ∧ r.ctx = .account ∧ r.query = "expenses:f".toList ∧
    prefixCI goLower r.query "Expenses:Fun".toList = true ∧
    r.items.map (·.label) = ["expenses:food".toList] ∧
    r'.query = "expenses:f".toList ∧
    r'.items.map (·.label) = ["expenses:food".toList, "Expenses:Fun".toList] := by
  decide +kernel

theorem pinned_byprefix_blank_counterexample :
    let t : Table := { (default : Table) with
      accounts := ["assets:my bank:foo".toList, "bank:x".toList],
      byPrefix := [("assets:".toList, ["assets:my bank:foo".toList]), ("assets:my bank:".toList, ["assets:my bank:foo".toList]),
                   ("bank:".toList, ["bank:x".toList])] }
    let line := "    assets:my bank:".toList
    Pinned.extractAccountPrefix line 19 = "bank:".toList ∧
    (Pinned.complete goLower true t ⟨50, true⟩ line 19 []).items = [] ∧
    extractAccountPrefix line 19 = "assets:my bank:".toList ∧
    (complete goLower t ⟨50, true⟩ line 19 []).items.map (·.label) = ["assets:my bank:foo".toList] := by
  decide +kernel

/-- At most the configured maximum is returned (the setting is normalised to a positive value). -/
theorem bounded (st : Settings) (line : Str) (ch : Nat) (trig : Str) (ranked : List Scored) :
    (finish st line ch trig ranked).items.length ≤ normMax st.maxRaw ∧ 0 < normMax st.maxRaw :=
  ⟨truncate_length_le _ _ (normMax_pos _), normMax_pos _⟩

/-- A smaller maximum returns a prefix of the list returned for a larger one, given the same
    ranked list. -/
theorem limit_prefix (f : Bool) (m₁ m₂ : Int) (line : Str) (ch : Nat) (trig : Str)
    (ranked : List Scored) (h : normMax m₁ ≤ normMax m₂) :
    (finish ⟨m₁, f⟩ line ch trig ranked).items =
      ((finish ⟨m₂, f⟩ line ch trig ranked).items).take (normMax m₁) := by
  simp only [finish]
  rw [truncate_eq_take _ _ (normMax_pos _), truncate_eq_take _ _ (normMax_pos _), List.take_take,
    Nat.min_eq_left h]

theorem scored_independent_of_limit (lower : Char → Char) (t : Table) (f : Bool) (m₁ m₂ : Int)
    (line : Str) (ch : Nat) (trig : Str) :
    scoredFor lower t ⟨m₁, f⟩ line ch trig = scoredFor lower t ⟨m₂, f⟩ line ch trig := rfl

/-- `limit_prefix` in full, for two separate requests on the same state: the answer under the
    smaller maximum is a prefix of the answer under the larger one (labels, not only keys).  The
    ranking is a function of the candidates (`sort.SliceStable`), so nothing is assumed about ties. -/
theorem limit_prefix_full (lower : Char → Char) (t : Table) (f : Bool) (m₁ m₂ : Int) (line : Str) (ch : Nat)
    (trig : Str) (h : normMax m₁ ≤ normMax m₂) :
    (complete lower t ⟨m₁, f⟩ line ch trig).items =
      ((complete lower t ⟨m₂, f⟩ line ch trig).items).take (normMax m₁) := by
  unfold complete
  simp only [scored_independent_of_limit lower t f m₁ m₂]
  exact limit_prefix f m₁ m₂ line ch trig _ h

/-- In the form of the executable oracle. -/
theorem limit_prefix_oracle (lower : Char → Char) (t : Table) (f : Bool) (m₁ m₂ : Int) (line : Str) (ch : Nat)
    (trig : Str) (h : normMax m₁ ≤ normMax m₂) :
    limitPrefixOK (normMax m₁) ((complete lower t ⟨m₁, f⟩ line ch trig).items.map (·.label))
      ((complete lower t ⟨m₂, f⟩ line ch trig).items.map (·.label)) = true := by
  unfold limitPrefixOK
  rw [limit_prefix_full lower t f m₁ m₂ line ch trig h, List.map_take]
  exact beq_self_eq_true _

/-- The ranking of `complete` is the stable one: it is sorted, and of two candidates the earlier
    one stays first unless the later one ranks strictly higher (Go: `sort.SliceStable`). -/
theorem ranking_stable (counts : Option (List (Str × Nat))) (scored : List Scored) :
    IsRanking counts scored (rankExec counts scored) ∧
    ∀ a b, [a, b].Sublist scored → less counts b a = false → [a, b].Sublist (rankExec counts scored) :=
  ⟨rankExec_isRanking counts scored, fun a b => rankExec_stable counts scored a b⟩

/-- ... and that determines the ranking: any sorted permutation of distinct candidates that
    keeps the input order in this sense IS `rankExec`'s (a stable sort is a function, so modelling
    `sort.SliceStable` by one particular stable sort loses nothing). -/
theorem ranking_unique (counts : Option (List (Str × Nat))) (scored r : List Scored)
    (hnd : scored.Nodup) (hr : IsRanking counts scored r)
    (hst : ∀ a b, [a, b].Sublist scored → less counts b a = false → [a, b].Sublist r) :
    r = rankExec counts scored := by
  have hR := rankExec_isRanking counts scored
  have hndr : r.Nodup := hr.1.nodup_iff.2 hnd
  have hndR : (rankExec counts scored).Nodup := hR.1.nodup_iff.2 hnd
  refine List.Perm.eq_of_pairwise (le := fun a b => [a, b].Sublist (rankExec counts scored))
    (fun a b _ _ hab hba => (pair_sublist_antisymm _ a b hndR hab hba).elim) ?_
    (List.pairwise_iff_forall_sublist.2 id) (hr.1.trans hR.1.symm)
  rw [List.pairwise_iff_forall_sublist]
  intro a b hab
  have ha : a ∈ scored := hr.1.mem_iff.1 (hab.subset List.mem_cons_self)
  have hb : b ∈ scored := hr.1.mem_iff.1 (hab.subset (List.mem_cons_of_mem _ List.mem_cons_self))
  have hne : a ≠ b := fun e => List.pairwise_iff_forall_sublist.1 hndr hab e
  -- same order in the input: `rankExec` is stable; opposite order: `r` is stable, so `a` ranks
  -- strictly higher, and `rankExec` is sorted
  rcases pair_sublist_total scored a b ha hb hne with h | h
  · exact rankExec_stable counts scored a b h (List.pairwise_iff_forall_sublist.1 hr.2 hab)
  · rcases pair_sublist_total _ a b (hR.1.mem_iff.2 ha) (hR.1.mem_iff.2 hb) hne with h' | h'
    · exact h'
    · exact (pair_sublist_antisymm r a b hndr hab
        (hst b a h (List.pairwise_iff_forall_sublist.1 hR.2 h'))).elim

/-- `limit-prefix-tie-order` (repaired by making the sort stable and the analyzer's order
    deterministic): with `sort.Slice` any sorted permutation was possible, two requests could rank
    tied names differently, and then the shorter answer is not a prefix of the longer one.  Both
    lists below are sorted permutations of the same candidates. -/
theorem pinned_limit_prefix_tie_counterexample :
    let scored : List Scored := [⟨"a".toList, 1000⟩, ⟨"b".toList, 1000⟩]
    let r₁ : List Scored := [⟨"a".toList, 1000⟩, ⟨"b".toList, 1000⟩]
    let r₂ : List Scored := [⟨"b".toList, 1000⟩, ⟨"a".toList, 1000⟩]
    IsRanking none scored r₁ ∧ IsRanking none scored r₂ ∧
    (finish ⟨1, true⟩ [] 0 [] r₁).items ≠ ((finish ⟨2, true⟩ [] 0 [] r₂).items).take 1 ∧
    rankExec none scored = r₁ := by
  refine ⟨⟨List.Perm.refl _, by decide⟩, ⟨List.Perm.swap _ _ _, by decide⟩, by decide, by decide⟩

def keyOf (counts : Option (List (Str × Nat))) (s : Scored) : Nat × Nat := (s.score, countOf counts s.label)

/-- Whatever a sort does inside a tie class, the sequence of keys (score, count) is the
    same for every ranking of the same candidates. -/
theorem ranking_keys_unique (counts : Option (List (Str × Nat))) (scored r₁ r₂ : List Scored)
    (h₁ : IsRanking counts scored r₁) (h₂ : IsRanking counts scored r₂) :
    r₁.map (keyOf counts) = r₂.map (keyOf counts) := by
  let le : Nat × Nat → Nat × Nat → Prop := fun a b => b.1 < a.1 ∨ (b.1 = a.1 ∧ b.2 ≤ a.2)
  have hs : ∀ r, IsRanking counts scored r → (r.map (keyOf counts)).Pairwise le := by
    intro r hr
    rw [List.pairwise_map]
    refine hr.2.imp ?_
    intro a b hab
    rw [less_false_iff] at hab
    exact hab
  refine List.Perm.eq_of_pairwise (le := le) ?_ (hs r₁ h₁) (hs r₂ h₂)
    ((h₁.1.trans h₂.1.symm).map _)
  intro a b _ _ hab hba
  obtain ⟨a1, a2⟩ := a
  obtain ⟨b1, b2⟩ := b
  simp only [le] at hab hba
  simp only [Prod.mk.injEq]
  omega

/-- `limit_prefix` on keys for ANY two sorted permutations (holds even for an unstable sort). -/
theorem limit_prefix_keys_any_sort (counts : Option (List (Str × Nat))) (f : Bool) (m₁ m₂ : Int)
    (line : Str) (ch : Nat) (trig : Str) (scored r₁ r₂ : List Scored)
    (h₁ : IsRanking counts scored r₁) (h₂ : IsRanking counts scored r₂) (h : normMax m₁ ≤ normMax m₂) :
    (finish ⟨m₁, f⟩ line ch trig r₁).items.map (keyOf counts) =
      ((finish ⟨m₂, f⟩ line ch trig r₂).items.map (keyOf counts)).take (normMax m₁) := by
  simp only [finish]
  rw [truncate_eq_take _ _ (normMax_pos _), truncate_eq_take _ _ (normMax_pos _), List.map_take,
    List.map_take, List.take_take, Nat.min_eq_left h, ranking_keys_unique counts scored r₁ r₂ h₁ h₂]

/-- With nothing typed, usage counts do not increase along the result. -/
theorem frequency_ranked (lower : Char → Char) (t : Table) (st : Settings) (line : Str) (ch : Nat)
    (trig : Str) (ranked : List Scored)
    (hr : IsRanking (countsFor t (determineContext line ch trig)) (scoredFor lower t st line ch trig) ranked)
    (hq : (finish st line ch trig ranked).query = []) :
    ((finish st line ch trig ranked).items.map fun s =>
      countOf (countsFor t (determineContext line ch trig)) s.label).Pairwise (· ≥ ·) := by
  simp only [finish] at hq ⊢
  have hscore : ∀ s ∈ ranked, s.score = fuzzyScoreEmptyPattern := by
    intro s hs
    have h2 : s ∈ scoredFor lower t st line ch trig := hr.1.mem_iff.1 hs
    unfold scoredFor at h2
    simp only [hq] at h2
    unfold filterAndScore at h2
    simp only [if_true] at h2
    obtain ⟨l, _, rfl⟩ := List.mem_map.1 h2
    rfl
  have hp : (truncate (normMax st.maxRaw) ranked).Pairwise fun a b =>
      less (countsFor t (determineContext line ch trig)) b a = false :=
    hr.2.sublist (truncate_sublist _ _)
  rw [List.pairwise_map]
  refine List.Pairwise.imp_of_mem ?_ hp
  intro a b ha hb hab
  have ha' := hscore a ((truncate_sublist _ _).subset ha)
  have hb' := hscore b ((truncate_sublist _ _).subset hb)
  rw [less_false_iff] at hab
  omega

/-- In the form of the executable oracle. -/
theorem frequency_ranked_oracle (lower : Char → Char) (t : Table) (st : Settings) (line : Str)
    (ch : Nat) (trig : Str) (ranked : List Scored)
    (hr : IsRanking (countsFor t (determineContext line ch trig)) (scoredFor lower t st line ch trig) ranked)
    (hj : judged (determineContext line ch trig) = true) :
    rankedOK t (finish st line ch trig ranked).ctx (finish st line ch trig ranked).query
      ((finish st line ch trig ranked).items.map (·.label)) = true := by
  unfold rankedOK
  cases hq : (finish st line ch trig ranked).query with
  | cons _ _ => rfl
  | nil =>
    simp only [List.isEmpty_nil, Bool.not_true, Bool.false_or]
    apply nonIncreasing_of_pairwise
    have := frequency_ranked lower t st line ch trig ranked hr hq
    rw [List.map_map]
    have hfun : (usage t (finish st line ch trig ranked).ctx ∘ fun s : Scored => s.label) =
        fun s => countOf (countsFor t (determineContext line ch trig)) s.label := by
      funext s; exact usage_eq_countOf t _ hj s.label
    rw [hfun]; exact this

/-- In the account, payee, commodity and tag-name contexts the edit range is `[s, cursor]` with
    `s ≤ cursor`, and the text it covers is exactly the query. -/
theorem edit_replaces_fragment (c : Ctx) (line : Str) (ch : Nat) (hv : validCursor line ch = true)
    (hc : c = .account ∨ c = .payee ∨ c = .commodity ∨ c = .tagName) :
    ∃ a, editRange c line ch = some (a, ch) ∧ a ≤ ch ∧
      fragOf line a ch = extractQuery c line (takeU16 line ch) := by
  have hcol := takeU16_le line ch
  obtain ⟨s, hs, hle, hq⟩ := editStart_query c line (takeU16 line ch) hcol hc
  simp only [validCursor, Bool.and_eq_true, decide_eq_true_eq, beq_iff_eq] at hv
  refine ⟨u16len (line.take s), ?_, ?_, ?_⟩
  · simp only [editRange, hs, Option.map_some]
  · have := u16len_take_mono line hle
    omega
  · unfold fragOf
    rw [takeU16_u16len_take line s (by omega)]
    exact hq

/-- The same for the answer of `Completion`, in every judged context. -/
theorem edit_replaces_fragment_answer (st : Settings) (line : Str) (ch : Nat) (trig : Str) (ranked : List Scored)
    (hv : validCursor line ch = true) (hj : judged (determineContext line ch trig) = true) :
    ∃ a, (finish st line ch trig ranked).range = some (a, ch) ∧ editOK ch (a, ch) = true ∧
      fragOf line a ch = (finish st line ch trig ranked).query := by
  obtain ⟨a, h1, h2, h3⟩ := edit_replaces_fragment _ line ch hv (judged_cases hj)
  exact ⟨a, h1, by simp [editOK, h2], h3⟩

/-- `range-query-mismatch` (repaired earlier; code as pinned, `fx = false`), three shapes:
    * blanks after the amount: `    a:b  1    USD`, cursor 11 — commodity context, range `[14, 11]`;
    * cursor inside a directive keyword: `account foo`, cursor 3 — range `[8, 3]`;
    * status mark on a header line: `2024-01-01 * sho` — the range covers `sho`, the query is `* sho`. -/
theorem pinned_edit_range_counterexample :
    (Pinned.determineContext "    a:b  1    USD".toList 11 [] = .commodity ∧
      Pinned.editRange false .commodity "    a:b  1    USD".toList 11 = some (14, 11)) ∧
    (Pinned.determineContext "account foo".toList 3 [] = .account ∧
      Pinned.editRange false .account "account foo".toList 3 = some (8, 3)) ∧
    (Pinned.determineContext "2024-01-01 * sho".toList 16 [] = .payee ∧
      Pinned.editRange false .payee "2024-01-01 * sho".toList 16 = some (13, 16) ∧
      Pinned.extractQuery false .payee "2024-01-01 * sho".toList 16 = "* sho".toList) := by
  decide +kernel

/-- The repaired code on the same inputs. -/
example :
    editRange .commodity "    a:b  1    USD".toList 11 = some (11, 11) ∧
    editRange .account "account foo".toList 3 = some (0, 3) ∧
    extractQuery .payee "2024-01-01 * sho".toList 16 = "sho".toList := by
  decide +kernel

/-- On a posting line the account fragment never starts with a blank, a status mark or an opening
    bracket. -/
theorem account_fragment_excludes_marks (line : Str) (col : Nat)
    (h1 : hasPrefix (line.take col) directiveAccount = false)
    (h2 : hasPrefix (line.take col) directiveApplyAccount = false) :
    ∀ c ∈ (extractQuery .account line col).head?, isAccountSkip c = false := by
  intro c hc
  simp only [extractQuery, accountQueryStart, h1, h2, Bool.false_eq_true, if_false, trimLeftP] at hc
  rw [drop_sub_dropWhile] at hc
  have := List.head?_dropWhile_not isAccountSkip (line.take col)
  rw [Option.mem_def.1 hc] at this
  simpa using this

/-- Posting line, constructively: after an indent followed by any status marks / opening brackets
    (`pre`, non-empty, e.g. `"    "`, `"  * "`, `"\t("`, `" ! ["`), the account query is the text
    typed behind them and the edit range starts right there. -/
theorem posting_fragment (pre frag rest : Str) (hi : pre ≠ [])
    (hpre : ∀ c ∈ pre, isAccountSkip c = true) (hfrag : ∀ c ∈ frag.head?, isAccountSkip c = false) :
    extractQuery .account (pre ++ frag ++ rest) (pre.length + frag.length) = frag ∧
    editStart .account (pre ++ frag ++ rest) (pre.length + frag.length) = some pre.length := by
  obtain ⟨b, bs, rfl⟩ := List.exists_cons_of_ne_nil hi
  have hba : 'a' ≠ b := by rintro rfl; exact absurd (hpre 'a' List.mem_cons_self) (by decide)
  refine fragment_of_start (start := accountQueryStart) (fun _ _ => rfl) (fun _ _ => rfl) _ _ _ ?_
  simp only [accountQueryStart, hasPrefix_false_of_head (b :: bs ++ frag) directiveAccount b 'a' rfl rfl hba,
    hasPrefix_false_of_head (b :: bs ++ frag) directiveApplyAccount b 'a' rfl rfl hba, Bool.false_eq_true, if_false, trimLeftP,
    dropWhile_append_frag isAccountSkip (b :: bs) frag hpre hfrag]
  exact length_sub_frag _ _

/-- The hypotheses of `posting_fragment` can be met. -/
example : (posting_fragment "  * (".toList "ass".toList "  1 USD".toList (by decide) (by decide) (by decide)).1
    = (posting_fragment "  * (".toList "ass".toList "  1 USD".toList (by decide) (by decide) (by decide)).1 := rfl

/-- Transaction line without a code: after the date, one blank and any status marks / blanks
    (`marks`), the payee query is the text typed behind them. -/
theorem header_fragment (date marks frag rest p : Str) (hp : p = date ++ ' ' :: marks) (hd : ' ' ∉ date)
    (hm : ∀ c ∈ marks, isPayeeSkip c = true)
    (hf : ∀ c ∈ frag.head?, isPayeeSkip c = false ∧ c ≠ '(') :
    extractQuery .payee (p ++ frag ++ rest) (p.length + frag.length) = frag ∧
    editStart .payee (p ++ frag ++ rest) (p.length + frag.length) = some p.length := by
  refine fragment_of_start (start := payeeQueryStart) (fun _ _ => rfl) (fun _ _ => rfl) _ _ _ ?_
  rw [← length_sub_frag p frag, hp, List.append_assoc, List.cons_append]
  simp only [payeeQueryStart, indexOf_append_cons ' ' date _ hd, drop_append_cons, trimLeftP,
    dropWhile_append_frag isPayeeSkip marks frag hm (fun c hc => (hf c hc).1),
    skipCode_id frag (fun c hc => (hf c hc).2)]

/-- Transaction line with a code: after the date, status marks and a closed code `(body)`
    followed by blanks, the payee query is the text typed behind them. -/
theorem header_fragment_code (date marks body blanks frag rest p : Str)
    (hp : p = date ++ ' ' :: marks ++ '(' :: body ++ ')' :: blanks) (hd : ' ' ∉ date)
    (hm : ∀ c ∈ marks, isPayeeSkip c = true) (hb : ')' ∉ body) (hbl : ∀ c ∈ blanks, isBlank c = true)
    (hf : ∀ c ∈ frag.head?, isBlank c = false) :
    extractQuery .payee (p ++ frag ++ rest) (p.length + frag.length) = frag ∧
    editStart .payee (p ++ frag ++ rest) (p.length + frag.length) = some p.length := by
  refine fragment_of_start (start := payeeQueryStart) (fun _ _ => rfl) (fun _ _ => rfl) _ _ _ ?_
  have hpf : p ++ frag = date ++ ' ' :: (marks ++ (('(' :: body) ++ ')' :: (blanks ++ frag))) := by
    rw [hp]; simp only [List.append_assoc, List.cons_append]
  have hsk : skipCode (('(' :: body) ++ ')' :: (blanks ++ frag)) = frag := by
    have hclose := indexOf_append_cons ')' ('(' :: body) (blanks ++ frag) (by simp [hb])
    have hd2 := drop_append_cons ('(' :: body) (blanks ++ frag) ')'
    simp only [List.cons_append] at hclose hd2
    simp only [skipCode, List.cons_append, trimLeftP, hclose, hd2, dropWhile_append_frag isBlank blanks frag hbl hf]
  rw [← length_sub_frag p frag, hpf]
  simp only [payeeQueryStart, indexOf_append_cons ' ' date _ hd, drop_append_cons, trimLeftP,
    dropWhile_append_frag isPayeeSkip marks (('(' :: body) ++ ')' :: (blanks ++ frag)) hm
      (fun c hc => by simp at hc; subst hc; rfl), hsk]

/-- Comment, first tag: after the semicolon and blanks the tag query is the text typed behind them
    (no comma in it). -/
theorem tag_fragment_first (pre blanks frag rest p : Str) (hp : p = pre ++ ';' :: blanks) (hs : ';' ∉ pre)
    (hbl : ∀ c ∈ blanks, isBlankTab c = true) (hf : ∀ c ∈ frag.head?, isBlankTab c = false)
    (hc : ',' ∉ frag) :
    extractQuery .tagName (p ++ frag ++ rest) (p.length + frag.length) = frag ∧
    editStart .tagName (p ++ frag ++ rest) (p.length + frag.length) = some p.length := by
  refine fragment_of_start (start := tagNameQueryStart) (fun _ _ => rfl) (fun _ _ => rfl) _ _ _ ?_
  have hnc : ∀ x ∈ ';' :: (blanks ++ frag), (x == ',') = false := by
    intro x hx
    rcases List.mem_cons.1 hx with rfl | hx
    · rfl
    · exact not_comma_of_blanks_frag blanks frag hbl hc x hx
  have hpart : tagPartStart (pre ++ ';' :: (blanks ++ frag)) = pre.length + 1 := by
    simp only [tagPartStart, indexOf_append_cons ';' pre _ hs, lastIndexP_append_of_not (· == ',') pre _ hnc]
    cases hl : lastIndexP (· == ',') pre with
    | none => rfl
    | some c => exact if_neg (Nat.not_le.2 (Nat.lt_succ_of_lt (lastIndexP_lt _ _ _ hl)))
  rw [← length_sub_frag p frag, hp, List.append_assoc, List.cons_append]
  simp only [tagNameQueryStart, hpart, drop_append_cons, trimLeftP, dropWhile_append_frag isBlankTab blanks frag hbl hf]

/-- Comment, a further tag: after the last comma of the comment and blanks. -/
theorem tag_fragment_after_comma (pre mid blanks frag rest p : Str)
    (hp : p = pre ++ ';' :: mid ++ ',' :: blanks) (hs : ';' ∉ pre)
    (hbl : ∀ c ∈ blanks, isBlankTab c = true) (hf : ∀ c ∈ frag.head?, isBlankTab c = false)
    (hc : ',' ∉ frag) :
    extractQuery .tagName (p ++ frag ++ rest) (p.length + frag.length) = frag ∧
    editStart .tagName (p ++ frag ++ rest) (p.length + frag.length) = some p.length := by
  refine fragment_of_start (start := tagNameQueryStart) (fun _ _ => rfl) (fun _ _ => rfl) _ _ _ ?_
  have hpf : p ++ frag = (pre ++ ';' :: mid) ++ ',' :: (blanks ++ frag) := by
    rw [hp]; simp only [List.append_assoc, List.cons_append]
  have hpart : tagPartStart ((pre ++ ';' :: mid) ++ ',' :: (blanks ++ frag)) = (pre ++ ';' :: mid).length + 1 := by
    have hidx := indexOf_append_cons ';' pre (mid ++ ',' :: (blanks ++ frag)) hs
    rw [← List.cons_append, ← List.append_assoc] at hidx
    simp only [tagPartStart, hidx, lastIndexP_append_cons (· == ',') _ _ ',' rfl
      (not_comma_of_blanks_frag blanks frag hbl hc)]
    exact if_pos (by rw [List.length_append, List.length_cons]; exact Nat.add_le_add_left (Nat.le_add_left 1 _) _)
  rw [← length_sub_frag p frag, hpf]
  simp only [tagNameQueryStart, hpart, drop_append_cons, trimLeftP, dropWhile_append_frag isBlankTab blanks frag hbl hf]

/-- Non-vacuity of the fragment theorems on the witnesses of the finding. -/
example :
    extractQuery .payee "2024-01-02 * (123) sho".toList 22 = "sho".toList ∧
    extractQuery .tagName "    a:b  1,5 USD ; cat:1, do".toList 28 = "do".toList ∧
    extractQuery .account "\t! [ass".toList 7 = "ass".toList := by
  decide +kernel

/-- `fragment-includes-mark` (repaired): before the repair the text after the indent / the date was
    the fragment — typing `(ass` on a virtual posting offered nothing although `assets:cash`
    exists, the range covered the parenthesis; a transaction code was part of the payee query. -/
theorem pinned_fragment_includes_mark_counterexample :
    let t : Table := { (default : Table) with accounts := ["assets:cash".toList], payees := ["shop".toList] }
    let r := Pinned.complete goLower true t ⟨50, true⟩ "    (ass".toList 8 []
    let r' := complete goLower t ⟨50, true⟩ "    (ass".toList 8 []
    let h := Pinned.complete goLower true t ⟨50, true⟩ "2024-01-02 (123) sho".toList 20 []
    let h' := complete goLower t ⟨50, true⟩ "2024-01-02 (123) sho".toList 20 []
    r.ctx = .account ∧ r.query = "(ass".toList ∧ r.range = some (4, 8) ∧ r.items = [] ∧
    prefixCI goLower "ass".toList "assets:cash".toList = true ∧
    r'.query = "ass".toList ∧ r'.range = some (5, 8) ∧ r'.items.map (·.label) = ["assets:cash".toList] ∧
    h.query = "(123) sho".toList ∧ h.items = [] ∧
    h'.query = "sho".toList ∧ h'.range = some (17, 20) ∧ h'.items.map (·.label) = ["shop".toList] := by
  decide +kernel

/-- `tag-fragment-ignored` (repaired): before the repair every tag name was offered in a comment
    whatever had been typed, and without an edit range. -/
theorem pinned_tag_fragment_ignored_counterexample :
    let t : Table := { (default : Table) with tags := ["cat".toList, "dog".toList] }
    let r := Pinned.complete goLower true t ⟨50, true⟩ "    ; ca".toList 8 []
    let r' := complete goLower t ⟨50, true⟩ "    ; ca".toList 8 []
    r.ctx = .tagName ∧ r.query = [] ∧ r.range = none ∧
    r.items.map (·.label) = ["cat".toList, "dog".toList] ∧
    matchesQ goLower true "ca".toList "dog".toList = false ∧
    r'.ctx = .tagName ∧ r'.query = "ca".toList ∧ r'.range = some (6, 8) ∧
    r'.items.map (·.label) = ["cat".toList] ∧ newText .tagName "cat".toList = "cat:".toList := by
  decide +kernel

/-- `short-indent` (repaired): before the repair a line indented by fewer than four blanks was not
    taken for a posting. -/
theorem pinned_short_indent_counterexample :
    Pinned.determineContext "  assets:c".toList 10 [] = .date ∧
    Pinned.determineContext "    assets:c".toList 12 [] = .account ∧
    determineContext "  assets:c".toList 10 [] = .account ∧
    determineContext " assets:c".toList 9 [] = .account := by
  decide +kernel

/-- `status-mark-separator` (repaired): before the repair the blanks between the status mark of a
    posting and its account were taken for the separator in front of the amount, and commodities
    were offered inside the account name. -/
theorem pinned_status_mark_separator_counterexample :
    Pinned.determineContext "    !  a:big box".toList 13 [] = .commodity ∧
    determineContext "    !  a:big box".toList 13 [] = .account ∧
    extractQuery .account "    !  a:big box".toList 13 = "a:big ".toList ∧
    determineContext "    !  a:big box  1 U".toList 21 [] = .commodity ∧
    extractQuery .commodity "    !  a:big box  1 U".toList 21 = "U".toList := by
  decide +kernel

/-- `posting_context`: a line that starts with a blank or a tab (an indent of any width ≥ 1) and
    has no `;` before the cursor is completed as a posting (account or commodity context) on an
    invoked request. -/
theorem posting_context (line : Str) (ch : Nat)
    (hind : line.head? = some ' ' ∨ line.head? = some '\t')
    (hsemi : determineTagContext line (takeU16 line ch) = .unknown) :
    determineContext line ch [] = .account ∨ determineContext line ch [] = .commodity := by
  -- a line that starts with a blank or a tab is no directive, so `determineContext` reaches
  -- `determinePostingContext`, every branch of which answers account or commodity
  have hhead : ∃ x, line.head? = some x ∧ 'a' ≠ x ∧ 'c' ≠ x := by
    rcases hind with h | h <;> exact ⟨_, h, by decide, by decide⟩
  obtain ⟨x, hx, hxa, hxc⟩ := hhead
  have hne : line ≠ [] := by rintro rfl; simp at hx
  have h1 := hasPrefix_false_of_head line directiveAccount x 'a' hx rfl hxa
  have h2 := hasPrefix_false_of_head line directiveCommodity x 'c' hx rfl hxc
  have h3 := hasPrefix_false_of_head line directiveApplyAccount x 'a' hx rfl hxa
  have h4 : (hasPrefix line [' '] || hasPrefix line ['\t']) = true := by
    cases line with
    | nil => exact absurd rfl hne
    | cons y ys =>
      simp only [List.head?_cons, Option.some.injEq] at hind
      rcases hind with h | h <;> subst h <;> simp [hasPrefix]
  unfold determineContext
  simp only [hsemi, ne_eq, not_true_eq_false, if_false, hne, h1, h2, h3, h4, Bool.false_eq_true,
    reduceCtorEq, or_self, if_true]
  unfold determinePostingContext
  simp only []
  split
  · exact Or.inl rfl
  · split
    · exact Or.inl rfl
    · split
      · exact Or.inl rfl
      · split
        · exact Or.inl rfl
        · exact Or.inr rfl

/-- Non-vacuity: indents of one to eight blanks and a tab. -/
example : (List.range 8).all (fun k =>
      determineContext (List.replicate (k + 1) ' ' ++ "a:b  1 U".toList) (k + 1 + 8) [] == .commodity &&
      determineContext (List.replicate (k + 1) ' ' ++ "a:b  1 U".toList) (k + 1 + 2) [] == .account) = true ∧
    determineContext "\ta:b".toList 3 [] = .account := by
  decide +kernel

end HL.Props.C16
