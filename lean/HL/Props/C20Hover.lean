/-
  C20 (server-level part) — hover figures are exact aggregates over the whole include tree.
  Property theorems about the model HL/Model/Hover.lean (internal/server/hover.go,
  ResolvedJournal.AllTransactions, CalculateAccountBalancesFromTransactions), judged against
  HL/Spec/HoverSpec.lean.  Helper lemmas: HL/Lemmas/Hover.lean.
  HL/Props/C20.lean proves the arithmetic core about a second, separate transcription of
  `CalculateAccountBalances…` and of the counters of hover.go (HL/Model/Balance.lean); no theorem
  relates the two models.
-/
import HL.Lemmas.Hover
import HL.Lemmas.HoverDec
import HL.Lemmas.PayeeRange
namespace HL.Props.C20Hover
open HL HL.Ast HL.Hover HL.HoverSpec HL.Lemmas.Hover HL.Lemmas.HoverDec

/-- For every list of transactions, every account and every commodity: the decimal Hover keeps
    for (account, commodity) denotes exactly the sum of the amounts explicitly posted, and there
    is an entry exactly when something was explicitly posted.  Postings without an amount
    contribute nothing. -/
theorem account_sum_exact (txs : List Transaction) (a c : Bytes) :
    (balLookup (accountBalances txs) (a, c)).map decToRat = accountSum? (txs.map absTx) a c := by
  have h := balVal_balPostings [] (allPostings txs) a c
  rw [← accountBalances_eq] at h
  simp only [balVal] at h
  rw [h]
  simp only [balLookup, List.find?_nil, Option.map_none]
  rw [accF_none]
  simp only [accountSum?, amountsOf, postingsOf_abs]
  generalize List.filterMap (contrib a c) (List.map absPosting (allPostings txs)) = l
  cases l <;> rfl

/-- The lines of the "Balance" section of an account hover: every line shows a commodity
    explicitly posted to the account with a decimal denoting the exact sum; every such commodity
    has a line; an account with no explicit amounts has no line. -/
theorem account_lines_exact (txs : List Transaction) (a : Bytes) :
    (∀ c v, (c, v) ∈ accountBalanceLines (accountBalances txs) a →
        accountSum? (txs.map absTx) a c = some (decToRat v)) ∧
    (∀ c, accountSum? (txs.map absTx) a c ≠ none →
        ∃ v, (c, v) ∈ accountBalanceLines (accountBalances txs) a) := by
  constructor
  · intro c v h
    rw [mem_lines] at h
    have := lookup_of_mem _ _ _ (nodup_accountBalances txs) h
    rw [← account_sum_exact, this]; rfl
  · intro c h
    rw [← account_sum_exact] at h
    cases hl : balLookup (accountBalances txs) (a, c) with
    | none => simp [hl] at h
    | some v => exact ⟨v, (mem_lines _ _ _ _).mpr (mem_of_lookup _ _ _ hl)⟩

/-- For transaction lists of any length: the posting count is the number of postings to the
    account (with or without an amount), the tag count the number of uses of the tag name on
    transactions and postings, the tag-value count the number of uses of that name with that
    value.  All comparisons are exact byte comparisons (case-sensitive). -/
theorem counts_exact (txs : List Transaction) :
    (∀ a, countPostings a txs = postingCount (txs.map absTx) a) ∧
    (∀ n, countTag n txs = tagCount (txs.map absTx) n) ∧
    (∀ n v, countTagValue n v txs = tagValueCount (txs.map absTx) n v) := by
  refine ⟨fun a => ?_, fun n => ?_, fun n v => ?_⟩
  · rw [countPostings_eq, postingCount, postingsOf_abs, List.countP_map]
    rfl
  · unfold countTag tagCount
    rw [foldl_count (fun t : Tag => t.name == n), tagsOf_abs, List.countP_map, Nat.zero_add]
    rfl
  · unfold countTagValue tagValueCount
    rw [foldl_count (fun t : Tag => t.name == n && t.value == v), tagsOf_abs, List.countP_map, Nat.zero_add]
    rfl

/-- What the parser guarantees about the header fields (parser.parseTransaction): either there
    is no payee, or the description is the payee, or it is `payee ++ " | " ++ note`. -/
def TxWF (tx : Transaction) : Prop :=
  tx.payee = [] ∨ tx.description = tx.payee ∨ tx.description = tx.payee ++ [32, 124, 32] ++ tx.note

/-- Payee hover counts the transactions that show this payee (`Payee == p || Description == p`
    in the code), for every list of well-formed transactions and every non-empty payee without
    `|` (the lexer ends a description at `|`, and Hover never reports an empty payee). -/
theorem payee_count_exact (txs : List Transaction) (p : Bytes)
    (hwf : ∀ tx ∈ txs, TxWF tx) (hp : (124 : UInt8) ∉ p) (hp0 : p ≠ []) :
    countPayee p txs = payeeCount (txs.map absTx) p := by
  unfold countPayee payeeCount
  rw [foldl_count (fun tx : Transaction => tx.payee == p || tx.description == p), Nat.zero_add,
    List.countP_map]
  apply List.countP_congr
  intro tx htx
  have wf := hwf tx htx
  simp only [Function.comp, absTx, payeeOrDescription, Bool.or_eq_true, beq_iff_eq]
  by_cases he : tx.payee = []
  · have : ¬ ([] : Bytes) = p := fun h => hp0 h.symm
    simp [he, this]
  · have hne : (tx.payee != []) = true := by simpa using he
    simp only [hne, if_true]
    constructor
    · rintro (h | h)
      · exact h
      · rcases wf with w | w | w
        · exact absurd w he
        · rw [← w]; exact h
        · exfalso; apply hp; rw [← h, w]; simp
    · intro h; exact Or.inl h

example : TxWF { (default : Transaction) with payee := [83], note := [110], description := [83, 32, 124, 32, 110] }
    ∧ (124 : UInt8) ∉ ([83] : Bytes) := ⟨Or.inr (Or.inr rfl), by decide⟩

def primaryTxs (r : Resolved) : List Transaction :=
  match r.primary with
  | some j => j.transactions
  | none => []

/-- If the resolved journal's `FileOrder` has no duplicates and lists exactly the member files,
    `AllTransactions` is (a rearrangement of) the root's transactions followed by each member
    file's transactions once. -/
theorem all_transactions_once (r : Resolved) (members : List Bytes)
    (hnd : r.order.Nodup) (hm : members.Nodup) (hmem : ∀ p, p ∈ r.order ↔ p ∈ members) :
    (allTransactions r).Perm (primaryTxs r ++ members.flatMap (fileTxs r.files)) := by
  have hp : r.order.Perm members := (List.perm_ext_iff_of_nodup hnd hm).mpr hmem
  exact List.Perm.append_left _ (List.Perm.flatMap_right _ hp)

example : ∃ r : Resolved, ∃ members : List Bytes, r.order.Nodup ∧ members.Nodup ∧
    (∀ p, p ∈ r.order ↔ p ∈ members) ∧ r.order ≠ members :=
  ⟨⟨none, [], [[1], [2]]⟩, [[2], [1]], by decide, by decide, by simp; grind, by decide⟩

/-- The aggregates of the specification do not depend on the order of the transactions. -/
theorem spec_perm {t t' : List GTx} (h : t.Perm t') :
    (∀ a c, accountSum? t a c = accountSum? t' a c) ∧
    (∀ a, postingCount t a = postingCount t' a) ∧
    (∀ p, payeeCount t p = payeeCount t' p) ∧
    (∀ n, tagCount t n = tagCount t' n) ∧
    (∀ n v, tagValueCount t n v = tagValueCount t' n v) := by
  have hps : (postingsOf t).Perm (postingsOf t') := List.Perm.flatMap_right _ h
  have htg : (tagsOf t).Perm (tagsOf t') := List.Perm.flatMap_right _ h
  refine ⟨fun a c => ?_, fun a => hps.countP_eq _, fun p => h.countP_eq _,
    fun n => htg.countP_eq _, fun n v => htg.countP_eq _⟩
  have ha : (amountsOf t a c).Perm (amountsOf t' a c) := hps.filterMap _
  unfold accountSum?
  cases h1 : amountsOf t a c with
  | nil =>
    rw [h1] at ha
    rw [← ha.nil_eq]
  | cons x xs =>
    cases h2 : amountsOf t' a c with
    | nil => rw [h2] at ha; rw [ha.eq_nil] at h1; cases h1
    | cons y ys =>
      rw [h1, h2] at ha
      simp only [sum_perm ha]

/-- The statement for a resolved journal whose `FileOrder` is a duplicate-free listing of the
    member files: every figure Hover computes is the exact aggregate over the root's
    transactions and each member file's transactions ONCE. -/
theorem hover_aggregates_exact_partial (r : Resolved) (members : List Bytes)
    (hnd : r.order.Nodup) (hm : members.Nodup) (hmem : ∀ p, p ∈ r.order ↔ p ∈ members) :
    let txs := allTransactions r
    let truth := (primaryTxs r ++ members.flatMap (fileTxs r.files)).map absTx
    (∀ a c, (balLookup (accountBalances txs) (a, c)).map decToRat = accountSum? truth a c) ∧
    (∀ a, countPostings a txs = postingCount truth a) ∧
    (∀ n, countTag n txs = tagCount truth n) ∧
    (∀ n v, countTagValue n v txs = tagValueCount truth n v) ∧
    (∀ p, (∀ tx ∈ txs, TxWF tx) → (124 : UInt8) ∉ p → p ≠ [] → countPayee p txs = payeeCount truth p) := by
  intro txs truth
  have hperm : (txs.map absTx).Perm truth := (all_transactions_once r members hnd hm hmem).map absTx
  obtain ⟨s1, s2, s3, s4, s5⟩ := spec_perm hperm
  obtain ⟨c1, c2, c3⟩ := counts_exact txs
  refine ⟨fun a c => ?_, fun a => ?_, fun n => ?_, fun n v => ?_, fun p hwf hp hp0 => ?_⟩
  · rw [account_sum_exact, s1]
  · rw [c1, s2]
  · rw [c2, s4]
  · rw [c3, s5]
  · rw [payee_count_exact txs p hwf hp hp0, s3]

/-- With a workspace that has a resolved journal, Hover aggregates over that journal's root and
    members, whichever document the request comes from and whatever was stored for its URI. -/
theorem hover_uses_whole_tree (r : Resolved) (perUri perUri' : Option Resolved) (doc doc' : Journal) :
    hoverTransactions (some r) perUri doc = allTransactions r ∧
    hoverTransactions (some r) perUri doc = hoverTransactions (some r) perUri' doc' := by
  simp [hoverTransactions, workspaceResolved]

/-- Without a workspace: the requesting file and its own include tree, as resolved by
    publishDiagnostics for this URI; before any diagnostics run, the document alone. -/
theorem hover_without_workspace (r : Resolved) (doc : Journal) :
    hoverTransactions none (some r) doc = allTransactions r ∧
    hoverTransactions none none doc = doc.transactions := by
  simp [hoverTransactions, workspaceResolved]

/-- When the cursor is on an amount, Hover shows exactly that posting's quantity and commodity
    and exactly its cost (unit or total, quantity, commodity) — the decimals as parsed, with no
    arithmetic on them — whatever the workspace or include tree; and the amount shown belongs to
    a posting of the requesting document whose amount range contains the cursor. -/
theorem amount_hover_exact (ws perUri : Option Resolved) (doc : Journal) (lns : List HL.Text.Txt)
    (p : LspPos) (rng : Rng) (a : Amount) (c : Option Cost)
    (h : findElement lns doc.transactions (runePos lns p) = some (.amount rng a c)) :
    (hover ws perUri doc lns p).map (·.figures) =
      some (.amount a.quantity a.commodity.symbol
        (c.map fun c => (c.isTotal, c.amount.quantity, c.amount.commodity.symbol))) ∧
    ∃ tx ∈ doc.transactions, ∃ po ∈ tx.postings, po.amount = some a ∧ po.cost = c ∧
      positionInRange (runePos lns p) a.range = true := by
  refine ⟨by simp [hover, hoverR, h, buildFigures], ?_⟩
  obtain ⟨tx, htx, po, hpo, h1, h2, _, h4⟩ := findElement_from h
  exact ⟨tx, htx, po, hpo, h1, h2, h4⟩

/-- When the transactions of the requesting document are among those Hover aggregates over,
    an account hover counts at least the posting under the cursor (`current_file_counted` below
    discharges the hypothesis for the repaired server). -/
theorem current_file_counted_partial (ws perUri : Option Resolved) (doc : Journal)
    (lns : List HL.Text.Txt) (p : LspPos) (rng : Rng) (acc : Account)
    (h : findElement lns doc.transactions (runePos lns p) = some (.account rng acc))
    (hsub : ∀ tx ∈ doc.transactions, tx ∈ hoverTransactions ws perUri doc) :
    (hover ws perUri doc lns p).map (·.figures) =
      some (.account acc.name
        (accountBalanceLines (accountBalances (hoverTransactions ws perUri doc)) acc.name)
        (countPostings acc.name (hoverTransactions ws perUri doc))) ∧
    1 ≤ countPostings acc.name (hoverTransactions ws perUri doc) := by
  refine ⟨by simp [hover, hoverR, h, buildFigures], ?_⟩
  obtain ⟨tx, htx, po, hpo, hacc⟩ := findElement_from h
  rw [countPostings_eq]
  apply List.countP_pos_iff.mpr
  refine ⟨po, ?_, by simp [hacc]⟩
  simp only [allPostings, List.mem_flatMap]
  exact ⟨tx, hsub tx htx, hpo⟩

/-- From the root journal or a file of its include tree Hover aggregates over the workspace's
    tree; from any other journal (and without a workspace) over the document's own tree, as
    resolved for its URI, or over the document alone before that exists. -/
theorem hover_tree_choice (w : WsView) (perUri : Option Resolved) (path : Bytes) (doc : Journal)
    (lns : List HL.Text.Txt) (p : LspPos) :
    (w.contains path = true → hoverAt (some w) perUri path doc lns p = hover (some w.resolved) perUri doc lns p) ∧
    (w.contains path = false → hoverAt (some w) perUri path doc lns p = hover none perUri doc lns p) ∧
    hoverAt none perUri path doc lns p = hover none perUri doc lns p := by
  refine ⟨fun h => ?_, fun h => ?_, rfl⟩ <;> simp [hoverAt, workspaceResolvedFor, h]

/-- The snapshots Hover may consult hold the requesting document's own current tree: the
    workspace under the document's path (root journal or member file, which `FileOrder` lists),
    the per-URI resolved journal as its primary.  This is what the server maintains —
    workspace: every didOpen/didChange/didSave passes the buffer to `UpdateFile`
    (HL.Props.C09.workspace_follows_buffers); per URI: the stored tree is absent or that of the
    current text (HL.Props.C01Fresh.resolved_fresh). -/
structure InSync (v : Option WsView) (perUri : Option Resolved) (path : Bytes) (doc : Journal) : Prop where
  root : ∀ w, v = some w → path = w.root → w.resolved.primary = some doc
  member : ∀ w, v = some w → path ≠ w.root → (lookupFile w.resolved.files path).isSome = true →
    lookupFile w.resolved.files path = some doc ∧ path ∈ w.resolved.order
  own : ∀ r, perUri = some r → r.primary = some doc

/-- The transactions of the requesting document are among those Hover aggregates over,
    wherever the request comes from: root, member file, a journal outside the root's tree, or
    no workspace at all. -/
theorem current_file_in_scope (v : Option WsView) (perUri : Option Resolved) (path : Bytes)
    (doc : Journal) (hs : InSync v perUri path doc) :
    ∀ tx ∈ doc.transactions, tx ∈ hoverTransactions (workspaceResolvedFor v path) perUri doc := by
  intro tx htx
  have hown : tx ∈ hoverTransactions none perUri doc := by
    cases hp : perUri with
    | none => simpa [hoverTransactions, workspaceResolved] using htx
    | some r =>
      have := hs.own r hp
      simp only [hoverTransactions, workspaceResolved, allTransactions, this, List.mem_append]
      exact Or.inl htx
  cases hv : v with
  | none => simpa [workspaceResolvedFor] using hown
  | some w =>
    by_cases hc : w.contains path = true
    · simp only [workspaceResolvedFor, hc, if_true, hoverTransactions, workspaceResolved,
        allTransactions, List.mem_append]
      simp only [WsView.contains, Bool.and_eq_true, Bool.or_eq_true, beq_iff_eq] at hc
      by_cases hr : path = w.root
      · rw [hs.root w hv hr]; exact Or.inl htx
      · obtain ⟨hl, ho⟩ := hs.member w hv hr (by rcases hc.2 with h | h; exact absurd h hr; exact h)
        refine Or.inr (List.mem_flatMap.mpr ⟨path, ho, ?_⟩)
        simpa [fileTxs, hl] using htx
    · simp only [workspaceResolvedFor, hc]
      exact hown

/-- No guard on where the request comes from: an account hover
    shows the balance lines and the posting count over the chosen tree, and that count
    includes the posting under the cursor. -/
theorem current_file_counted (v : Option WsView) (perUri : Option Resolved) (path : Bytes)
    (doc : Journal) (lns : List HL.Text.Txt) (p : LspPos) (rng : Rng) (acc : Account)
    (h : findElement lns doc.transactions (runePos lns p) = some (.account rng acc))
    (hs : InSync v perUri path doc) :
    let txs := hoverTransactions (workspaceResolvedFor v path) perUri doc
    (hoverAt v perUri path doc lns p).map (·.figures) =
      some (.account acc.name (accountBalanceLines (accountBalances txs) acc.name)
        (countPostings acc.name txs)) ∧
    1 ≤ countPostings acc.name txs :=
  current_file_counted_partial (workspaceResolvedFor v path) perUri doc lns p rng acc h
    (current_file_in_scope v perUri path doc hs)

open HL.Spec.HeaderG in
/-- No guard on the shape of the header (repo_patches/fix-payee-range.diff).
    The header line of the transaction is any text up to the end of the date (`pre`) followed by
    a header of the grammar (HL/Spec/HeaderG.lean: optional secondary date, status mark and
    code, any runs of blanks and tabs before the payee, `| note`, comment; `cr`: what follows
    the printed header — nothing or the CR of a CRLF line end).  Every cursor from the first
    character of the payee to just past its last one, on that line, finds the payee, and Hover
    shows the number of transactions with that payee.  `p` is the cursor in runes (`runePos lns`
    of the request's position `p0`); `hdate`: the cursor is not on the date (it follows from the
    tree when something stands between the date and the payee). -/
theorem payee_found (ws perUri : Option Resolved) (doc : Journal) (lns : List HL.Text.Txt)
    (tx : Transaction) (rest : List Transaction) (p0 p : LspPos) (hp : runePos lns p0 = p)
    (hdoc : doc.transactions = tx :: rest)
    (hne : payeeOrDescription tx ≠ [])
    (pre : HL.Text.Txt) (h : Header) (cr : HL.Text.Txt)
    (h1 : 1 ≤ tx.date.range.start.line) (h2 : 1 ≤ tx.date.range.stop.col)
    (hl : lns[tx.date.range.start.line - 1]? = some (pre ++ (h.print ++ cr)))
    (hpre : pre.length = tx.date.range.stop.col - 1) (hw : h.wf = true)
    (hlen : h.payee.length = runeLen (payeeOrDescription tx))
    (hdate : positionInRange p tx.date.range = false)
    (hline : p.line + 1 = tx.date.range.start.line)
    (hlo : pre.length + h.lead.length ≤ p.char)
    (hhi : p.char ≤ pre.length + h.lead.length + h.payee.length) :
    (hover ws perUri doc lns p0).map (·.figures) =
      some (.payee (payeeOrDescription tx)
        (countPayee (payeeOrDescription tx) (hoverTransactions ws perUri doc))) := by
  have hcol := HL.Lemmas.PayeeRange.payeeStart_header lns _ pre h (h.tail ++ cr) _ h1
    (by simpa only [Header.print, List.append_assoc] using hl) hw h2 hpre
  have hin : positionInRange p (payeeRange lns tx (payeeOrDescription tx)) = true := by
    have e1 : ¬ (p.line + 1 < tx.date.range.start.line ∨ p.line + 1 > tx.date.range.start.line) := by omega
    have e2 : ¬ (p.char + 1 < tx.date.range.stop.col + h.lead.length) := by omega
    have e3 : ¬ (p.char + 1 > tx.date.range.stop.col + h.lead.length + runeLen (payeeOrDescription tx)) := by omega
    simp [positionInRange, payeeRange, hcol, e1, e2, e3]
  have hb : (payeeOrDescription tx != []) = true := by simpa using hne
  have hf : findElement lns doc.transactions p =
      some (.payee (payeeRange lns tx (payeeOrDescription tx)) (payeeOrDescription tx) tx) := by
    rw [hdoc]
    simp [findElement, findInTransaction, hdate, payeeElement, hb, hin]
  simp [hover, hoverR, hp, hf, buildFigures]

/-- `Decimal.String()` prints exactly the value: reading the shown text back gives `decToRat`,
    whatever notation the amount was written in (the printed form depends on coefficient and
    exponent only). -/
theorem shown_decimal_exact (d : Dec) : readDec? (decStr d) = some (decToRat d) := decStr_exact d

/-- Account hover, end to end: for every transaction list and account, the executable judge
    `accountOk` — the one applied to the real server's markdown in every run — accepts what the
    model shows: one line per commodity explicitly posted, each printing the exact sum, no
    commodity twice, none missing, and the exact number of postings. -/
theorem account_hover_judged (txs : List Transaction) (a : Bytes) :
    accountOk (txs.map absTx) a
      (shownOf (.account a (accountBalanceLines (accountBalances txs) a) (countPostings a txs))) = true := by
  obtain ⟨l1, l2⟩ := account_lines_exact txs a
  simp only [shownOf, accountOk, Bool.and_eq_true, beq_self_eq_true, true_and, beq_iff_eq,
    decide_eq_true_eq, List.all_eq_true, List.any_eq_true, List.map_map]
  refine ⟨⟨⟨(counts_exact txs).1 a, ?_⟩, ?_⟩, ?_⟩
  · have := nodup_line_commodities (accountBalances txs) a (nodup_accountBalances txs)
    have hf : ((fun x : Bytes × Bytes => x.fst) ∘ fun e : Bytes × Dec => (e.fst, decStr e.snd))
        = fun x : Bytes × Dec => x.fst := by funext x; rfl
    rw [hf]; exact this
  · intro e he
    obtain ⟨⟨c, v⟩, hm, rfl⟩ := List.mem_map.mp he
    simp only [l1 c v hm, decStr_exact, beq_self_eq_true]
  · intro c hc
    simp only [accountCommodities, List.mem_filterMap] at hc
    obtain ⟨p, hp, hpc⟩ := hc
    have hne : accountSum? (txs.map absTx) a c ≠ none := by
      unfold accountSum?
      have : amountsOf (txs.map absTx) a c ≠ [] := by
        intro e
        have hm : ∀ q, q ∉ amountsOf (txs.map absTx) a c := by rw [e]; intro q hq; cases hq
        split at hpc
        · next hacc =>
          cases hpa : p.amount with
          | none => simp [hpa] at hpc
          | some am =>
            simp only [hpa, Option.map_some, Option.some.injEq] at hpc
            apply hm am.q
            simp only [amountsOf, List.mem_filterMap]
            exact ⟨p, hp, by simp [contrib, hacc, hpa, hpc]⟩
        · cases hpc
      cases h : amountsOf (txs.map absTx) a c with
      | nil => exact absurd h this
      | cons x xs => simp
    obtain ⟨v, hv⟩ := l2 c hne
    exact ⟨(c, decStr v), List.mem_map.mpr ⟨(c, v), hv, rfl⟩, rfl⟩

/-- Payee, tag and tag-value hover: the judge accepts the model's figures. -/
theorem count_hovers_judged (txs : List Transaction) :
    (∀ n vals, tagOk (txs.map absTx) n (shownOf (.tag n (countTag n txs) vals)) = true) ∧
    (∀ n v, tagValueOk (txs.map absTx) n v (shownOf (.tagValue n v (countTagValue n v txs))) = true) ∧
    (∀ p, (∀ tx ∈ txs, TxWF tx) → (124 : UInt8) ∉ p → p ≠ [] →
        payeeOk (txs.map absTx) p (shownOf (.payee p (countPayee p txs))) = true) := by
  obtain ⟨_, c2, c3⟩ := counts_exact txs
  refine ⟨fun n vals => ?_, fun n v => ?_, fun p hwf hp hp0 => ?_⟩
  · simp [shownOf, tagOk, c2]
  · simp [shownOf, tagValueOk, c3]
  · simp [shownOf, payeeOk, payee_count_exact txs p hwf hp hp0]

/-- Amount hover, end to end: the judge accepts the shown quantity, commodity and cost of the
    amount under the cursor. -/
theorem amount_hover_judged (a : Amount) (c : Option Cost) :
    amountOk ⟨decToRat a.quantity, a.commodity.symbol⟩
      (c.map fun c => ⟨c.isTotal, decToRat c.amount.quantity, c.amount.commodity.symbol⟩)
      (shownOf (.amount a.quantity a.commodity.symbol
        (c.map fun c => (c.isTotal, c.amount.quantity, c.amount.commodity.symbol)))) = true := by
  cases c with
  | none => simp [shownOf, amountOk, decStr_exact]
  | some c => simp [shownOf, amountOk, decStr_exact]

/-! Each counterexample below is reproduced against the real server by a witness in replays/C20. -/

namespace Cex

def rng (l c1 c2 : Nat) : Rng := ⟨⟨l, c1, 0⟩, ⟨l, c2, 0⟩⟩
/-- `x:y` -/
def xy : Bytes := [120, 58, 121]
/-- `o:p` -/
def op : Bytes := [111, 58, 112]
def usd : Bytes := [85, 83, 68]

def posting (acct : Bytes) (line : Nat) (q : Option Int) : Posting :=
  { (default : Posting) with
    account := ⟨acct, rng line 3 6⟩
    amount := q.map fun n => ⟨⟨n, 0⟩, [], ⟨usd, .right, rng line 8 13⟩, false, rng line 8 13⟩ }

def tx (line : Nat) (ps : List Posting) : Transaction :=
  { (default : Transaction) with date := ⟨2024, 1, 15, rng line 1 11⟩, postings := ps }

def journal (txs : List Transaction) : Journal := ⟨txs, [], [], []⟩

/-- file b: one transaction posting 5 USD to x:y -/
def fileB : Journal := journal [tx 1 [posting xy 2 (some 5)]]
def fileC : Journal := journal [tx 1 [posting xy 2 (some 7)]]
def b : Bytes := [98]
def c : Bytes := [99]

/-- root `include b` twice, resolved with a warm loader cache: `FileOrder = [b, b]`. -/
def resolvedDup : Resolved := ⟨some (journal []), [(b, fileB)], [b, b]⟩

/-- root includes b, b includes c; resolved with a warm cache: `FileOrder = [b]`, c is in
    neither `Files` nor `FileOrder`. -/
def resolvedTruncated : Resolved := ⟨some (journal []), [(b, fileB)], [b]⟩
def resolvedFull : Resolved := ⟨some (journal []), [(b, fileB), (c, fileC)], [b, c]⟩

end Cex

/-- The hypotheses of `amount_hover_exact` and `current_file_counted_partial` are satisfiable:
    a document with one posting `x:y  5 USD` on line 2, cursor on the amount / on the account. -/
example : ∃ rng a c, findElement [] (Cex.journal [Cex.tx 1 [Cex.posting Cex.xy 2 (some 5)]]).transactions ⟨1, 8⟩
    = some (.amount rng a c) := ⟨_, _, _, rfl⟩
example : ∃ rng acc, findElement [] (Cex.journal [Cex.tx 1 [Cex.posting Cex.xy 2 (some 5)]]).transactions ⟨1, 3⟩
    = some (.account rng acc) ∧
    ∀ tx ∈ (Cex.journal [Cex.tx 1 [Cex.posting Cex.xy 2 (some 5)]]).transactions,
      tx ∈ hoverTransactions none none (Cex.journal [Cex.tx 1 [Cex.posting Cex.xy 2 (some 5)]]) :=
  ⟨_, _, rfl, fun _ h => h⟩

/-- The hypotheses of `payee_found` are satisfiable: `2024-01-15=2024-01-16 ! (12)` + TAB +
    `😀 Shop | n ; c` on a CRLF line, cursor (runes) on `S`; and the canonical `2024-01-15 Shop`,
    cursor on `h`. -/
example :
    let tx : Transaction := { Cex.tx 1 [] with code := [49, 50], payee := "😀 Shop".toUTF8.toList }
    let h : HL.Spec.HeaderG.Header := {
      date2 := some ([], [], "2024-01-16".toList), status := some (" ".toList, '!'),
      code := some (" ".toList, "12".toList), gap := "\t".toList, payee := "😀 Shop".toList,
      note := some (" ".toList, " ".toList, "n".toList), comment := some (" ".toList, " c".toList) }
    let pre := "2024-01-15".toList
    let lns : List HL.Text.Txt := [pre ++ (h.print ++ ['\r']), []]
    let p : LspPos := ⟨0, 31⟩
    payeeOrDescription tx ≠ [] ∧ lns[tx.date.range.start.line - 1]? = some (pre ++ (h.print ++ ['\r'])) ∧
    pre.length = tx.date.range.stop.col - 1 ∧ h.wf = true ∧ h.payee.length = runeLen (payeeOrDescription tx) ∧
    positionInRange p tx.date.range = false ∧ p.line + 1 = tx.date.range.start.line ∧
    pre.length + h.lead.length ≤ p.char ∧ p.char ≤ pre.length + h.lead.length + h.payee.length ∧
    (findElement lns [tx] p).map Element.rng = some ⟨⟨1, 30, 0⟩, ⟨1, 36, 0⟩⟩ := by
  decide +kernel

example :
    let tx : Transaction := { Cex.tx 1 [] with description := [83, 104, 111, 112] }
    let h : HL.Spec.HeaderG.Header := { gap := " ".toList, payee := "Shop".toList }
    let pre := "2024-01-15".toList
    let p : LspPos := ⟨0, 12⟩
    h.wf = true ∧ h.payee.length = runeLen (payeeOrDescription tx) ∧
    positionInRange p tx.date.range = false ∧
    pre.length + h.lead.length ≤ p.char ∧ p.char ≤ pre.length + h.lead.length + h.payee.length := by
  decide +kernel

open Cex in
/-- A `FileOrder` that lists a file twice doubles that file's figures: 2 postings and 10 USD are
    shown where root + members once have 1 posting and 5 USD. -/
theorem dup_include_doubled_counterexample :
    ¬ resolvedDup.order.Nodup ∧
    countPostings xy (allTransactions resolvedDup) = 2 ∧
    balLookup (accountBalances (allTransactions resolvedDup)) (xy, usd) = some ⟨10, 0⟩ ∧
    countPostings xy (primaryTxs resolvedDup ++ [b].flatMap (fileTxs resolvedDup.files)) = 1 ∧
    balLookup (accountBalances (primaryTxs resolvedDup ++ [b].flatMap (fileTxs resolvedDup.files)))
      (xy, usd) = some ⟨5, 0⟩ := by
  decide +kernel

open Cex in
/-- A `FileOrder` that misses a member file (the loader does not follow the includes of a cached
    file) misses its figures. -/
theorem truncated_tree_counterexample :
    countPostings xy (allTransactions resolvedTruncated) = 1 ∧
    balLookup (accountBalances (allTransactions resolvedTruncated)) (xy, usd) = some ⟨5, 0⟩ ∧
    countPostings xy (allTransactions resolvedFull) = 2 ∧
    balLookup (accountBalances (allTransactions resolvedFull)) (xy, usd) = some ⟨12, 0⟩ := by
  decide +kernel

open Cex in
/-- Before fix-orphan-journal-own-tree.diff: with a workspace, a request from a file outside the
    root's include tree (`o`; the root is `b`) was answered from the root's tree only — the
    posting under the cursor was not counted (0 postings, no balance).  The repaired server
    answers from the document's own tree: 1 posting, 3 USD. -/
theorem pinned_orphan_file_counterexample :
    let w : WsView := ⟨⟨some fileB, [], []⟩, b⟩
    let doc := journal [tx 1 [posting op 2 (some 3)]]
    let lns : List HL.Text.Txt := ["2024-01-15 x".toList, "  o:p  3 USD".toList, []]
    w.contains [111] = false ∧
    pinnedHoverAt (some w) (some ⟨some doc, [], []⟩) [111] doc lns ⟨1, 2⟩
      = some ⟨.account op [] 0, (1, 2, 1, 5)⟩ ∧
    hoverAt (some w) (some ⟨some doc, [], []⟩) [111] doc lns ⟨1, 2⟩
      = some ⟨.account op [(usd, ⟨3, 0⟩)] 1, (1, 2, 1, 5)⟩ := by
  decide +kernel

open Cex in
/-- The hypotheses of `current_file_counted` hold on that very input (a journal outside the
    root's tree whose per-URI tree is that of its current text): non-vacuity on the shape that
    used to fail. -/
example :
    let w : WsView := ⟨⟨some fileB, [], []⟩, b⟩
    let doc := journal [tx 1 [posting op 2 (some 3)]]
    InSync (some w) (some ⟨some doc, [], []⟩) [111] doc ∧
    ∃ rng acc, findElement ["2024-01-15 x".toList, "  o:p  3 USD".toList, []] doc.transactions
      (runePos ["2024-01-15 x".toList, "  o:p  3 USD".toList, []] ⟨1, 2⟩) = some (.account rng acc) := by
  refine ⟨⟨?_, ?_, ?_⟩, _, _, rfl⟩
  · intro w hw hp; cases hw; exact absurd hp (by decide)
  · intro w hw _ hl; cases hw; exact absurd hl (by decide)
  · intro r hr; cases hr; rfl

open Cex in
/-- Known finding `unsaved-include-not-seen` (shared with C09): a document answered from its own
    tree (no workspace, or a journal outside the root's tree) includes `b`, which is open with
    an unsaved edit (7 USD where the file on disk has 5 USD); the per-URI resolved journal was
    loaded from disk and still holds the disk version: Hover shows 5 USD. -/
theorem unsaved_include_not_seen_counterexample :
    let held : Resolved := ⟨some (journal []), [(b, fileB)], [b]⟩
    let current : Resolved := ⟨some (journal []), [(b, fileC)], [b]⟩
    balLookup (accountBalances (hoverTransactions (workspaceResolvedFor none [111]) (some held) (journal []))) (xy, usd)
      = some ⟨5, 0⟩ ∧
    balLookup (accountBalances (allTransactions current)) (xy, usd) = some ⟨7, 0⟩ := by
  decide +kernel

open Cex in
/-- Before repo_patches/fix-payee-range.diff.
    `2024-01-15 (12) Shop`: the payee range was estimated as "one column after the date" — what
    the model still computes when the mapper has no text (`lns = []`) — so a cursor on `Shop`
    (characters 16..20) found nothing while a cursor on the code found the payee.  With the text
    of the header line the payee is found on `Shop`, with its exact range, and the code is no
    payee. -/
theorem pinned_payee_range_counterexample :
    let t : Transaction := { tx 1 [] with code := [49, 50], description := [83, 104, 111, 112] }
    let lns : List HL.Text.Txt := ["2024-01-15 (12) Shop".toList, []]
    findElement [] [t] ⟨0, 16⟩ = none ∧ findElement [] [t] ⟨0, 18⟩ = none ∧
    (findElement [] [t] ⟨0, 12⟩).map Element.rng = some ⟨⟨1, 12, 0⟩, ⟨1, 16, 0⟩⟩ ∧
    (findElement lns [t] ⟨0, 16⟩).map Element.rng = some ⟨⟨1, 17, 0⟩, ⟨1, 21, 0⟩⟩ ∧
    (findElement lns [t] ⟨0, 18⟩).map Element.rng = some ⟨⟨1, 17, 0⟩, ⟨1, 21, 0⟩⟩ ∧
    (findElement lns [t] ⟨0, 20⟩).map Element.rng = some ⟨⟨1, 17, 0⟩, ⟨1, 21, 0⟩⟩ ∧
    findElement lns [t] ⟨0, 12⟩ = none ∧ findElement lns [t] ⟨0, 15⟩ = none := by
  decide +kernel

open Cex in
/-- Tags written on an indented comment line of a transaction never reach the syntax tree
    (parser.parsePosting parses the comment and discards it): for the tree the real parser
    returns for `2024-01-15 Shop⏎  ; trip:x⏎  x:y  5 USD⏎` the tag count is 0, the journal
    has 1 use. -/
theorem txline_tags_dropped_counterexample :
    let parsed : Transaction := { tx 1 [posting xy 3 (some 5)] with description := [83, 104, 111, 112] }
    let written : GTx := ⟨[83, 104, 111, 112], [([116, 114, 105, 112], [120])], [⟨xy, some ⟨5, usd⟩, none, []⟩]⟩
    countTag [116, 114, 105, 112] [parsed] = 0 ∧ tagCount [written] [116, 114, 105, 112] = 1 := by
  decide +kernel

end HL.Props.C20Hover

/-! ### Audit aliases

  `./check C20` audits the theorems whose names start with `HL.Props.C20.`; the statements are
  the ones above. -/
namespace HL.Props.C20
theorem hover_account_sum_exact : type_of% @HL.Props.C20Hover.account_sum_exact := @HL.Props.C20Hover.account_sum_exact
theorem hover_account_lines_exact : type_of% @HL.Props.C20Hover.account_lines_exact := @HL.Props.C20Hover.account_lines_exact
theorem hover_counts_exact : type_of% @HL.Props.C20Hover.counts_exact := @HL.Props.C20Hover.counts_exact
theorem hover_payee_count_exact : type_of% @HL.Props.C20Hover.payee_count_exact := @HL.Props.C20Hover.payee_count_exact
theorem hover_all_transactions_once : type_of% @HL.Props.C20Hover.all_transactions_once := @HL.Props.C20Hover.all_transactions_once
theorem hover_spec_perm : type_of% @HL.Props.C20Hover.spec_perm := @HL.Props.C20Hover.spec_perm
theorem hover_aggregates_exact_partial : type_of% @HL.Props.C20Hover.hover_aggregates_exact_partial := @HL.Props.C20Hover.hover_aggregates_exact_partial
theorem hover_uses_whole_tree : type_of% @HL.Props.C20Hover.hover_uses_whole_tree := @HL.Props.C20Hover.hover_uses_whole_tree
theorem hover_without_workspace : type_of% @HL.Props.C20Hover.hover_without_workspace := @HL.Props.C20Hover.hover_without_workspace
theorem hover_current_file_counted_partial : type_of% @HL.Props.C20Hover.current_file_counted_partial := @HL.Props.C20Hover.current_file_counted_partial
theorem hover_payee_found : type_of% @HL.Props.C20Hover.payee_found := @HL.Props.C20Hover.payee_found
theorem hover_shown_decimal_exact : type_of% @HL.Props.C20Hover.shown_decimal_exact := @HL.Props.C20Hover.shown_decimal_exact
theorem hover_account_hover_judged : type_of% @HL.Props.C20Hover.account_hover_judged := @HL.Props.C20Hover.account_hover_judged
theorem hover_count_hovers_judged : type_of% @HL.Props.C20Hover.count_hovers_judged := @HL.Props.C20Hover.count_hovers_judged
theorem hover_amount_hover_judged : type_of% @HL.Props.C20Hover.amount_hover_judged := @HL.Props.C20Hover.amount_hover_judged
theorem hover_amount_exact : type_of% @HL.Props.C20Hover.amount_hover_exact := @HL.Props.C20Hover.amount_hover_exact
theorem hover_dup_include_doubled_counterexample : type_of% @HL.Props.C20Hover.dup_include_doubled_counterexample := @HL.Props.C20Hover.dup_include_doubled_counterexample
theorem hover_truncated_tree_counterexample : type_of% @HL.Props.C20Hover.truncated_tree_counterexample := @HL.Props.C20Hover.truncated_tree_counterexample
theorem hover_tree_choice : type_of% @HL.Props.C20Hover.hover_tree_choice := @HL.Props.C20Hover.hover_tree_choice
theorem hover_current_file_in_scope : type_of% @HL.Props.C20Hover.current_file_in_scope := @HL.Props.C20Hover.current_file_in_scope
theorem hover_current_file_counted : type_of% @HL.Props.C20Hover.current_file_counted := @HL.Props.C20Hover.current_file_counted
theorem pinned_hover_orphan_file_counterexample : type_of% @HL.Props.C20Hover.pinned_orphan_file_counterexample := @HL.Props.C20Hover.pinned_orphan_file_counterexample
theorem hover_unsaved_include_not_seen_counterexample : type_of% @HL.Props.C20Hover.unsaved_include_not_seen_counterexample := @HL.Props.C20Hover.unsaved_include_not_seen_counterexample
theorem pinned_hover_payee_range_counterexample : type_of% @HL.Props.C20Hover.pinned_payee_range_counterexample := @HL.Props.C20Hover.pinned_payee_range_counterexample
theorem hover_txline_tags_dropped_counterexample : type_of% @HL.Props.C20Hover.txline_tags_dropped_counterexample := @HL.Props.C20Hover.txline_tags_dropped_counterexample
end HL.Props.C20
