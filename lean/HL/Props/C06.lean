/-
  C06 — Every request is total and time-bounded on arbitrary content: the lexer sentence.
  "Tokenisation always makes progress: tokens cover the input left to right without overlap,
   stay inside it and end with end-of-input."

  All theorems quantify over EVERY byte string (invalid UTF-8, NUL, unterminated constructs …),
  EVERY lexer state and EVERY classifier `C : Classes` (unicode.IsLetter/IsUpper/IsDigit are
  parameters of the model).  Helper lemmas: the HL/Lemmas/Lex*.lean files imported below.
  The model `HL.Lex` is tied to internal/parser/lexer.go by the op `lex.tokens`, and its byte
  classes by the expectations of Generated/Expect/PureLexer.lean, imported to be checked with
  this file.
-/
import HL.Lemmas.Lexer
import HL.Lemmas.LexLocal
import HL.Lemmas.LexCover
import HL.Lemmas.LexMisc
import HL.Lemmas.LexCache
import HL.Lemmas.LexLexeme
import HL.Lemmas.LexTextExact
import HL.Generated.Expect.PureLexer
namespace HL.Props.C06
open HL HL.Lex HL.Spec.LexSpec

/-- `advance` consumes at least one byte whenever input remains (the width of a decoded rune,
    valid or not, is ≥ 1). -/
theorem advance_rem_lt (z : Z) (h : z.after ≠ []) : (advance z).after.length < z.after.length :=
  HL.Lex.advance_rem_lt z h

/-- Progress: while input remains, `Next` consumes at least one byte — there is no branch of the
    lexer that returns without moving. -/
theorem next_progress (C : Classes) (z : Z) (h : z.after ≠ []) :
    (next C z).2.after.length < z.after.length :=
  (next_res C z).prog h

/-- An EOF token is produced only when nothing is left, and it is empty. -/
theorem next_eof_only_at_end (C : Classes) (z : Z) (h : (next C z).1.ty = .eof) :
    (next C z).2.after = [] ∧ (next C z).1.pos = (next C z).1.stop ∧
      (next C z).1.pos.off = z.input.length := by
  have hr := next_res C z
  obtain ⟨h1, h2⟩ := hr.eof h
  refine ⟨h1, h2, ?_⟩
  have ht := hr.adv.total
  have hs := hr.stop_eof h
  rw [h2, hs]
  simp only [Z.input, List.length_append, List.length_reverse]
  rw [h1] at ht
  simp at ht
  omega

/-- Inside: the token lies between the old and the new position: its `End` lies at or before the
    new position — *at* it for every token but an account token (behind whose name `scanAccount`
    steps over a single blank) and a text token (behind whose value `scanText` steps over white
    space; see `token_end_is_lexeme_end`) —, the new position is inside the input, and the input
    itself is untouched. -/
theorem next_inside (C : Classes) (z : Z) :
    z.off ≤ (next C z).1.pos.off ∧ (next C z).1.pos.off ≤ (next C z).1.stop.off ∧
      (next C z).1.stop.off ≤ (next C z).2.off ∧
      ((next C z).1.ty ≠ .account → (next C z).1.ty ≠ .text → (next C z).1.stop.off = (next C z).2.off) ∧
      (next C z).2.off ≤ z.input.length ∧ (next C z).2.input = z.input := by
  have hr := next_res C z
  refine ⟨hr.pos_ge, hr.pos_le, hr.stop_le, fun h1 h2 => by rw [next_stop C z h1 h2]; rfl, ?_, hr.adv.input⟩
  have ht := hr.adv.total
  simp only [Z.off, Z.input, List.length_append, List.length_reverse]
  omega

/-- Every token but the EOF is non-empty: it covers at least one byte. -/
theorem next_nonempty (C : Classes) (z : Z) (h : (next C z).1.ty ≠ .eof) :
    (next C z).1.pos.off < (next C z).1.stop.off :=
  (next_res C z).nonempty h

/-- Monotone: the next token never starts before the previous one ended. -/
theorem next_monotone (C : Classes) (z : Z) :
    (next C z).1.stop.off ≤ (next C (next C z).2).1.pos.off := by
  have h1 := (next_res C z).stop_le
  have h2 := (next_res C (next C z).2).pos_ge
  omega

/-- The fuel `|input| + 2` of `lexAll` is never exhausted: more fuel gives the same stream
    (so the stream really is "call `Next` until EOF"). -/
theorem lexAll_fuel_suffices (C : Classes) (input : Bytes) (k : Nat) :
    lexF C (input.length + 2 + k) (Z.init input) = lexAll C input :=
  lexF_fuel C _ _ _ (by simp [Z.init]; omega) (by simp [Z.init])

/-- The executable oracle that judges the implementation's streams holds for the model's
    stream of every input: tokens run left to right, do not overlap, stay inside the input,
    each but the EOF is non-empty, and the stream ends with one EOF at `|input|`. -/
theorem lexAll_ordered (C : Classes) (input : Bytes) :
    ordered input.length 0 (lexAll C input) = true := by
  have := lexF_ordered C (input.length + 2) (Z.init input) (by simp [Z.init]) 0 (Nat.zero_le _)
  simpa [Z.init, lexAll] using this

/-- The stream ends with end-of-input: exactly one EOF token, the last one, at offset `|input|`;
    every other token is non-EOF and lies inside the input. -/
theorem lex_ends_with_eof (C : Classes) (input : Bytes) :
    ∃ ts e, lexAll C input = ts ++ [e] ∧ e.ty = .eof ∧ e.pos.off = input.length ∧
      e.stop.off = input.length ∧
      ∀ t ∈ ts, t.ty ≠ .eof ∧ t.pos.off < t.stop.off ∧ t.stop.off ≤ input.length :=
  ordered_last _ _ _ (lexAll_ordered C input)

/-- Without overlap, left to right, with progress: for any two tokens of the stream, the later
    one starts at or behind the end of the earlier one and (unless it is the EOF) ends strictly
    behind it. -/
theorem lex_no_overlap (C : Classes) (input : Bytes) :
    (lexAll C input).Pairwise
      (fun a b => a.stop.off ≤ b.pos.off ∧ (b.ty ≠ .eof → a.stop.off < b.stop.off)) :=
  (ordered_pairwise _ _ _ (lexAll_ordered C input)).2

/-- **Cover**, for every input, no guard: every byte that no token extent `[Pos.off, End.off)`
    contains is a blank (0x20) or a tab (0x09) — exactly the bytes `skipSpaces` steps over between
    tokens and before the EOF, and the single blank `scanAccount` steps over behind an account
    name — or, directly behind a Text token, part of a run of white-space runes (a text token
    ends with its trimmed value: what `strings.TrimSpace` cut off at the end lies behind it). -/
theorem tokens_cover (C : Classes) (input : Bytes) : covered input (lexAll C input) = true := by
  rw [covered, lexAll_eq_lexS]
  have := lexS_gapsOk C (Z.init input) none [] [] (by simp [Z.init]) (gapOk_nil none)
  simpa [Z.init, Z.input] using this

/-- **Tiling**: the blank/tab runs and the token extents, concatenated in stream order, are the
    input — every byte lies in exactly one gap or in exactly one token. -/
theorem tokens_tile (C : Classes) (input : Bytes) : pieces input 0 (lexAll C input) = input := by
  have := ordered_pieces input 0 (lexAll C input) (lexAll_ordered C input)
  simpa using this

/-- the one-character tokens `( ) [ ] |` cover their character (regression example for the
    repaired finding `punct-empty-extent`) -/
example : (lexAll Classes.ascii (asc "a | b")).map (fun t => (t.ty, t.pos.off, t.stop.off)) =
    [(.text, 0, 1), (.pipe, 2, 3), (.text, 4, 5), (.eof, 5, 5)] := by decide +kernel

/-- the bytes of the input between a token's `Pos` and its `End` -/
def extent (input : Bytes) (t : Token) : Bytes := (input.drop t.pos.off).take (t.stop.off - t.pos.off)

theorem extOf_eq_extent (C : Classes) (z : Z) : extOf (next C z) = extent z.input (next C z).1 := by
  have hr := next_res C z
  have h1 := hr.pos_le
  have h2 := hr.stop_le
  rw [← hr.adv.input]
  generalize next C z = r at *
  simp only [extOf, extent, Z.input]
  have hd : (r.2.before.reverse ++ r.2.after).drop r.1.pos.off =
      (r.2.before.take (r.2.before.length - r.1.pos.off)).reverse ++ r.2.after := by
    rw [List.drop_append_of_le_length (by simp; omega), List.drop_reverse]
  rw [hd, List.take_append_of_le_length (by simp; omega), List.take_reverse, List.length_take,
    Nat.min_eq_left (by omega), List.drop_take]
  congr 2
  · omega
  · congr 1; omega

/-- **token_end_is_lexeme_end.**  For every byte string, every classifier and every token the
    lexer returns, the bytes between `Pos.offset` and `End.offset` are the token's lexeme and
    nothing else (`HL.Lex.Lexeme`, by token type): the value itself for an account — no blank
    behind the name —, a date, a number, an indent, a directive word, a status mark, a sign, the
    one- and two-character tokens, an unquoted commodity and the end of input; `;` and the
    value for a comment; the value in its parentheses for a code and in its double quotes for a
    quoted commodity (the closing delimiter may be missing at the end of the line); LF or CR LF
    for a Newline token; and for a text token what `strings.TrimRightFunc(·, unicode.IsSpace)`
    keeps of the scanned text — it ends with a rune that is not white space, the run of white
    space behind it lies outside the token, and the value is `strings.TrimSpace` of the two
    (`HL.Lex.TextLexeme`; a text of white space only keeps what was scanned, so that no token but
    the EOF is empty).  A text token that does not start with white space covers exactly its
    value (behind `skipSpaces` only white space other than blank and tab can stand at the start of
    a text: there the extent keeps it in front of the value, the token's Pos being where the scan
    started). -/
theorem token_end_is_lexeme_end (C : Classes) (input : Bytes) :
    ∀ t ∈ lexAll C input,
      Lexeme t.ty t.val (extent input t) ∧
      (t.ty = .text → isSpaceRune (Utf8.decodeRune (input.drop t.pos.off)).1 = false → extent input t = t.val) := by
  rw [lexAll_eq_lexS]
  refine lexS_forall_input C input _ ?_ (Z.init input) (by simp [Z.init, Z.input])
  intro z hz
  have h1 := next_lexeme C z
  have h2 := next_textExact C z
  unfold LexemeOk at h1
  unfold TextExact at h2
  rw [extOf_eq_extent C z, hz] at h1 h2
  rw [(next_res C z).adv.input, hz] at h2
  exact ⟨h1, h2⟩

/-- An account token covers exactly the account name: the single blank `scanAccount` steps over
    behind it (in front of `;` `=` `@` `)` `]` or the end of the line) is not part of the token
    (`HL.Props.C08.pinned_account_trailing_blank_counterexample` keeps the old token). -/
theorem account_token_is_its_name (C : Classes) (input : Bytes) :
    ∀ t ∈ lexAll C input, t.ty = .account → extent input t = t.val := by
  intro t ht hty
  have := (token_end_is_lexeme_end C input t ht).1
  rw [hty] at this
  exact this

/-- A text token that does not start with white space — e.g. a commodity written in lower case
    or in non-ASCII letters, a description, a payee — covers exactly its value: the blanks
    between it and a comment lie behind its End. -/
theorem text_token_is_its_value (C : Classes) (input : Bytes) :
    ∀ t ∈ lexAll C input, t.ty = .text →
      isSpaceRune (Utf8.decodeRune (input.drop t.pos.off)).1 = false → extent input t = t.val :=
  fun t ht => (token_end_is_lexeme_end C input t ht).2

/-- `  a:b ;c` / `  c:d  1 руб \t; c`: the account token `a:b` ends before the blank (offsets 2–5),
    the text token `руб` — six bytes, three runes — before the blank and the tab (18–24, End
    column 13); the comments start at 6 and 26. -/
example : (lexAll Classes.go [0x20, 0x20, 0x61, 0x3A, 0x62, 0x20, 0x3B, 0x63, 0x0A, 0x20, 0x20, 0x63, 0x3A, 0x64,
      0x20, 0x20, 0x31, 0x20, 0xD1, 0x80, 0xD1, 0x83, 0xD0, 0xB1, 0x20, 0x09, 0x3B, 0x20, 0x63]).map
      (fun t => (t.ty, t.pos.off, t.stop.off, t.stop.col)) =
    [(.indent, 0, 2, 3), (.account, 2, 5, 6), (.comment, 6, 8, 9), (.newline, 8, 9, 1), (.indent, 9, 11, 3),
     (.account, 11, 14, 6), (.number, 16, 17, 9), (.text, 18, 24, 13), (.comment, 26, 29, 18),
     (.eof, 29, 29, 18)] := by decide +kernel

/-- Every LF byte becomes exactly one Newline token (the token ends with that LF; in order), and
    there is no other Newline token. -/
theorem newlines_are_the_lf_bytes (C : Classes) (input : Bytes) :
    newlineOffsets (lexAll C input) = lfOffsets input := by
  rw [lexAll_eq_lexS]
  exact lexS_newlines C (Z.init input)

/-- A Newline token is one line end: the LF alone, or the CR directly in front of it and the LF
    (`"\r\n"` is ONE token that starts at the CR); it ends at column 1 of the next line. -/
theorem newline_is_one_line_end (C : Classes) (input : Bytes) :
    ∀ t ∈ lexAll C input, t.ty = .newline → newlineShape input t = true := by
  rw [lexAll_eq_lexS]
  exact lexS_forall_input C input (fun t => t.ty = .newline → newlineShape input t = true)
    (fun z hz => by rw [← hz]; exact next_newline_shape C z) (Z.init input) (by simp [Z.init, Z.input])

/-- A token's line is 1 + the number of LF bytes in front of it. -/
theorem token_lines (C : Classes) (input : Bytes) : linesOk input (lexAll C input) = true := by
  rw [linesOk, List.all_eq_true, lexAll_eq_lexS]
  intro t ht
  have := (lexS_lines C 1 (Z.init input) (by simp [Z.init, countLF]) t ht).1
  simp only [Z.init, Z.input, List.reverse_nil, List.nil_append, countLF] at this
  simp [this]

/-- The executable oracle that judges the implementation's streams in `lex.tokens` accepts the
    model's stream of ANY input. -/
theorem oracle_on_model (C : Classes) (input : Bytes) : (judge input (lexAll C input)).ok = true := by
  have h1 := lexAll_ordered C input
  have h2 := newlines_are_the_lf_bytes C input
  have h3 := token_lines C input
  have h4 := tokens_cover C input
  have h5 : (lexAll C input).all (fun t => t.ty != .newline || newlineShape input t) = true := by
    rw [List.all_eq_true]
    intro t ht
    have := newline_is_one_line_end C input t ht
    by_cases hty : t.ty = .newline
    · simp [this hty]
    · simp [hty]
  unfold judge
  simp only [h1, h2, h3, h4, h5, Bool.not_true, Bool.false_eq_true, if_false, bne_self_eq_false]

/-- `Next` never reads behind the next line feed: with a line feed still ahead, appending any
    bytes `x` to the unread input changes nothing but the unread input.  Checked for every
    scan function and every look-ahead predicate (`looksLikeDate`'s index arithmetic,
    `looksLikeAccount`, `looksLikeVirtualAccount`, `nextIsLetterCommodity`,
    `nextIsCurrencySymbol`, the blank-group and exponent look-ahead of `scanNumber`, the
    double-blank test of `scanAccount`, multi-byte decoding). -/
theorem next_reads_no_further_than_lf (C : Classes) (z : Z) (x : Bytes) (h : (0x0A : UInt8) ∈ z.after) :
    next C (z.ext x) = ((next C z).1, (next C z).2.ext x) :=
  next_ext x C h

/-- The only look-behind, `followsAmountNumber`, walks back over blanks only: behind a line
    feed the lexer behaves as on a fresh document, with lines and offsets shifted. -/
theorem next_looks_behind_no_further_than_lf (C : Classes) (k : Nat) (pre : Bytes) (z : Z) :
    next C (z.shift k (0x0A :: pre)) =
      (shiftTok k (pre.length + 1) (next C z).1, (next C z).2.shift k (0x0A :: pre)) := by
  rw [next_shift]; simp [shiftR]

/-- One call of `Next` consumes blanks and then either bytes without a line feed (staying on the
    line), or exactly one line feed (with the carriage return in front of it, if any: `sp` is
    blanks, possibly followed by that CR), for which it returns the Newline token and moves to
    column 1 of the next line, at line start. -/
theorem next_consumes_lf_only_as_newline (C : Classes) (z : Z) :
    ∃ cons, z.after = cons ++ (next C z).2.after ∧ (next C z).2.before = cons.reverse ++ z.before ∧
      (((0x0A : UInt8) ∉ cons ∧ (next C z).2.line = z.line ∧ (next C z).1.ty ≠ .newline) ∨
       (∃ sp, cons = sp ++ [0x0A] ∧ (0x0A : UInt8) ∉ sp ∧ (next C z).2.line = z.line + 1 ∧
          (next C z).2.col = 1 ∧ (next C z).2.atStart = true ∧ (next C z).1.ty = .newline)) :=
  (next_step C z).coarse

/-- **Line-locality of the whole stream**, for all byte strings `a`, `b`, no guard:
    `lex (a ++ "\n" ++ b) = lex (a ++ "\n")` without its EOF, followed by `lex b` with lines
    shifted by (number of LF in `a`) + 1 and offsets by `|a| + 1`. -/
theorem lex_line_local (C : Classes) (a b : Bytes) :
    lexAll C (a ++ 0x0A :: b) =
      (lexAll C (a ++ [0x0A])).dropLast ++
        (lexAll C b).map (shiftTok (countLF a + 1) (a.length + 1)) :=
  lexAll_line_local C a b

/-- `utf8.DecodeRuneInString` on any non-empty byte string: the width is between 1 and 4 and
    never exceeds what is there (so `l.pos += size` stays inside the input). -/
theorem decodeRune_width (b : UInt8) (t : Bytes) :
    1 ≤ (Utf8.decodeRune (b :: t)).2 ∧ (Utf8.decodeRune (b :: t)).2 ≤ 4 ∧
      (Utf8.decodeRune (b :: t)).2 ≤ (b :: t).length :=
  ⟨Utf8.decodeRune_width_pos b t, Utf8.decodeRune_width_le4 _, Utf8.decodeRune_width_le_length b t⟩

/-- `DecodeRuneInString(string(c) + r) = (c, RuneLen(c))` for every Unicode scalar value `c`. -/
theorem decodeRune_encodeRune (c : Nat) (r : Bytes) (hv : Utf8.validRune c) :
    Utf8.decodeRune (Utf8.encodeRune c ++ r) = (c, (Utf8.encodeRune c).length) ∧
      Utf8.runeLen c = some (Utf8.encodeRune c).length :=
  Utf8.decodeRune_encodeRune c r hv

/-- The only unguarded index arithmetic of the lexer, `looksLikeDate` (`l.input[l.pos+i]`,
    i ≤ 7, behind the guard `l.pos+8 > len`): the transcription with checked reads never hits an
    index out of range — no panic, for every input. -/
theorem looksLikeDate_no_panic (a : Bytes) : looksLikeDateChk a = some (looksLikeDate a) :=
  looksLikeDateChk_eq a

/-- Every inner loop of the lexer terminates within its fuel (= bytes left): with any larger
    fuel the result is the same.  (`lexAll_fuel_suffices` is the same statement for `Next`.) -/
theorem scan_loops_fuel_suffice (n : Nat) :
    (∀ p z, z.after.length ≤ n → advWhileF p n z = advWhile p z) ∧
    (∀ p z, z.after.length ≤ n → advLineF p n z = advLine p z) ∧
    (∀ z l, z.after.length ≤ n → scanAccountF n z l = scanAccountF z.after.length z l) ∧
    (∀ z hd, z.after.length ≤ n → scanNumberF n z hd = scanNumberF z.after.length z hd) ∧
    (∀ a hc, a.length ≤ n → looksLikeAccountF n a hc = looksLikeAccountF a.length a hc) ∧
    (∀ s, s.length ≤ n → trimLeftFuncF n s = trimLeftFuncF s.length s) ∧
    (∀ s, s.length ≤ n → lastIndexNotSpaceF n s = lastIndexNotSpaceF s.length s) ∧
    (∀ s, s.length ≤ n → Utf8.runesF n s = Utf8.runes s) :=
  ⟨fun p z h => (advWhile_eq_fuel p z n h).symm,
   fun p z h => (advLine_eq_fuel p z n h).symm,
   fun z l h => scanAccountF_fuel _ _ z l h (Nat.le_refl _),
   fun z hd h => scanNumberF_fuel _ _ z hd h (Nat.le_refl _),
   fun a hc h => looksLikeAccountF_fuel _ _ a hc h (Nat.le_refl _),
   fun s h => trimLeftFuncF_fuel _ _ s h (Nat.le_refl _),
   fun s h => lastIndexNotSpaceF_fuel _ _ s h (Nat.le_refl _),
   fun s h => runesF_fuel _ _ s h (Nat.le_refl _)⟩

/-- Soundness of the cache of `(*Lexer).looksLikeAccount` (`noColonFrom`/`noColonUntil`): if a
    scan from `a` walked over `lookStop a` bytes and found no colon, then from every rune
    boundary `j` inside that stretch (`OnChain`; that the lexer stands at rune boundaries only is
    not part of the theorem) the scan finds no colon either — answering `false` from the cache is what the uncached
    function would have answered. -/
theorem looksLikeAccount_cache_sound (a : Bytes) (h : looksLikeAccount a = false) (j : Nat)
    (hc : OnChain a j) (hj : j < lookStop a) : looksLikeAccount (a.drop j) = false :=
  HL.Lex.looksLikeAccount_cache_sound a h j hc hj

/-- Non-vacuity / sanity: a concrete stream (date, text, pipe, text, newline, EOF). -/
example : (lexAll Classes.ascii (asc "2024-01-15 a | b\n")).map (·.ty) =
    [.date, .text, .pipe, .text, .newline, .eof] := by decide +kernel

end HL.Props.C06
