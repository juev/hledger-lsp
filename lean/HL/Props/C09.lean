/-
  C09 — References and rename hit exactly the symbol's occurrences, in the right files.
  The lemmas about the searches and about `findDefinitionTarget` are in HL/Lemmas/Refs.lean.

  Model: HL/Model/Refs.lean (references.go, rename.go, definition.go as repaired by
  repo_patches/fix-references-rename.diff and fix-utf16-positions.diff; which resolved journal a
  request reads as repaired by fix-orphan-journal-own-tree.diff) and HL/Model/WsDocs.lean (how
  didOpen / didChange / didSave / didClose drive the workspace, as repaired by
  fix-didopen-workspace.diff and fix-didclose-workspace.diff).  Spec: HL/Spec/Occurrences.lean.

  Positions.  The trees' columns count runes; the server converts them to UTF-16 characters with
  the lines of each file's text (`textsOf ws`: what `fileMappers` hands out) and the cursor of a
  request to a rune column.  `faithful f.lns f.tree f.spans` compares the CONVERTED node ranges
  with the spans of the text, so a character outside the BMP before or inside a lexeme is no
  longer a reason for a tree to be unfaithful (`pinned_utf16_columns_counterexample`).
-/
import HL.Lemmas.Refs
import HL.Lemmas.WsDocs
import HL.Model.Pipeline
import HL.Lemmas.PayeeRange
namespace HL.Props.C09
open HL HL.Ast HL.Refs HL.Spec.Occ HL.Lemmas.Refs

/-- For every workspace — any number of files, pairwise different paths — whose
    syntax trees are faithful to the texts, every symbol, every requesting document (`cur`, its
    tree is not even read once a resolved journal exists), with or without declarations:
    find-references returns exactly the occurrences of the symbol in the root and in every member
    file, each attributed to the file that contains it. -/
theorem refs_exact (ws : Workspace) (hwf : ws.WF) (hf : ws.faithful) (kind : Kind) (name : Bytes)
    (hne : name ≠ []) (incl : Bool) (cur : Option Journal) (order : List Path) (l : Loc) :
    l ∈ findReferences (textsOf ws) kind name (some (resolvedOf ws order)) ws.root.path cur incl ↔
      l ∈ occurrences ws.spanFiles kind name incl := by
  obtain ⟨hroot, hnd⟩ := hwf
  have hn : (ws.root.path :: (resolvedOf ws order).files.map (·.1)).Nodup := by
    simpa [resolvedOf, Workspace.files, List.map_map, Function.comp_def] using hnd
  obtain ⟨hk, hm⟩ := journalsWithPaths_spec (resolvedOf ws order) ws.root.path ws.root.tree cur rfl hroot hn
  rw [findReferences_eq, mem_sortAndDedup, mem_collect _ hk]
  simp only [occurrences, Workspace.spanFiles, List.mem_flatMap, List.mem_map, List.mem_filter]
  constructor
  · rintro ⟨p, j, hpj, hl0⟩
    obtain ⟨s, hs, hsym, hl⟩ := (mem_locsOf (textsOf ws) kind name hne incl p j l).mp hl0
    have hfile : ∃ f ∈ ws.files, f.path = p ∧ f.tree = j := by
      rcases (hm (p, j)).mp hpj with h | h
      · exact ⟨ws.root, by simp [Workspace.files], by cases h; exact ⟨rfl, rfl⟩⟩
      · simp only [resolvedOf, List.mem_map] at h
        obtain ⟨f, hfm, he⟩ := h
        cases he
        exact ⟨f, by simp [Workspace.files, hfm], rfl, rfl⟩
    obtain ⟨f, hfm, rfl, rfl⟩ := hfile
    rw [textsOf_mem ws hnd f hfm] at hs
    exact ⟨(f.path, f.spans), ⟨f, hfm, rfl⟩, s, ⟨((hf f hfm).2 s).mp hs, hsym⟩, hl.symm⟩
  · rintro ⟨_, ⟨f, hfm, rfl⟩, s, ⟨hs, hsym⟩, hl⟩
    refine ⟨f.path, f.tree, ?_, (mem_locsOf (textsOf ws) kind name hne incl f.path f.tree l).mpr
      ⟨s, by rw [textsOf_mem ws hnd f hfm]; exact ((hf f hfm).2 s).mpr hs, hsym, hl.symm⟩⟩
    apply (hm _).mpr
    simp only [Workspace.files, List.mem_cons] at hfm
    rcases hfm with rfl | h
    · exact Or.inl rfl
    · exact Or.inr (by simp only [resolvedOf, List.mem_map]; exact ⟨f, h, rfl⟩)

/-- On a document whose tree is faithful to its text, for every cursor that
    is a position of the text (UTF-16 units, as the client sends it): the symbol
    `findDefinitionTarget` determines is the span the cursor is on (start and end included) —
    kind, name and exact lexeme range — and there is none exactly when the cursor is on no
    occurrence. -/
theorem target_exact (lns : Lines) (j : Journal) (spans : List Span) (hf : faithful lns j spans)
    (hsep : separated spans) (pos : LPos) (hpos : cursorOK lns pos) :
    (findDefinitionTarget lns j pos).map (fun t => (t.kind, t.name, t.range)) =
      (spanAt spans pos).map (fun s => (s.kind, s.name, s.range)) := by
  cases ht : findDefinitionTarget lns j pos with
  | some t =>
    obtain ⟨n, hn, hr, rfl⟩ := target_sound j (runePos lns pos) t ht
    have hsane := hf.1 n hn
    have hmem : n.toSpan lns ∈ spans := (hf.2 _).mp (List.mem_map.mpr ⟨n, hn, rfl⟩)
    have hhas : (n.toSpan lns).has pos = true := by rw [← positionInRange_eq_has n hsane pos hpos]; exact hr
    cases hs : spanAt spans pos with
    | none =>
      have := List.find?_eq_none.mp hs _ hmem
      rw [hhas] at this; exact absurd rfl this
    | some s =>
      have hs1 := List.mem_of_find?_eq_some hs
      have hs2 := List.find?_some hs
      have := hsep s hs1 _ hmem pos hs2 hhas
      subst this
      rfl
  | none =>
    cases hs : spanAt spans pos with
    | none => rfl
    | some s =>
      exfalso
      have hs1 := List.mem_of_find?_eq_some hs
      have hs2 := List.find?_some hs
      obtain ⟨n, hn, rfl⟩ := List.mem_map.mp ((hf.2 s).mpr hs1)
      have hr : positionInRange (runePos lns pos) n.range = true := by
        rw [positionInRange_eq_has n (hf.1 n hn) pos hpos]; exact hs2
      have := target_complete (lns := lns) j (runePos lns pos) n hn hr
      rw [show findDefinitionTargetR lns j (runePos lns pos) = findDefinitionTarget lns j pos from rfl, ht] at this
      cases this

/-- A request as the handlers see it, made from file `cur` of the workspace. -/
def requestFrom (ws : Workspace) (cur : FileT) (order : List Path) (pos : LPos) : Request :=
  ⟨cur.tree, some (resolvedOf ws order), ws.root.path, pos, cur.lns, textsOf ws⟩

/-- What the property demands of a request at `pos` in `cur`: nothing when the cursor is on no
    occurrence, otherwise every occurrence of that symbol in the whole workspace. -/
def expected (ws : Workspace) (cur : FileT) (pos : LPos) (incl : Bool) : List Loc :=
  match spanAt cur.spans pos with
  | none => []
  | some s => occurrences ws.spanFiles s.kind s.name incl

/-- The handler, end to end: from the root or from any included file
    (`cur` is any file; nothing depends on which), at every cursor position. -/
theorem references_exact (ws : Workspace) (hwf : ws.WF) (hf : ws.faithful) (cur : FileT)
    (hcur : cur ∈ ws.files) (hsep : separated cur.spans) (hnames : ∀ s ∈ cur.spans, s.name ≠ [])
    (order : List Path) (pos : LPos) (hpos : cursorOK cur.lns pos) (incl : Bool) (l : Loc) :
    l ∈ references (requestFrom ws cur order pos) incl ↔ l ∈ expected ws cur pos incl := by
  have ht := target_exact cur.lns cur.tree cur.spans (hf cur hcur) hsep pos hpos
  simp only [references, requestFrom, expected]
  cases h1 : findDefinitionTarget cur.lns cur.tree pos with
  | none =>
    cases h2 : spanAt cur.spans pos with
    | none => simp
    | some s => rw [h1, h2] at ht; cases ht
  | some t =>
    cases h2 : spanAt cur.spans pos with
    | none => rw [h1, h2] at ht; cases ht
    | some s =>
      rw [h1, h2] at ht
      simp only [Option.map_some, Option.some.injEq, Prod.mk.injEq] at ht
      obtain ⟨hk, hn, _⟩ := ht
      have hne : s.name ≠ [] := hnames s (List.mem_of_find?_eq_some h2)
      simp only [hk, hn]
      exact refs_exact ws hwf hf s.kind s.name hne incl (some cur.tree) order l

/-- The range offered for renaming is the lexeme under the cursor. -/
theorem prepareRename_exact (ws : Workspace) (hf : ws.faithful) (cur : FileT) (hcur : cur ∈ ws.files)
    (hsep : separated cur.spans) (order : List Path) (pos : LPos) (hpos : cursorOK cur.lns pos) :
    prepareRename (requestFrom ws cur order pos) = (spanAt cur.spans pos).map (·.range) := by
  have ht := target_exact cur.lns cur.tree cur.spans (hf cur hcur) hsep pos hpos
  simp only [prepareRename, requestFrom]
  cases h1 : findDefinitionTarget cur.lns cur.tree pos <;> cases h2 : spanAt cur.spans pos <;>
    rw [h1, h2] at ht <;> simp at ht ⊢
  exact ht.2.2

/-- From the root journal or a member file the request reads the workspace's journal, labelled
    with the root's path; from any other journal, and without a workspace, the journal resolved
    for the document itself, labelled with the document's path. -/
theorem resolved_choice (r : Resolved) (root : Path) (own : Option Resolved) (path : Path) :
    (wsContains r root path = true →
      resolvedWithPrimaryPath (some (r, root)) own path = (some r, root)) ∧
    (wsContains r root path = false →
      resolvedWithPrimaryPath (some (r, root)) own path = (own, path)) ∧
    resolvedWithPrimaryPath none own path = (own, path) := by
  refine ⟨fun h => ?_, fun h => ?_, rfl⟩ <;> simp [resolvedWithPrimaryPath, h]

theorem wsContains_member (ws : Workspace) (order : List Path) (cur : FileT) (hcur : cur ∈ ws.files)
    (hp : cur.path ≠ "") : wsContains (resolvedOf ws order) ws.root.path cur.path = true := by
  simp only [wsContains, Bool.and_eq_true, bne_iff_ne, ne_eq, Bool.or_eq_true, beq_iff_eq,
    List.any_eq_true, resolvedOf, List.mem_map]
  refine ⟨hp, ?_⟩
  simp only [Workspace.files, List.mem_cons] at hcur
  rcases hcur with h | h
  · exact Or.inl (by rw [h])
  · exact Or.inr ⟨(cur.path, cur.tree), ⟨cur, h, rfl⟩, rfl⟩

/-- A request as the SERVER builds it for the document `cur`: the workspace's journal and the
    journal stored for the document's URI go through `resolvedWithPrimaryPath`, which also picks
    the texts the positions are converted with: `wsTexts` (`openFileMappers`) with the
    workspace's journal, `ownTexts` (the document's buffer, the included files as on disk) with
    the document's own. -/
def serverRequest (wsView : Option (Resolved × Path)) (wsTexts : Texts) (own : Option Resolved)
    (ownTexts : Texts) (cur : FileT) (pos : LPos) : Request :=
  let c := resolvedWithPrimaryPath wsView own cur.path
  let usedWs := match wsView with
    | some (r, root) => wsContains r root cur.path
    | none => false
  ⟨cur.tree, c.1, c.2, pos, cur.lns, if usedWs then wsTexts else ownTexts⟩

/-- With a workspace, from the root journal or any member file:
    every occurrence in the workspace (whatever is stored for the document's own URI). -/
theorem references_exact_member (ws : Workspace) (hwf : ws.WF) (hf : ws.faithful) (cur : FileT)
    (hcur : cur ∈ ws.files) (hp : cur.path ≠ "") (hsep : separated cur.spans)
    (hnames : ∀ s ∈ cur.spans, s.name ≠ []) (order : List Path) (own : Option Resolved)
    (ownTexts : Texts) (pos : LPos) (hpos : cursorOK cur.lns pos) (incl : Bool) (l : Loc) :
    l ∈ references (serverRequest (some (resolvedOf ws order, ws.root.path)) (textsOf ws) own ownTexts cur pos) incl ↔
      l ∈ expected ws cur pos incl := by
  have hm := wsContains_member ws order cur hcur hp
  have hc := (resolved_choice (resolvedOf ws order) ws.root.path own cur.path).1 hm
  simp only [serverRequest, hc, hm, if_true]
  exact references_exact ws hwf hf cur hcur hsep hnames order pos hpos incl l

/-- From a journal `cur` outside the workspace root's include
    tree (and without a workspace): every occurrence in `cur` and its OWN include tree `wsOwn`
    (root `cur`), once that tree has been resolved for the document — the current file is no
    longer left out. -/
theorem references_exact_own_tree (wsView : Option (Resolved × Path)) (wsTexts : Texts) (wsOwn : Workspace)
    (hout : ∀ r root, wsView = some (r, root) → wsContains r root wsOwn.root.path = false)
    (hwf : wsOwn.WF) (hf : wsOwn.faithful) (hsep : separated wsOwn.root.spans)
    (hnames : ∀ s ∈ wsOwn.root.spans, s.name ≠ []) (order : List Path) (pos : LPos)
    (hpos : cursorOK wsOwn.root.lns pos) (incl : Bool) (l : Loc) :
    l ∈ references (serverRequest wsView wsTexts (some (resolvedOf wsOwn order)) (textsOf wsOwn) wsOwn.root pos) incl ↔
      l ∈ expected wsOwn wsOwn.root pos incl := by
  have hreq : serverRequest wsView wsTexts (some (resolvedOf wsOwn order)) (textsOf wsOwn) wsOwn.root pos =
      requestFrom wsOwn wsOwn.root order pos := by
    cases wsView with
    | none => rfl
    | some v =>
      obtain ⟨r, root⟩ := v
      have h := hout r root rfl
      simp [serverRequest, requestFrom, resolvedWithPrimaryPath, h]
  rw [hreq]
  exact references_exact wsOwn hwf hf wsOwn.root (by simp [Workspace.files]) hsep hnames order pos hpos incl l

open HL.Workspace HL.WsDocs HL.Lemmas.WsDocs HL.Lemmas.Update in
/-- A directory `fs` (at most `MaxIncludeDepth` files),
    `Initialize`, then ANY history of didOpen / didChange / didSave / didClose notifications on
    files of the client's view that keep their include lists (`calm`; opening a file with a text
    that differs from the file on disk and closing one with unsaved edits included): the
    workspace satisfies its invariant with respect to what
    the CLIENT sees (`view`: the buffer of every open document, the file on disk otherwise).
    Hence the member files are those reachable in the client's view, and for every member file
    the tree the resolved journal holds — the one references, rename and hover read — is that
    of the client's current text. -/
theorem workspace_follows_buffers (cfg : Cfg) (fs : FS) (es : List Ev)
    (hok : HL.Spec.Rebuild.fsOk fs = true) (hne : fs ≠ []) (hclean : HL.Lemmas.Init.graphsClean cfg fs)
    (hlim : fs.length ≤ cfg.limit) (hcalm : calm cfg (dstart cfg fs) es) :
    let s := drun {} cfg fs es
    (∀ p c, s.bufs.get p = some c → s.view.get p = some c) ∧
    (∀ p, s.bufs.get p = none → s.view.get p = s.disk.get p) ∧
    (∀ p, (s.w.idx.files.get p).isSome ↔
      (HL.Spec.Rebuild.Reach s.view s.w.root p ∧ (s.view.get p).isSome)) ∧
    (∀ p, (s.w.idx.files.get p).isSome = true → held s.w p = s.view.get p) := by
  intro s
  have hinv : DInv cfg (HL.Lemmas.Init.rootSel fs) s :=
    inv_run cfg _ es _ (inv_start cfg fs hok hne hclean hlim) hcalm
  exact ⟨hinv.opened, hinv.others, hinv.winv.closed, fun p hm => held_eq cfg s.view s.w hinv.winv p hm⟩

namespace ExW
open HL.Index HL.Workspace HL.WsDocs

def shop (n : Nat) : Contrib := { pc := [("Shop", n)] }
/-- main includes b. -/
def fsW : FS := [("main.journal", { incs := ["b.journal"] }), ("b.journal", shop 1)]
/-- b is opened with a text that differs from the file on disk. -/
def esW : List Ev := [.openDoc "b.journal" (shop 2)]

end ExW

open HL.Workspace HL.WsDocs ExW in
/-- server.go before fix-didopen-workspace.diff (`fixOpen := false`): `DidOpen` stored the document without
    telling the workspace; b.journal, opened with a text that differs from the file on disk, is
    held in its disk version, while the client sees the buffer.  The repaired server holds the
    buffer. -/
theorem pinned_didopen_stale_workspace_counterexample :
    (drun { openDoc := false } {} fsW esW).view.get "b.journal" = some (shop 2) ∧
    held (drun { openDoc := false } {} fsW esW).w "b.journal" = some (shop 1) ∧
    held (drun {} {} fsW esW).w "b.journal" = some (shop 2) := by
  decide +kernel

open HL.Workspace HL.WsDocs ExW in
/-- server.go before fix-didclose-workspace.diff (`close := false`): b.journal is opened, changed without saving
    and closed; the client sees the file on disk again, the pinned workspace kept the discarded
    buffer.  The repaired server re-reads the file. -/
theorem pinned_didclose_stale_workspace_counterexample :
    let es : List Ev := [.openDoc "b.journal" (shop 1), .change "b.journal" (shop 2), .close "b.journal"]
    (drun { close := false } {} fsW es).view.get "b.journal" = some (shop 1) ∧
    (drun { close := false } {} fsW es).bufs.get "b.journal" = none ∧
    held (drun { close := false } {} fsW es).w "b.journal" = some (shop 2) ∧
    held (drun {} {} fsW es).w "b.journal" = some (shop 1) := by
  decide +kernel

open HL.Workspace HL.WsDocs HL.Lemmas.WsDocs ExW in
/-- the hypotheses of `workspace_follows_buffers` hold on that history (non-vacuity on the
    shape that used to fail), also when it goes on with a change and a save. -/
example : calm {} (dstart {} fsW)
      (esW ++ [.change "b.journal" (shop 3), .save "b.journal", .change "b.journal" (shop 4), .close "b.journal"]) ∧
    HL.Spec.Rebuild.fsOk fsW = true ∧ HL.Lemmas.Init.graphsClean {} fsW := by
  refine ⟨⟨⟨by decide, by decide, shop 1, by decide, by decide⟩,
    ⟨by decide, by decide, shop 2, by decide, by decide⟩, trivial,
    ⟨by decide, by decide, shop 3, by decide, by decide⟩,
    ⟨by decide, shop 3, shop 4, by decide, by decide, by decide, by decide⟩, trivial⟩, by decide, ?_⟩
  unfold HL.Lemmas.Init.graphsClean; decide

/-- Rename answers with edits exactly at the occurrences of the
    symbol under the cursor (declarations included), every one carrying the new name, each under
    the URI of the file that contains the occurrence; there is no answer exactly when there is
    nothing to rename. -/
theorem rename_edits_exact (ws : Workspace) (hwf : ws.WF) (hf : ws.faithful) (cur : FileT)
    (hcur : cur ∈ ws.files) (hsep : separated cur.spans) (hnames : ∀ s ∈ cur.spans, s.name ≠ [])
    (order : List Path) (pos : LPos) (hpos : cursorOK cur.lns pos) (new : Bytes) :
    match rename (requestFrom ws cur order pos) new with
    | none => expected ws cur pos true = []
    | some ch => ∀ p e, (∃ es, (p, es) ∈ ch ∧ e ∈ es) ↔
        (⟨p, e.range⟩ ∈ expected ws cur pos true ∧ e.newText = new) := by
  have href := references_exact ws hwf hf cur hcur hsep hnames order pos hpos true
  simp only [references, requestFrom] at href
  simp only [rename, requestFrom]
  cases h1 : findDefinitionTarget cur.lns cur.tree pos with
  | none =>
    simp only [h1] at href
    simp only
    apply List.eq_nil_iff_forall_not_mem.mpr
    intro l hl
    exact absurd ((href l).mpr hl) (by simp)
  | some t =>
    simp only [h1] at href
    simp only
    by_cases hempty : (findReferences (textsOf ws) t.kind t.name (some (resolvedOf ws order)) ws.root.path
        (some cur.tree) true).isEmpty = true
    · simp only [hempty, if_true]
      apply List.eq_nil_iff_forall_not_mem.mpr
      intro l hl
      have := (href l).mpr hl
      rw [List.isEmpty_iff.mp hempty] at this
      cases this
    · simp only [hempty]
      intro p e
      rw [mem_changes_foldl]
      simp only [List.not_mem_nil, false_and, exists_false, false_or]
      constructor
      · rintro ⟨l, hl, rfl, rfl⟩
        exact ⟨(href l).mp hl, rfl⟩
      · rintro ⟨hl, hnew⟩
        refine ⟨⟨p, e.range⟩, (href _).mpr hl, rfl, ?_⟩
        cases e
        simp only at hnew
        simp [hnew]

/-- A client applies the edits of one line from the last to the
    first.  When the edits are the occurrences' spans — increasing, not overlapping, inside the
    line — the result is the line with every lexeme replaced by the new name and every gap
    between them, before the first and after the last, unchanged: no other text changes. -/
theorem rename_substitutes {α} (line new : List α) (spans : List (Nat × Nat))
    (h : spansOK line.length 0 spans) :
    applyEditsBackwards line spans new = substSpans line 0 spans new := by
  have := applyEdits_eq_subst line new spans 0 h
  simpa using this

/-! ### Guards: what the theorems above assume, as one decidable predicate

`refs_exact` speaks about `resolvedOf ws` and faithful trees.  What the real server holds can
differ in two ways, each an open finding with a witness below:
the resolved journal is not the workspace's (a stale or missing member tree), or a tree is not
faithful to its text (a range the lexer/parser gives is not the lexeme).  -/

def wfB (ws : Workspace) : Bool :=
  ws.root.path != "" && decide ((ws.files.map (·.path)).Nodup)

/-- The server's snapshot is the workspace: same primary, same member trees. -/
def coherentB (ws : Workspace) (r : Resolved) : Bool :=
  decide (r.primary = some ws.root.tree) &&
  decide (r.files = ws.members.map fun f => (f.path, f.tree))

/-- None of the guards of the known findings fires. -/
def guardsOff (ws : Workspace) (r : Resolved) : Bool :=
  wfB ws && coherentB ws r && ws.files.all fun f => faithfulB f.lns f.tree f.spans

/-- The same statement about whatever resolved journal the server holds,
    under the decidable guard: the snapshot is coherent with the workspace and every tree is
    faithful to its text. -/
theorem refs_exact_partial (ws : Workspace) (r : Resolved) (hg : guardsOff ws r = true)
    (kind : Kind) (name : Bytes) (hne : name ≠ []) (incl : Bool) (cur : Option Journal) (l : Loc) :
    l ∈ findReferences (textsOf ws) kind name (some r) ws.root.path cur incl ↔
      l ∈ occurrences ws.spanFiles kind name incl := by
  simp only [guardsOff, wfB, coherentB, Bool.and_eq_true, bne_iff_ne, ne_eq, decide_eq_true_eq,
    List.all_eq_true] at hg
  obtain ⟨⟨⟨h1, h2⟩, h3, h4⟩, h5⟩ := hg
  have hr : r = resolvedOf ws r.order := by
    cases r
    simp only [resolvedOf] at *
    simp [h3, h4]
  rw [hr]
  exact refs_exact ws ⟨h1, h2⟩ (fun f hfm => faithful_of_faithfulB (lns := f.lns) _ _ (h5 f hfm)) kind name hne incl cur _ l

/-! The example files below are ASCII except `fileNB`; they carry no text (`lns := []`, requests
    made with `noTexts` or `textsOf`, which then hands out `[]`): without a text the conversion
    passes columns on unchanged, which on ASCII lines is what the conversion with the text gives. -/

namespace Ex

def P (l c : Nat) : Pos := ⟨l, c, 0⟩
def R (sl sc el ec : Nat) : Rng := ⟨P sl sc, P el ec⟩
def amt (sym : Bytes) (r : Rng) : Amount := ⟨⟨1, 0⟩, [49], ⟨sym, .right, r⟩, false, Rng.zero⟩
def post (a : Account) (am : Option Amount) (cost : Option Cost := none) : Posting :=
  ⟨.none, a, am, none, cost, [], [], .none, Rng.zero⟩
def txn (dateR : Rng) (desc : Bytes) (ps : List Posting) (code : Bytes := []) : Transaction :=
  ⟨⟨2024, 1, 1, dateR⟩, none, .none, code, desc, [], [], ps, [], [], Rng.zero⟩
def sp (k : Kind) (name : Bytes) (line c0 c1 : Nat) (decl : Bool := false) : Span :=
  ⟨k, name, ⟨⟨line, c0⟩, ⟨line, c1⟩⟩, decl⟩

def ab : Bytes := [97, 58, 98]          -- a:b
def usd : Bytes := [85, 83, 68]         -- USD
def eur : Bytes := [69, 85, 82]         -- EUR
def shop : Bytes := [83, 104, 111, 112] -- Shop

/-- a.journal: `include b.journal` / `account a:b` / `2024-01-01 Shop` / `  a:b  1 USD`. -/
def fileA : FileT :=
  { path := "a.journal",
    tree := { transactions := [txn (R 3 1 3 11) shop [post ⟨ab, R 4 3 4 6⟩ (some (amt usd (R 4 10 4 13)))]],
              directives := [.account ⟨ab, R 2 9 0 0⟩ [] [] [] (R 2 1 3 1)],
              comments := [], includes := [⟨[98], R 1 1 1 18⟩] },
    spans := [sp .account ab 1 8 11 true, sp .payee shop 2 11 15, sp .account ab 3 2 5, sp .commodity usd 3 9 12] }

/-- b.journal: `2024-01-02 Shop` / `  a:b  2 USD @ 3 EUR`. -/
def fileB : FileT :=
  { path := "b.journal",
    tree := { transactions := [txn (R 1 1 1 11) shop
                [post ⟨ab, R 2 3 2 6⟩ (some (amt usd (R 2 10 2 13))) (some ⟨amt eur (R 2 18 2 21), false, Rng.zero⟩)]],
              directives := [], comments := [], includes := [] },
    spans := [sp .payee shop 0 11 15, sp .account ab 1 2 5, sp .commodity usd 1 9 12, sp .commodity eur 1 17 20] }

def ws2 : Workspace := ⟨fileA, [fileB]⟩

/-- `D 1.00 USD` / `2024-01-01 Shop` / `  a:b  1 USD`: the `D` directive's symbol has no
    position in the tree. -/
def fileD : FileT :=
  { path := "a.journal",
    tree := { transactions := [txn (R 2 1 2 11) shop [post ⟨ab, R 3 3 3 6⟩ (some (amt usd (R 3 10 3 13)))]],
              directives := [.defaultCommodity usd [49, 46, 48, 48, 32, 85, 83, 68] (R 1 1 1 11)],
              comments := [], includes := [] },
    spans := [sp .commodity usd 0 7 10, sp .payee shop 1 11 15, sp .account ab 2 2 5, sp .commodity usd 2 9 12] }

def aGrin : Bytes := [97, 58, 0xF0, 0x9F, 0x98, 0x80]   -- a:😀
/-- `2024-01-01 Shop` / `  a:😀  1 USD`: columns count runes, the client counts UTF-16 units;
    the file's text is what the conversion needs. -/
def fileNB : FileT :=
  { path := "a.journal",
    tree := { transactions := [txn (R 1 1 1 11) shop [post ⟨aGrin, R 2 3 2 6⟩ (some (amt usd (R 2 10 2 13)))]],
              directives := [], comments := [], includes := [] },
    spans := [sp .payee shop 0 11 15, sp .account aGrin 1 2 6, sp .commodity usd 1 10 13],
    lns := ["2024-01-01 Shop".toList, "  a:😀  1 USD".toList, []] }

/-- `2024-01-01 (12) Shop` / `  a:b  1`: a code stands between the date and the payee; the
    payee's position is read off the header line of the file's text. -/
def fileCode : FileT :=
  { path := "a.journal",
    tree := { transactions := [txn (R 1 1 1 11) shop [post ⟨ab, R 2 3 2 6⟩ none] [49, 50]],
              directives := [], comments := [], includes := [] },
    spans := [sp .payee shop 0 16 20, sp .account ab 1 2 5],
    lns := ["2024-01-01 (12) Shop".toList, "  a:b  1".toList, []] }

def aB : Bytes := [65, 32, 66]   -- A B
/-- `commodity "A B"` / `2024-01-01 Shop` / `  a:b  1 "A B"`: the parser records the token's End
    for the commodity of the directive (fix-quoted-commodity-directive.diff), as it does for the
    commodity of the posting: both ranges include the quotes. -/
def fileQuoted : FileT :=
  { path := "a.journal",
    tree := { transactions := [txn (R 2 1 2 11) shop [post ⟨ab, R 3 3 3 6⟩ (some (amt aB (R 3 10 3 15)))]],
              directives := [.commodity ⟨aB, .left, R 1 11 1 16⟩ [] [] [] (R 1 1 2 1)],
              comments := [], includes := [] },
    spans := [sp .commodity aB 0 10 15 true, sp .payee shop 1 11 15, sp .account ab 2 2 5, sp .commodity aB 2 9 14] }

/-- The same file with the tree of the parser as pinned: the directive's commodity has no End,
    the server derives a range as long as the symbol; the lexeme has two quotes more. -/
def fileQuotedPinned : FileT :=
  { fileQuoted with
    tree := { fileQuoted.tree with directives := [.commodity ⟨aB, .left, R 1 11 0 0⟩ [] [] [] (R 1 1 2 1)] } }

def grin : Bytes := [0xF0, 0x9F, 0x98, 0x80]
/-- `P 2024-01-01 "😀" 2 USD` / `2024-01-02 Shop` / `  a:😀  1 "😀"`: a priced symbol outside the BMP,
    in the posting after another such character. -/
def filePriceNB : FileT :=
  { path := "a.journal",
    tree := { transactions := [txn (R 2 1 2 11) shop [post ⟨aGrin, R 3 3 3 6⟩ (some (amt grin (R 3 10 3 13)))]],
              directives := [.price ⟨2024, 1, 1, R 1 3 1 13⟩ ⟨grin, .left, R 1 14 1 17⟩
                               (amt usd (R 1 20 1 23)) (R 1 1 1 23)],
              comments := [], includes := [] },
    spans := [sp .commodity grin 0 13 17, sp .commodity usd 0 20 23, sp .payee shop 1 11 15,
              sp .account aGrin 2 2 6, sp .commodity grin 2 10 14],
    lns := ["P 2024-01-01 \"😀\" 2 USD".toList, "2024-01-02 Shop".toList, "  a:😀  1 \"😀\"".toList, []] }

def usdL : Bytes := [117, 115, 100]   -- usd
/-- `2024-01-01 Shop` / `  a:b  1 usd  ; c`: a lower-case commodity is a free-text token; it ends
    with its value (fix-trailing-blank-ranges.diff), the blanks before the `;` lie behind it. -/
def fileText : FileT :=
  { path := "a.journal",
    tree := { transactions := [txn (R 1 1 1 11) shop [post ⟨ab, R 2 3 2 6⟩ (some (amt usdL (R 2 10 2 13)))]],
              directives := [], comments := [], includes := [] },
    spans := [sp .payee shop 0 11 15, sp .account ab 1 2 5, sp .commodity usdL 1 9 12] }

/-- The same file as the parser read it before that repair: the text token ended at the `;`. -/
def fileTextPinned : FileT :=
  { fileText with
    tree := { transactions := [txn (R 1 1 1 11) shop [post ⟨ab, R 2 3 2 6⟩ (some (amt usdL (R 2 10 2 15)))]],
              directives := [], comments := [], includes := [] } }

/-- b.journal as the client holds it after an unsaved edit: a line was inserted on top. -/
def fileB' : FileT :=
  { path := "b.journal",
    tree := { transactions := [txn (R 2 1 2 11) shop
                [post ⟨ab, R 3 3 3 6⟩ (some (amt usd (R 3 10 3 13))) (some ⟨amt eur (R 3 18 3 21), false, Rng.zero⟩)]],
              directives := [], comments := [⟨[32, 120], [], R 1 1 0 0⟩], includes := [] },
    spans := [sp .payee shop 1 11 15, sp .account ab 2 2 5, sp .commodity usd 2 9 12, sp .commodity eur 2 17 20] }

end Ex
open Ex

instance (l : Loc) (xs : List Loc) : Decidable (l ∈ xs) :=
  decidable_of_iff (xs.any fun x => decide (x = l) = true) (by simp)

/-- The resolved journal of a single file. -/
def single (f : FileT) : Resolved := ⟨some f.tree, [], []⟩

/-! #### The defect repaired by fix-references-rename.diff

Before the repair `allJournalsWithPaths` was given the path of the *requesting* document as the
label of the primary journal.  With a workspace root the primary journal is the root journal:
from an included file the root's occurrences were reported under the included file's name and
the included file's own tree was overwritten. -/

theorem pinned_primary_label_counterexample :
    (∃ l, l ∈ findReferences noTexts .account ab (some (resolvedOf ws2 [])) "b.journal" none true ∧
          l ∉ occurrences ws2.spanFiles .account ab true) ∧
    (∃ l, l ∈ occurrences ws2.spanFiles .account ab true ∧
          l ∉ findReferences noTexts .account ab (some (resolvedOf ws2 [])) "b.journal" none true) :=
  ⟨⟨⟨"b.journal", ⟨⟨1, 8⟩, ⟨1, 11⟩⟩⟩, by decide, by decide⟩,
   ⟨⟨"a.journal", ⟨⟨1, 8⟩, ⟨1, 11⟩⟩⟩, by decide, by decide⟩⟩

/-- Known finding `unranged-commodity-site`. -/
theorem unranged_commodity_site_counterexample :
    faithfulB fileD.lns fileD.tree fileD.spans = false ∧ unrangedSites fileD.tree usd = 1 ∧
    ∃ l, l ∈ occurrences [(fileD.path, fileD.spans)] .commodity usd true ∧
         l ∉ findReferences noTexts .commodity usd (some (single fileD)) fileD.path none true :=
  ⟨by decide +kernel, by decide +kernel, ⟨"a.journal", ⟨⟨0, 7⟩, ⟨0, 10⟩⟩⟩, by decide +kernel, by decide +kernel⟩

/-! #### The defect repaired by fix-utf16-positions.diff (finding `utf16-columns`)

The code as pinned copied `column − 1` into the character, which is what the model does for a
file without text (`noTexts`): after `a:😀` the commodity was reported one unit too far left.
With the file's text the tree is faithful and the answer is the occurrence. -/

theorem pinned_utf16_columns_counterexample :
    faithfulB [] fileNB.tree fileNB.spans = false ∧
    (∃ l, l ∈ findReferences noTexts .commodity usd (some (single fileNB)) fileNB.path none true ∧
         l ∉ occurrences [(fileNB.path, fileNB.spans)] .commodity usd true) ∧
    faithfulB fileNB.lns fileNB.tree fileNB.spans = true ∧
    findReferences (textsOf ⟨fileNB, []⟩) .commodity usd (some (single fileNB)) fileNB.path none true =
      [⟨"a.journal", ⟨⟨1, 10⟩, ⟨1, 13⟩⟩⟩] ∧
    -- the cursor of the request is converted too: UTF-16 character 11 is on `USD`
    references (requestFrom ⟨fileNB, []⟩ fileNB [] ⟨1, 11⟩) true = [⟨"a.journal", ⟨⟨1, 10⟩, ⟨1, 13⟩⟩⟩] :=
  ⟨by decide, ⟨⟨"a.journal", ⟨⟨1, 9⟩, ⟨1, 12⟩⟩⟩, by decide, by decide⟩, by decide, by decide, by decide⟩

/-! #### The defect repaired by fix-payee-range.diff (finding `payee-range-estimate`)

The tree has no position for the payee.  The code as pinned placed it one blank after the date
(three columns after it with a status mark), which is what the model still does for a file
without text (`noTexts`, `lns := []`): with a code, a secondary date or wider spacing the
location reported for the payee was not an occurrence (`2024-01-01 (12) Shop`: 0:11–0:15 is
`(12)`), references from the real payee found nothing and a rename overwrote the code.  The
repaired server reads the header line of the file's text (`HL.PayeeRange`): the tree read with
its text is faithful and the answers are the occurrences. -/

theorem pinned_payee_range_estimate_counterexample :
    faithfulB [] fileCode.tree fileCode.spans = false ∧
    (∃ l, l ∈ findReferences noTexts .payee shop (some (single fileCode)) fileCode.path none true ∧
         l ∉ occurrences [(fileCode.path, fileCode.spans)] .payee shop true) ∧
    -- the rename edit 0:11–0:15 overwrote the code and left the payee behind
    (∀ new : List Char, applyEditsBackwards "2024-01-01 (12) Shop".toList [(11, 15)] new =
        "2024-01-01 ".toList ++ new ++ " Shop".toList) ∧
    -- the cursor on the payee was on no symbol
    findDefinitionTarget [] fileCode.tree ⟨0, 17⟩ = none :=
  ⟨by decide, ⟨⟨"a.journal", ⟨⟨0, 11⟩, ⟨0, 15⟩⟩⟩, by decide, by decide⟩,
   fun new => by rw [rename_substitutes _ _ _ (by simp [spansOK])]; simp [substSpans],
   by decide⟩

/-- With the text the tree is faithful; references from every cursor position of the payee
    lists the payee, the code is no symbol any more, prepareRename offers the payee. -/
theorem payee_header_exact :
    faithfulB fileCode.lns fileCode.tree fileCode.spans = true ∧
    guardsOff ⟨fileCode, []⟩ (single fileCode) = true ∧
    (∀ ch ∈ [16, 17, 20], references (requestFrom ⟨fileCode, []⟩ fileCode [] ⟨0, ch⟩) true =
      [⟨"a.journal", ⟨⟨0, 16⟩, ⟨0, 20⟩⟩⟩]) ∧
    (∀ ch ∈ [11, 13, 15], references (requestFrom ⟨fileCode, []⟩ fileCode [] ⟨0, ch⟩) true = []) ∧
    prepareRename (requestFrom ⟨fileCode, []⟩ fileCode [] ⟨0, 18⟩) = some ⟨⟨0, 16⟩, ⟨0, 20⟩⟩ := by
  decide +kernel

/-- Rename of a payee behind a code.  Any new name: one edit, with the range of
    the payee's lexeme … -/
theorem rename_payee_header (new : Bytes) :
    rename (requestFrom ⟨fileCode, []⟩ fileCode [] ⟨0, 17⟩) new =
      some [("a.journal", [⟨⟨⟨0, 16⟩, ⟨0, 20⟩⟩, new⟩])] := by
  have ht : findDefinitionTarget fileCode.lns fileCode.tree ⟨0, 17⟩ =
      some ⟨.payee, shop, ⟨⟨0, 16⟩, ⟨0, 20⟩⟩⟩ := by decide +kernel
  have hr : findReferences (textsOf ⟨fileCode, []⟩) .payee shop (some (resolvedOf ⟨fileCode, []⟩ []))
      fileCode.path (some fileCode.tree) true = [⟨"a.journal", ⟨⟨0, 16⟩, ⟨0, 20⟩⟩⟩] := by decide +kernel
  simp only [rename, requestFrom, ht, hr]
  simp [Changes.add]

/-- … and applying it replaces the payee and nothing else: the code stays. -/
theorem rename_payee_header_text (new : List Char) :
    applyEditsBackwards "2024-01-01 (12) Shop".toList [(16, 20)] new = "2024-01-01 (12) ".toList ++ new := by
  rw [rename_substitutes _ _ _ (by simp [spansOK])]; simp [substSpans]

open HL.Spec.HeaderG in
/-- For EVERY header of the grammar (HL/Spec/HeaderG.lean: optional
    secondary date, status mark and code, any runs of blanks and tabs, `| note`, comment; `pre`
    is the line up to the end of the date, `cr` what follows the printed header — nothing, or
    the CR of a CRLF line end): the span the tree's reading gives for the payee is the payee's
    lexeme, in LSP coordinates — line, UTF-16 offset of its first character, UTF-16 offset just
    past its last.  So the payee node of such a header is faithful to the text
    (`Workspace.faithful`), and `refs_exact`, `references_exact`, `prepareRename_exact`,
    `rename_edits_exact` apply to payees whatever stands between the date and the payee. -/
theorem payeeNode_header (lns : Lines) (tx : Transaction) (pre : HL.Text.Txt) (h : Header) (cr : HL.Text.Txt)
    (h1 : 1 ≤ tx.date.range.start.line) (h1' : tx.date.range.start.line ≤ 4294967296)
    (h2 : 1 ≤ tx.date.range.stop.col)
    (hl : lns[tx.date.range.start.line - 1]? = some (pre ++ (h.print ++ cr)))
    (hsmall : HL.Text.u16len (pre ++ (h.print ++ cr)) < 4294967296)
    (hpre : pre.length = tx.date.range.stop.col - 1) (hw : h.wf = true)
    (hne : payeeOrDescription tx ≠ []) (hlen : h.payee.length = runeLen (payeeOrDescription tx)) :
    (payeeNode lns tx).map (TNode.toSpan lns) =
      [⟨.payee, payeeOrDescription tx,
        ⟨⟨tx.date.range.start.line - 1, HL.Text.u16len (pre ++ h.lead)⟩,
         ⟨tx.date.range.start.line - 1, HL.Text.u16len (pre ++ h.lead ++ h.payee)⟩⟩, false⟩] := by
  have hl1 : lns[tx.date.range.start.line - 1]? = some ((pre ++ h.lead) ++ (h.payee ++ (h.tail ++ cr))) := by
    simp only [hl, Header.print, List.append_assoc]
  have hl2 : lns[tx.date.range.start.line - 1]? = some ((pre ++ h.lead ++ h.payee) ++ (h.tail ++ cr)) := by
    simp only [hl, Header.print, List.append_assoc]
  have hcol := HL.Lemmas.PayeeRange.payeeStart_header lns _ pre h (h.tail ++ cr) _ h1
    (by simp only [hl, Header.print, List.append_assoc]) hw h2 hpre
  rw [payeeNode_eq, if_neg hne]
  simp only [List.map_cons, List.map_nil, payNode, payeeRange, hcol, TNode.toSpan, toLsp, u32pred_of_sane _ h1 h1']
  rw [convChar_append h1 hl1 (by simpa only [Header.print, List.append_assoc] using hsmall) (by simp; omega),
    convChar_append h1 hl2 (by simpa only [Header.print, List.append_assoc] using hsmall) (by simp; omega)]

def payeeText : String :=
  "2024-01-01=2024-01-02 * (12)\t😀 Shop | note ; c\r\n  a:b  1\r\n2024/1/3   😀 Shop\r\n  a:b  2\r\n"
def gshop : Bytes := "😀 Shop".toUTF8.toList
/-- Text in, spans out: the lexer and parser models (`parser.Parse`) on a CRLF document whose
    first header carries a secondary date, a status mark, a code, a tab before the payee and
    `| note ; comment`, the second one three blanks; the payee starts with a character outside the
    BMP.  The tree read with its text is faithful to the spans the text was written from, and a
    non-vacuity instance of `payeeNode_header`'s hypotheses is the first header. -/
theorem payee_header_parsed_faithful :
    faithfulB (HL.Text.lines payeeText.toList) (HL.Pipeline.parseText Classes.go payeeText.toUTF8.toList).1
      [sp .payee gshop 0 29 36, sp .account ab 1 2 5, sp .payee gshop 2 11 18, sp .account ab 3 2 5] = true := by
  decide +kernel

example :
    let h : HL.Spec.HeaderG.Header := {
      date2 := some ([], [], "2024-01-02".toList), status := some (" ".toList, '*'),
      code := some (" ".toList, "12".toList), gap := "\t".toList, payee := "😀 Shop".toList,
      note := some (" ".toList, " ".toList, "note".toList), comment := some (" ".toList, " c".toList) }
    (HL.Text.lines payeeText.toList)[0]? = some ("2024-01-01".toList ++ (h.print ++ ['\r'])) ∧ h.wf = true ∧
    h.payee.length = runeLen gshop ∧
    HL.Text.u16len ("2024-01-01".toList ++ h.lead) = 29 ∧
    HL.Text.u16len ("2024-01-01".toList ++ h.lead ++ h.payee) = 36 := by
  decide +kernel

/-! #### The defect repaired by fix-quoted-commodity-directive.diff (finding `quoted-commodity-directive`)

The tree recorded only where the commodity of a `commodity` / `P` directive starts and the
server derived the end from the symbol's length: two short when the lexeme is written in quotes.
The repaired parser records the token's End, the repaired server reads it: the tree is faithful,
the directive site is listed with the range of its whole lexeme — the same convention as at the
posting — and a rename replaces the whole lexeme at both sites. -/

theorem pinned_quoted_commodity_directive_counterexample :
    faithfulB fileQuotedPinned.lns fileQuotedPinned.tree fileQuotedPinned.spans = false ∧
    (∃ l, l ∈ findReferences noTexts .commodity aB (some (single fileQuotedPinned)) fileQuotedPinned.path none true ∧
          l ∉ occurrences [(fileQuotedPinned.path, fileQuotedPinned.spans)] .commodity aB true) ∧
    -- the rename edit 0:10–0:13 leaves `B"` behind
    (∀ new : List Char, applyEditsBackwards "commodity \"A B\"".toList [(10, 13)] new =
        "commodity ".toList ++ new ++ "B\"".toList) :=
  ⟨by decide +kernel, ⟨⟨"a.journal", ⟨⟨0, 10⟩, ⟨0, 13⟩⟩⟩, by decide +kernel, by decide +kernel⟩,
   fun new => by rw [rename_substitutes _ _ _ (by simp [spansOK])]; simp [substSpans]⟩

/-- The tree of the repaired parser is faithful; references — from the posting, from the
    directive, with the cursor given on either quote or inside — lists both sites with their
    whole lexemes; prepareRename offers the whole lexeme. -/
theorem quoted_commodity_directive_exact :
    faithfulB fileQuoted.lns fileQuoted.tree fileQuoted.spans = true ∧
    guardsOff ⟨fileQuoted, []⟩ (single fileQuoted) = true ∧
    (∀ ch ∈ [10, 12, 15], references (requestFrom ⟨fileQuoted, []⟩ fileQuoted [] ⟨0, ch⟩) true =
      [⟨"a.journal", ⟨⟨0, 10⟩, ⟨0, 15⟩⟩⟩, ⟨"a.journal", ⟨⟨2, 9⟩, ⟨2, 14⟩⟩⟩]) ∧
    references (requestFrom ⟨fileQuoted, []⟩ fileQuoted [] ⟨2, 11⟩) true =
      [⟨"a.journal", ⟨⟨0, 10⟩, ⟨0, 15⟩⟩⟩, ⟨"a.journal", ⟨⟨2, 9⟩, ⟨2, 14⟩⟩⟩] ∧
    references (requestFrom ⟨fileQuoted, []⟩ fileQuoted [] ⟨2, 11⟩) false = [⟨"a.journal", ⟨⟨2, 9⟩, ⟨2, 14⟩⟩⟩] ∧
    prepareRename (requestFrom ⟨fileQuoted, []⟩ fileQuoted [] ⟨0, 12⟩) = some ⟨⟨0, 10⟩, ⟨0, 15⟩⟩ := by
  decide +kernel

/-- The same for a `P` directive whose symbol lies outside the BMP (the text of the file is
    needed to convert the columns): the priced commodity is reported at 0:13–0:17, `"😀"` with its
    quotes in UTF-16 units. -/
theorem quoted_price_directive_nonbmp_exact :
    faithfulB filePriceNB.lns filePriceNB.tree filePriceNB.spans = true ∧
    references (requestFrom ⟨filePriceNB, []⟩ filePriceNB [] ⟨2, 12⟩) false =
      [⟨"a.journal", ⟨⟨0, 13⟩, ⟨0, 17⟩⟩⟩, ⟨"a.journal", ⟨⟨2, 10⟩, ⟨2, 14⟩⟩⟩] ∧
    prepareRename (requestFrom ⟨filePriceNB, []⟩ filePriceNB [] ⟨0, 15⟩) = some ⟨⟨0, 13⟩, ⟨0, 17⟩⟩ := by
  decide +kernel

/-- Rename at a quoted directive site.  Rename from the declaration, any new
    name: one edit per site, each with the range of the whole lexeme and the new name as its
    text (the same new text at the directive and at the posting) … -/
theorem rename_quoted_directive (new : Bytes) :
    rename (requestFrom ⟨fileQuoted, []⟩ fileQuoted [] ⟨0, 12⟩) new =
      some [("a.journal", [⟨⟨⟨0, 10⟩, ⟨0, 15⟩⟩, new⟩, ⟨⟨⟨2, 9⟩, ⟨2, 14⟩⟩, new⟩])] := by
  have ht : findDefinitionTarget fileQuoted.lns fileQuoted.tree ⟨0, 12⟩ =
      some ⟨.commodity, aB, ⟨⟨0, 10⟩, ⟨0, 15⟩⟩⟩ := by decide +kernel
  have hr : findReferences (textsOf ⟨fileQuoted, []⟩) .commodity aB (some (resolvedOf ⟨fileQuoted, []⟩ []))
      fileQuoted.path (some fileQuoted.tree) true =
      [⟨"a.journal", ⟨⟨0, 10⟩, ⟨0, 15⟩⟩⟩, ⟨"a.journal", ⟨⟨2, 9⟩, ⟨2, 14⟩⟩⟩] := by decide +kernel
  simp only [rename, requestFrom, ht, hr]
  simp [Changes.add]

/-- … and applying them replaces the whole lexeme, quotes included, and nothing else. -/
theorem rename_quoted_directive_text (new : List Char) :
    applyEditsBackwards "commodity \"A B\"".toList [(10, 15)] new = "commodity ".toList ++ new ∧
    applyEditsBackwards "  a:b  1 \"A B\"".toList [(9, 14)] new = "  a:b  1 ".toList ++ new := by
  constructor
  · rw [rename_substitutes _ _ _ (by simp [spansOK])]; simp [substSpans]
  · rw [rename_substitutes _ _ _ (by simp [spansOK])]; simp [substSpans]

def quotedText : String := "commodity \"A B\"\n2024-01-01 Shop\n  a:b  1 \"A B\"\n"
/-- Text in, spans out: the lexer and parser models (`parser.Parse`) on the witness of the former
    finding, replays/C09/quoted-commodity-directive.jsonl, give a faithful tree. -/
theorem quoted_commodity_directive_parsed_faithful :
    faithfulB (HL.Text.lines quotedText.toList)
      (HL.Pipeline.parseText Classes.go quotedText.toUTF8.toList).1 fileQuoted.spans = true := by
  decide +kernel

/-! #### The defect repaired by fix-trailing-blank-ranges.diff (finding `text-commodity-trailing-blank`)

A commodity lexed as free text (`usd`, `шт`) ended where `scanText` stopped, at the `;`: the tree
was not faithful, references listed 1:9–1:14 and a rename swallowed the blanks.  The repaired
lexer ends the token with its value (`HL.Props.C06.token_end_is_lexeme_end`). -/

theorem pinned_text_commodity_trailing_blank_counterexample :
    faithfulB fileTextPinned.lns fileTextPinned.tree fileTextPinned.spans = false ∧
    (∃ l, l ∈ findReferences noTexts .commodity usdL (some (single fileTextPinned)) fileTextPinned.path none true ∧
         l ∉ occurrences [(fileTextPinned.path, fileTextPinned.spans)] .commodity usdL true) ∧
    -- the rename edit 1:9–1:14 swallows the blanks before the comment
    (∀ new : List Char, applyEditsBackwards "  a:b  1 usd  ; c".toList [(9, 14)] new =
        "  a:b  1 ".toList ++ new ++ "; c".toList) :=
  ⟨by decide +kernel, ⟨⟨"a.journal", ⟨⟨1, 9⟩, ⟨1, 14⟩⟩⟩, by decide +kernel, by decide +kernel⟩,
   fun new => by rw [rename_substitutes _ _ _ (by simp [spansOK])]; simp [substSpans]⟩

/-- The tree of the repaired lexer is faithful, no guard fires, references from every cursor on
    the symbol lists exactly 1:9–1:12, and a rename leaves the blanks alone. -/
theorem text_commodity_trailing_blank_exact :
    faithfulB fileText.lns fileText.tree fileText.spans = true ∧
    guardsOff ⟨fileText, []⟩ (single fileText) = true ∧
    (∀ ch ∈ [9, 10, 12], references (requestFrom ⟨fileText, []⟩ fileText [] ⟨1, ch⟩) true =
      [⟨"a.journal", ⟨⟨1, 9⟩, ⟨1, 12⟩⟩⟩]) ∧
    (∀ new : List Char, applyEditsBackwards "  a:b  1 usd  ; c".toList [(9, 12)] new =
        "  a:b  1 ".toList ++ new ++ "  ; c".toList) :=
  ⟨by decide +kernel, by decide +kernel, by decide +kernel,
   fun new => by rw [rename_substitutes _ _ _ (by simp [spansOK])]; simp [substSpans]⟩

def textCommodityText : String := "2024-01-01 Shop\n  a:b  1 usd  ; c\n"
/-- Text in, spans out: the lexer and parser models on the witness of the former finding,
    replays/C09/text-commodity-trailing-blank.jsonl, give a faithful tree. -/
theorem text_commodity_parsed_faithful :
    faithfulB (HL.Text.lines textCommodityText.toList)
      (HL.Pipeline.parseText Classes.go textCommodityText.toUTF8.toList).1 fileText.spans = true := by
  decide +kernel

/-! #### Findings about the snapshot the server holds

The workspace `⟨fileA, [fileB']⟩` is what the client sees: b.journal is open with an unsaved
edit.  When the request is answered from the journal resolved for a.journal itself (no
workspace root, or a.journal outside the root's tree) that journal was loaded from disk:
`unsaved-include-not-seen`, OPEN.  With a workspace root the same happened when b.journal was
opened with a text that differs from disk and not changed since (`didopen-stale-workspace`,
repaired: `workspace_follows_buffers`; the pinned behaviour is
`pinned_didopen_stale_workspace_counterexample` on the server model, and below on the
references it produced): in both cases the server holds `fileB`'s tree.  After a second load
with a warm cache the pinned loader kept only the directly included file and dropped its
subtree (`loader-cache-drops-subtree`, repaired): the member was missing altogether. -/

def wsEdited : Workspace := ⟨fileA, [fileB']⟩

theorem unsaved_include_not_seen_counterexample :
    coherentB wsEdited (resolvedOf ws2 []) = false ∧
    ∃ l, l ∈ findReferences noTexts .commodity usd (some (resolvedOf ws2 [])) "a.journal" none true ∧
         l ∉ occurrences wsEdited.spanFiles .commodity usd true :=
  ⟨by decide +kernel, ⟨"b.journal", ⟨⟨1, 9⟩, ⟨1, 12⟩⟩⟩, by decide +kernel, by decide +kernel⟩

theorem pinned_didopen_stale_snapshot_counterexample :
    coherentB wsEdited (resolvedOf ws2 ["b.journal"]) = false ∧
    ∃ l, l ∈ occurrences wsEdited.spanFiles .commodity eur true ∧
         l ∉ findReferences noTexts .commodity eur (some (resolvedOf ws2 ["b.journal"])) "a.journal" none true :=
  ⟨by decide +kernel, ⟨"b.journal", ⟨⟨2, 17⟩, ⟨2, 20⟩⟩⟩, by decide +kernel, by decide +kernel⟩

theorem loader_cache_drops_subtree_counterexample :
    coherentB ws2 (single fileA) = false ∧
    ∃ l, l ∈ occurrences ws2.spanFiles .account ab true ∧
         l ∉ findReferences noTexts .account ab (some (single fileA)) "a.journal" none true :=
  ⟨by decide +kernel, ⟨"b.journal", ⟨⟨1, 2⟩, ⟨1, 5⟩⟩⟩, by decide +kernel, by decide +kernel⟩

/-- Before fix-orphan-journal-own-tree.diff a request from a journal outside the root's tree
    (`o.journal`; the workspace is the single file a.journal) read the workspace's journal:
    none of its own occurrences were reported.  The repaired choice reads the journal resolved
    for the document itself. -/
theorem pinned_orphan_reads_workspace_counterexample :
    let orphan : FileT := { fileB with path := "o.journal" }
    let wsv : Option (Resolved × Path) := some (single fileD, "a.journal")
    let own := some (single orphan)
    wsContains (single fileD) "a.journal" "o.journal" = false ∧
    (∃ l, l ∈ occurrences [(orphan.path, orphan.spans)] .commodity eur true ∧
      l ∉ findReferences noTexts .commodity eur (pinnedResolvedWithPrimaryPath wsv own orphan.path).1
            (pinnedResolvedWithPrimaryPath wsv own orphan.path).2 (some orphan.tree) true) ∧
    findReferences noTexts .commodity eur (resolvedWithPrimaryPath wsv own orphan.path).1
      (resolvedWithPrimaryPath wsv own orphan.path).2 (some orphan.tree) true =
      [⟨"o.journal", ⟨⟨1, 17⟩, ⟨1, 20⟩⟩⟩] :=
  ⟨by decide +kernel, ⟨⟨"o.journal", ⟨⟨1, 17⟩, ⟨1, 20⟩⟩⟩, by decide +kernel, by decide +kernel⟩, by decide +kernel⟩

/-- Non-vacuity: a two-file workspace with shared symbols satisfies every hypothesis. -/
example : guardsOff ws2 (resolvedOf ws2 ["b.journal"]) = true := by decide +kernel
example : findReferences noTexts .account ab (some (resolvedOf ws2 [])) "a.journal" none true =
    [⟨"a.journal", ⟨⟨1, 8⟩, ⟨1, 11⟩⟩⟩, ⟨"a.journal", ⟨⟨3, 2⟩, ⟨3, 5⟩⟩⟩, ⟨"b.journal", ⟨⟨1, 2⟩, ⟨1, 5⟩⟩⟩] := by decide +kernel
example : (references (requestFrom ws2 fileB [] ⟨1, 18⟩) false) = [⟨"b.journal", ⟨⟨1, 17⟩, ⟨1, 20⟩⟩⟩] := by decide +kernel

end HL.Props.C09
