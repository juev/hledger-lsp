/-
  C14, second part — the memory REACHABLE from shared fields.

  `HL.Props.C14.server_race_free` is about the field table: one location per field of a
  shared struct.  A slice, map or pointer field is only the handle of more memory (its store:
  backing array, map, pointee), and a handle that is loaded inside a lock region and used after
  the region was left still points to the same memory.  tools/access follows every reference
  that is loaded from shared memory — through locals, results, result structs, arguments,
  closures — and regenerates `HL.Generated.Access.escapes`: one row per class of access to a
  store (role, how the reference relates to its lock region, whether the access writes through
  it, the locks held).  Here:

    1. `lockset_sound_reachable` (general): for every field table T and escape table E, every
       pool of threads over the locations `fields ⊕ stores` whose accesses are instances of
       the rows of `fullTable T E`: if T is disciplined and E obeys the alias discipline
       (`aliasDisciplined`: no escaped reference is written through, and the accessors of every
       store — escaped aliases included — obey the lockset discipline), no reachable state has
       a data race, on a field or on a store.
    2. `escapes_covered`, `alias_translator_facts`: closed facts about the regenerated table,
       decided by the kernel; `alias_disciplined` follows from `escapes_covered` by
       `coveredBy_sound` (HL/Props/C14.lean) and a linear check that no escaped alias is
       written through.
    3. `server_race_free_reachable`: 1 applied to 2.
    4. The discipline is not vacuous: `escaped_unlocked_mutation_races` (general: an
       un-synchronised write through an escaped alias by a background role IS a reachable race
       of a conforming pool) and `seeded_alias_detected` (the rows extracted from the tree with
       the defensive copy of the cached parse errors removed fail the check, naming the row).
  Trusted, not proved: the translator's reference tracking (DESIGN 7.C14, tools/access/alias.go).
-/
import HL.Props.C14
namespace HL.Props.C14
open HL.Lockset HL.Lemmas.Lockset HL.Generated.Access HL.Generated.AccessExpect
set_option linter.unusedSectionVars false

section general
variable {ι κ σ : Type} [DecidableEq ι] [DecidableEq κ] [DecidableEq σ]

/-- **Soundness of the lockset discipline for fields and the memory reachable from them.**
    Threads access field locations (`inl`) and store locations (`inr`); every access is an
    instance of a row of the field table or of the escape table (an escaped alias is an access
    to the store with whatever locks are held at that point — usually none).  If the field
    table is disciplined and the escape table obeys the alias discipline, no reachable state
    has two running threads about to perform conflicting accesses. -/
theorem lockset_sound_reachable (T : List (Row ι κ)) (E : List (Escape σ κ)) (P : Pool (ι ⊕ σ) κ)
    (hC : Conforms (fullTable T E) P) (hW : WF P)
    (hD : disciplined T = true) (hA : aliasDisciplined E = true)
    {s : State κ} (hR : Reachable P s) : ¬ Race P s :=
  lockset_sound (fullTable T E) P hC hW
    (disciplined_fullTable hD (aliasDisciplined_iff.mp hA).2) hR

/-- Under the alias discipline every writer in the owner set of a store went through a
    reference that had not left its lock region (or through a copy it owns). -/
theorem writers_in_region (E : List (Escape σ κ)) (hA : aliasDisciplined E = true)
    (e : Escape σ κ) (he : e ∈ E) (hm : e.mutated = true) (hf : e.fresh = false) :
    e.how ≠ How.escaped := by
  have h := List.all_eq_true.mp (aliasDisciplined_iff.mp hA).1 e he
  intro hh
  simp [hh, hm, hf] at h

/-- **The discipline forbids exactly what races.**  Take any escape table that contains a row of
    a background role (any number of instances run concurrently) writing through a reference
    with no lock held and not fresh.  Then some pool of threads that conforms to the table —
    initialisation, the handler thread, two goroutines of that role each performing that very
    access — reaches a state with a data race on the store. -/
theorem escaped_unlocked_mutation_races (E : List (Escape σ κ)) (e : Escape σ κ) (he : e ∈ E)
    (hm : e.mutated = true) (hf : e.fresh = false) (hl : e.locks = [])
    (hr : e.role = Role.publish ∨ e.role = Role.refresh) :
    ∃ P : Pool σ κ, Conforms (storeRows E) P ∧ WF P ∧ ∃ s, Reachable P s ∧ Race P s := by
  let a : Acc σ := ⟨e.store, .write, false, false⟩
  let P : Pool σ κ :=
    { prog := fun t => match t with
        | 0 => [.spawn 1]
        | 1 => [.spawn 2, .spawn 3]
        | 2 => [.acc a]
        | 3 => [.acc a]
        | _ => []
      role := fun t => match t with
        | 0 => .init
        | 1 => .main
        | _ => e.role }
  have hne_init : e.role ≠ Role.init := by rcases hr with h | h <;> rw [h] <;> decide
  have hne_main : e.role ≠ Role.main := by rcases hr with h | h <;> rw [h] <;> decide
  refine ⟨P, ?_, ⟨?_, ?_, ?_⟩, ?_⟩
  · -- the only accesses are those of threads 2 and 3, instances of the row of `e`
    intro t n b hb
    have hrow : e.toRow ∈ storeRows E := List.mem_map.mpr ⟨e, he, rfl⟩
    have key : P.role t = e.role ∧ n = 0 ∧ a = b := by
      rcases t with _ | _ | _ | _ | t <;> rcases n with _ | _ | n <;> simp [P] at hb ⊢ <;> exact hb
    obtain ⟨hrole, rfl, rfl⟩ := key
    refine ⟨e.toRow, hrow, hrole.symm, rfl, ?_, rfl, hf, ?_⟩
    · simp [Escape.toRow, hm, a]
    · simp [Escape.toRow, hl]
  · intro t
    rcases t with _ | _ | t
    · simp [P]
    · simp [P]
    · exact ⟨fun h => absurd h hne_init, fun h => by omega⟩
  · intro t1 t2 h1 h2
    match t1, t2, h1, h2 with
    | 1, 1, _, _ => rfl
    | 0, _, h1, _ => simp [P] at h1
    | _, 0, _, h2 => simp [P] at h2
    | t1+2, _, h1, _ => exact absurd h1 hne_main
    | _, t2+2, _, h2 => exact absurd h2 hne_main
  · intro n t' h
    rcases n with _ | n
    · rfl
    · simp [P] at h
  ·
    let s1 : State κ := fire State.init 0 (.spawn 1 : Instr σ κ)
    let s2 : State κ := fire s1 1 (.spawn 2 : Instr σ κ)
    let s3 : State κ := fire s2 1 (.spawn 3 : Instr σ κ)
    have r1 : Reachable P s1 := .step .init ⟨0, .spawn 1, rfl, rfl, trivial, rfl⟩
    have r2 : Reachable P s2 := .step r1 ⟨1, .spawn 2, rfl, rfl, trivial, rfl⟩
    have r3 : Reachable P s3 := .step r2 ⟨1, .spawn 3, rfl, rfl, trivial, rfl⟩
    refine ⟨s3, r3, 2, 3, a, a, by decide, rfl, rfl, rfl, rfl, ?_⟩
    exact ⟨rfl, Or.inl rfl, by simp [a], rfl, rfl⟩

end general

-- Diagnostics for the build log: if one of the closed facts below fails, these lines name the
-- rows responsible (store, role, function and line in the Go source).
#eval show IO Unit from do
  let short := fun (r : Role) => match r with
    | .init => "init" | .main => "main" | .publish => "publish" | .refresh => "refresh"
  let sites := fun (l : List String) => (l.take 3)
  for p in (racePairs (storeRows escapes)).take 4 do
    IO.println s!"C14 STORE RACE PAIR: {repr p.1.loc}: {repr p.1.kind} by {short p.1.role} holding {repr p.1.locks} at {sites p.1.sites}  ||  {repr p.2.kind} by {short p.2.role} holding {repr p.2.locks} at {sites p.2.sites}"
  for f in externalUseSites do
    if !externalsOK then IO.println s!"C14 EXTERNAL USE of shared memory: {f}"
  for f in funcValueUses do
    IO.println s!"C14 FUNCTION VALUE handed shared memory (not followed): {f}"
  for f in astWriters do
    IO.println s!"C14 WRITE INTO A SYNTAX TREE outside the parser: {f}"
  for e in uncoveredEscapes do
    IO.println s!"C14 UNCOVERED ESCAPE: store {e.store.name}: {if e.mutated then "write" else "read"} ({repr e.how}) by role {short e.role} holding {repr e.locks} at {sites e.sites} is not covered by the protection stated for the store in AccessExpect.lean"
  for e in escapedMutations escapes do
    IO.println s!"C14 ESCAPED ALIAS MUTATED: store {e.store.name}: role {short e.role} appends to / writes through a reference that has left the lock region it was loaded in (locks held at the write: {repr e.locks}) at {sites e.sites}"

/-- Every row of the regenerated escape table is an instance of the protection that
    HL/Generated/AccessExpect.lean states for its store (default: immutable after
    publication). -/
theorem escapes_covered : escapes.all escapeCovered = true := by
  have h := covered_of_blocks Store.ctorIdx (storeRows escapes) (by decide +kernel) (by decide +kernel)
  rw [storeRows, List.all_map] at h
  refine Eq.trans (List.all_congr rfl fun e => ?_) h
  simp only [escapeCovered, storeProtection, Function.comp, List.filter_map]
  rfl

/-- The store rows obey the lockset discipline, because each is covered by the protection of
    its store. -/
theorem alias_disciplined_by_protection : disciplined (storeRows escapes) = true := by
  apply coveredBy_sound storeProtection
  apply List.all_eq_true.mpr
  intro r hr
  obtain ⟨e, he, rfl⟩ := List.mem_map.mp hr
  exact List.all_eq_true.mp escapes_covered e he

/-- The escape table extracted from the current Go source obeys the alias discipline: no
    reference that outlives the lock region it was loaded in is appended to or written through,
    and every two conflicting accesses to the memory behind a shared field — through the field,
    through a copy being taken, through an escaped alias — that can be performed by two
    different threads hold a common lock, at least one exclusively. -/
theorem alias_disciplined : aliasDisciplined escapes = true :=
  aliasDisciplined_iff.mpr ⟨by decide +kernel, alias_disciplined_by_protection⟩

/-- Facts about the source the reference tracking relies on: no reference into shared memory is
    handed to a function value the translator cannot follow; functions of other modules that
    receive one are known to read only; nothing outside the parser writes into the memory of a
    syntax tree (the cached `*ast.Journal` trees are shared by the loader cache, the
    per-document include trees and the workspace: "escapes, never mutated"). -/
theorem alias_translator_facts :
    funcValueUses = [] ∧ externalsOK = true ∧ astWriters = [] := by
  refine ⟨by decide, by decide +kernel, by decide⟩

/-- The cached parse errors leave the loader's lock region only as copies: every access to
    their backing array is the read of `slices.Clone` (or a read inside the region). -/
theorem cached_errors_only_copied :
    (escapes.filter fun e => e.store.name == "cachedFile_errors").all
      (fun e => e.mutated == false && (e.how == How.copied || e.how == How.inRegion)) = true := by
  decide +kernel

/-- **C14, race part, for fields and the memory reachable from them.**  Every pool of threads
    that is an instance of the extracted field table and escape table — any number of publish
    and refresh goroutines, any interleaving with the serial handler thread — never reaches a
    state with a data race, neither on a shared field nor on the backing store of one. -/
theorem server_race_free_reachable (P : Pool (Loc ⊕ Store) Lock)
    (hC : Conforms (fullTable accessTable escapes) P) (hW : WF P)
    {s : State Lock} (hR : Reachable P s) : ¬ Race P s :=
  lockset_sound_reachable accessTable escapes P hC hW table_disciplined alias_disciplined hR

/-- The `cachedFile.errors` rows extracted from the source with `errors := slices.Clone(file.errors)`
    in `Loader.loadParsed` replaced by `errors := file.errors` (seeded/C14, frozen copy): the
    slice header is loaded under Loader.mu (`loadSingleInclude`), leaves the region inside the
    `cachedFile` value, and `loadParsed` appends include errors to it with no lock held — from
    any number of concurrent diagnostics goroutines, and from the handler thread under
    Workspace.mu only. -/
def seededErrorsRows : List (Escape Nat Nat) := [
  ⟨0, .main, .copied, false, [(1, .excl)], false, ["include.Loader.loadSingleInclude loader.go:275"]⟩,
  ⟨0, .main, .escaped, true, [(1, .excl)], false, ["include.Loader.loadParsed loader.go:160", "include.Loader.loadParsed loader.go:171"]⟩,
  ⟨0, .publish, .copied, false, [], false, ["include.Loader.loadSingleInclude loader.go:275"]⟩,
  ⟨0, .publish, .escaped, false, [], false, ["server.Server.publishDiagnosticsVersion server.go:377"]⟩,
  ⟨0, .publish, .escaped, true, [], false, ["include.Loader.loadParsed loader.go:160", "include.Loader.loadParsed loader.go:171"]⟩]

/-- On those rows the alias discipline fails on both counts: there are escaped references that
    are written through, and the store has conflicting accessors without a common lock (two
    diagnostics goroutines appending; one appending while another copies or reads; the handler
    thread's load under Workspace.mu against a goroutine's). -/
theorem seeded_alias_detected :
    aliasDisciplined seededErrorsRows = false ∧
    (escapedMutations seededErrorsRows).map (fun e => (e.role, e.locks)) =
      [(.main, [(1, .excl)]), (.publish, [])] ∧
    disciplined (storeRows seededErrorsRows) = false := by
  refine ⟨by decide +kernel, by decide +kernel, by decide +kernel⟩

/-- ... and by `escaped_unlocked_mutation_races` the race is real in the transition system. -/
theorem seeded_alias_race_reachable :
    ∃ P : Pool Nat Nat, Conforms (storeRows seededErrorsRows) P ∧ WF P ∧ ∃ s, Reachable P s ∧ Race P s :=
  escaped_unlocked_mutation_races seededErrorsRows
    ⟨0, .publish, .escaped, true, [], false, ["include.Loader.loadParsed loader.go:160", "include.Loader.loadParsed loader.go:171"]⟩
    (by simp [seededErrorsRows]) rfl rfl rfl (Or.inl rfl)

/-- the program "take the row's locks, perform its access, release them" over fields and stores -/
def progOfR (r : Row (Loc ⊕ Store) Lock) : List (Instr (Loc ⊕ Store) Lock) :=
  r.locks.map (fun x => Instr.acq x.1 x.2) ++ [.acc ⟨r.loc, r.kind, r.atomic, r.fresh⟩] ++
    r.locks.reverse.map (fun x => Instr.rel x.1)

def pickRowR (role : Role) (p : Row (Loc ⊕ Store) Lock → Bool) : List (Instr (Loc ⊕ Store) Lock) :=
  match (fullTable accessTable escapes).find? (fun r => r.role == role && p r) with
  | some r => progOfR r
  | none => []

def isStore (r : Row (Loc ⊕ Store) Lock) : Bool := match r.loc with | .inr _ => true | .inl _ => false

/-- A small instance built from rows of the regenerated tables (nothing is named): the handler
    thread writes a store inside a lock region; a diagnostics goroutine reads a store inside a
    lock region and reads another one with no lock held (an escaped, copied or immutable
    reference). -/
def demoPoolR : Pool (Loc ⊕ Store) Lock where
  prog := fun t => match t with
    | 0 => [.spawn 1]
    | 1 => [.spawn 2] ++ pickRowR .main (fun r => isStore r && r.kind == .write && r.locks.length == 1)
    | 2 => pickRowR .publish (fun r => isStore r && r.kind == .read && r.locks.length == 1) ++
           pickRowR .publish (fun r => isStore r && r.kind == .read && r.locks.isEmpty && !r.fresh)
    | _ => []
  role := fun t => match t with
    | 0 => .init
    | 1 => .main
    | _ => .publish

def hasAccessR (p : List (Instr (Loc ⊕ Store) Lock)) : Bool :=
  p.any fun i => match i with | .acc _ => true | _ => false

def progConformsR (T : List (Row (Loc ⊕ Store) Lock)) (role : Role) (p : List (Instr (Loc ⊕ Store) Lock)) : Bool :=
  (List.range p.length).all fun n =>
    match p[n]? with
    | some (.acc a) => T.any fun r => r.role == role && r.loc == a.loc && r.kind == a.kind &&
        r.atomic == a.atomic && r.fresh == a.fresh &&
        r.locks.all fun x => (heldAfter (p.take n)).contains x
    | _ => true

example : (List.range 3).all (fun t =>
    progConformsR (fullTable accessTable escapes) (demoPoolR.role t) (demoPoolR.prog t)) = true ∧
    hasAccessR (demoPoolR.prog 1) = true ∧
    ((demoPoolR.prog 2).filter fun i => match i with | .acc _ => true | _ => false).length = 2 := by
  decide +kernel

end HL.Props.C14
