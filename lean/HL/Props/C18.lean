/-
  C18 — Undeclared-account and undeclared-commodity warnings are exact.
  The property theorems, with `mem_sources` and `filterBy` that serve them; what the model's
  functions compute is in HL/Lemmas/Undeclared.lean.

  Model: HL/Model/Undeclared.lean (transcription of analyzer.go / server.go / workspace.go, with
  commit cb2f927 of /repo applied).  Spec: HL/Spec/UndeclaredSpec.lean.
  All theorems are for journals, transactions and declared sets of any size and for EVERY
  lower-casing function `lower`; lists of warnings are equal as lists (same order), which
  implies the multiset equality the run-time oracle checks.
-/
import HL.Lemmas.Undeclared
-- `shouldIncludeDiagnostic` of the model is the Go function as translated on every run
import HL.Generated.Expect.PureDiag
namespace HL.Props.C18
open HL HL.Ast HL.Undeclared HL.Spec.Undeclared HL.Lemmas.Undeclared

/-- `isAccountDeclared` is the stated predicate: declared, below a declared account, or under one
    of the six standard categories. -/
theorem account_rule (lower : Bytes → Bytes) (name : Bytes) (D : List Bytes) :
    isAccountDeclared lower name D = true ↔
      (name ∈ D ∨ (∃ d ∈ D, ∃ rest, name = d ++ [58] ++ rest) ∨ firstSegment (lower name) ∈ categories) := by
  simp only [isAccountDeclared_eq, accountCovered, below, Bool.or_eq_true, decide_eq_true_eq, List.any_eq_true,
    List.isPrefixOf_iff_prefix, List.IsPrefix, or_assoc, @eq_comm _ name]

/-- Per transaction: the analyzer's UNDECLARED_* diagnostics are the spec's warnings, in order. -/
theorem tx_rule_exact (lower : Bytes → Bytes) (dAcc dCom : List Bytes) (tx : Transaction) :
    analyzeTx lower dAcc dCom tx =
      (accountWarnings lower dAcc tx ++ commodityWarnings dCom tx).map render := by
  unfold analyzeTx
  rw [List.map_append]
  congr 1
  · by_cases h : dAcc = []
    · subst h; simp [accountWarnings]
    · have : dAcc.isEmpty = false := by simpa using h
      simp only [this, Bool.not_false, if_true]
      exact checkAccounts_eq lower tx dAcc h
  · by_cases h : dCom = []
    · subst h; simp [commodityWarnings]
    · have : dCom.isEmpty = false := by simpa using h
      simp only [this, Bool.not_false, if_true]
      exact checkCommodities_eq tx dCom h

/-- For every journal (any number of directives, transactions, postings) and
    every pair of external declared sets, `Analyze` / `AnalyzeWithExternalDeclarations` emit
    exactly the warnings of the statement for D = the journal's own declarations ∪ the external
    ones: gating on D ≠ ∅, the account rule, each undeclared commodity once per transaction over
    amounts, costs and assertions in posting order — same warnings, same ranges, same order. -/
theorem rule_exact (lower : Bytes → Bytes) (j : Journal) (extAcc extCom : List Bytes) :
    analyzeInternal lower j extAcc extCom =
      (journalWarnings lower (declaredAccountsOf j ++ extAcc) (declaredCommoditiesOf j ++ extCom) j).map render := by
  unfold analyzeInternal journalWarnings
  simp only [collectAccounts_eq, collectCommodities_eq, List.map_flatMap]
  congr 1
  funext tx
  exact tx_rule_exact lower _ _ tx

/-- The warnings depend on the declared sets only through their
    membership relations: neither the order in which Go ranges over `declared`, nor how often a
    key was inserted, nor which source contributed it can be observed. -/
theorem declared_order_irrelevant (lower : Bytes → Bytes) {A A' C C' : List Bytes}
    (hA : ∀ x, x ∈ A ↔ x ∈ A') (hC : ∀ x, x ∈ C ↔ x ∈ C') (j : Journal) :
    journalWarnings lower A C j = journalWarnings lower A' C' j := by
  simp only [journalWarnings, accountWarnings, commodityWarnings, nil_congr hA, nil_congr hC,
    accountCovered_congr lower hA, hC]

/-- The same for the analyzer itself: the external sets matter only through the membership
    relation of their union with the journal's own declarations. -/
theorem analyze_order_irrelevant (lower : Bytes → Bytes) (j : Journal) {A A' C C' : List Bytes}
    (hA : ∀ x, x ∈ collectDeclaredAccounts j ++ A ↔ x ∈ collectDeclaredAccounts j ++ A')
    (hC : ∀ x, x ∈ collectDeclaredCommodities j ++ C ↔ x ∈ collectDeclaredCommodities j ++ C') :
    analyzeInternal lower j A C = analyzeInternal lower j A' C' := by
  rw [rule_exact, rule_exact]
  congr 1
  apply declared_order_irrelevant
  · simpa only [collectAccounts_eq] using hA
  · simpa only [collectCommodities_eq] using hC

/-- No commodity is warned about twice in one transaction. -/
theorem commodity_once (D : List Bytes) (tx : Transaction) :
    ((commodityWarnings D tx).map (·.subject)).Nodup := by
  unfold commodityWarnings
  by_cases h : D = []
  · simp [h]
  · simp only [h, if_false, List.map_map]
    exact onceEach_nodup _

/-- Every undeclared commodity used in an amount, cost or assertion is warned about. -/
theorem commodity_complete (D : List Bytes) (tx : Transaction) (hD : D ≠ []) (u : Use)
    (hu : u ∈ uses tx) (hund : u.symbol ∉ D) :
    ∃ w ∈ commodityWarnings D tx, w.kind = .commodity ∧ w.subject = u.symbol := by
  unfold commodityWarnings
  simp only [hD, if_false]
  have : ∃ v ∈ (uses tx).filter (fun u => !decide (u.symbol ∈ D)), v.symbol = u.symbol :=
    ⟨u, List.mem_filter.mpr ⟨hu, by simp [hund]⟩, rfl⟩
  obtain ⟨v, hv, hvs⟩ := (onceEach_symbols _ _).mpr this
  exact ⟨⟨.commodity, v.symbol, v.range⟩, List.mem_map.mpr ⟨v, hv, rfl⟩, rfl, hvs⟩

/-- Non-vacuity of `commodity_complete`: a transaction using an undeclared symbol while another
    one is declared. -/
example : ∃ (D : List Bytes) (tx : Transaction) (u : Use), D ≠ [] ∧ u ∈ uses tx ∧ u.symbol ∉ D :=
  ⟨[[85]], { (default : Transaction) with postings := [{ (default : Posting) with
      amount := some { (default : Amount) with commodity := ⟨[69], .right, default⟩ } }] },
    ⟨[69], default⟩, by decide, by simp [uses, postingUses, amountUse], by decide⟩

/-- Every commodity warning points at a real use of an undeclared, non-empty symbol. -/
theorem commodity_sound (D : List Bytes) (tx : Transaction) (w : Warning)
    (hw : w ∈ commodityWarnings D tx) :
    w.kind = .commodity ∧ w.subject ∉ D ∧ w.subject ≠ [] ∧ D ≠ [] ∧
      ∃ u ∈ uses tx, u.symbol = w.subject ∧ u.range = w.range := by
  unfold commodityWarnings at hw
  by_cases h : D = []
  · simp [h] at hw
  · simp only [h, if_false] at hw
    obtain ⟨v, hv, rfl⟩ := List.mem_map.mp hw
    have hv' := List.mem_filter.mp (mem_onceEach hv)
    refine ⟨rfl, by simpa using hv'.2, uses_nonempty tx v hv'.1, h, v, hv'.1, rfl, rfl⟩

/-- Account warnings: exactly the postings that are not covered, when something is declared. -/
theorem account_exact (lower : Bytes → Bytes) (D : List Bytes) (tx : Transaction) (w : Warning) :
    w ∈ accountWarnings lower D tx ↔
      D ≠ [] ∧ ∃ p ∈ tx.postings, accountCovered lower D p.account.name = false ∧
        w = ⟨.account, p.account.name, p.range⟩ := by
  unfold accountWarnings
  by_cases h : D = []
  · simp [h]
  · simp only [h, if_false, List.mem_map, List.mem_filter, ne_eq, not_false_eq_true, true_and]
    constructor
    · rintro ⟨p, ⟨hp, hc⟩, rfl⟩
      exact ⟨p, hp, by simpa using hc, rfl⟩
    · rintro ⟨p, hp, hc, rfl⟩
      exact ⟨p, ⟨hp, by simp [hc]⟩, rfl⟩

def filterBy (s : Settings) (ds : List Diag) : List Diag :=
  ds.filter fun d => shouldIncludeDiagnostic d.code s

/-- `filterBy` is the filter of `Server.analyzeResolved`. -/
theorem serverAnalyze_eq_filterBy (lower : Bytes → Bytes) (files : List Journal) (cur : Nat) (curTree : List Nat)
    (wsTree : Option (List Nat)) (s : Settings) :
    serverAnalyze lower files cur curTree wsTree s =
      (filterBy s (analyzeInternal lower (fileAt files cur) (externalAccounts files cur curTree wsTree)
        (externalCommodities files cur curTree wsTree))).map toPub := rfl

/-- For analyzer diagnostics of any codes.  Under any of the 8 combinations
    the kept diagnostics are those of the all-on combination minus exactly the codes whose switch
    is off: each switch removes the diagnostics carrying its code(s) and nothing else. -/
theorem settings_orthogonal (s : Settings) (ds : List Diag) :
    filterBy s ds = ds.filter fun d =>
      (s.undeclaredAccounts || d.code != .undeclaredAccount) &&
      (s.undeclaredCommodities || d.code != .undeclaredCommodity) &&
      (s.unbalancedTransactions || (d.code != .unbalanced && d.code != .multipleInferred)) := by
  unfold filterBy
  apply List.filter_congr
  intro d _
  obtain ⟨a, c, u⟩ := s
  cases hcode : d.code <;> cases a <;> cases c <;> cases u <;> rfl

theorem all_on_keeps_everything (ds : List Diag) : filterBy ⟨true, true, true⟩ ds = ds := by
  unfold filterBy
  rw [List.filter_eq_self]
  intro d _
  cases h : d.code <;> simp [shouldIncludeDiagnostic]

/-- What the server publishes (UNDECLARED_* part) under any combination of the three switches,
    expressed through the all-on result: switching undeclaredAccounts off removes exactly the
    UNDECLARED_ACCOUNT warnings, undeclaredCommodities exactly the UNDECLARED_COMMODITY warnings,
    and unbalancedTransactions changes nothing. -/
theorem server_settings_orthogonal (lower : Bytes → Bytes) (files : List Journal) (cur : Nat)
    (curTree : List Nat) (wsTree : Option (List Nat)) (s : Settings) :
    serverAnalyze lower files cur curTree wsTree s =
      (serverAnalyze lower files cur curTree wsTree ⟨true, true, true⟩).filter fun d =>
        (s.undeclaredAccounts || d.code != .undeclaredAccount) &&
        (s.undeclaredCommodities || d.code != .undeclaredCommodity) := by
  unfold serverAnalyze
  simp only [List.filter_map, List.filter_filter]
  congr 1
  apply List.filter_congr
  intro d hd
  -- every diagnostic of the model carries one of the two UNDECLARED codes
  have hcode : d.code = .undeclaredAccount ∨ d.code = .undeclaredCommodity := by
    rw [rule_exact] at hd
    obtain ⟨w, _, rfl⟩ := List.mem_map.mp hd
    unfold render
    cases w.kind <;> simp
  obtain ⟨a, c, u⟩ := s
  rcases hcode with h | h <;> cases a <;> cases c <;>
    simp [shouldIncludeDiagnostic, toPub, h, Function.comp]

/-- The current file counts twice: `analyzeInternal` adds the journal's own declarations to
    external ones that already hold them. -/
theorem mem_sources {f g : Journal → List Bytes} (hfg : ∀ j, f j = g j) (files : List Journal) (cur : Nat)
    (curTree : List Nat) (wsTree : Option (List Nat)) (x : Bytes) :
    x ∈ f (fileAt files cur) ++ ((f (fileAt files cur) ++ declsOf files curTree f) ++ wsDecls files wsTree f) ↔
      x ∈ (relevant ⟨files, cur, curTree, wsTree⟩).flatMap fun i => g (fileAt files i) := by
  cases wsTree <;>
    simp only [hfg, relevant, wsDecls, declsOf, List.flatMap_cons, List.flatMap_append, List.mem_append,
      List.flatMap_nil, List.not_mem_nil, or_false, or_assoc, or_self_left]

/-- The declared sets the server uses are the statement's union: the
    declarations of the current file, of its include tree and of its workspace — with and
    without a workspace, whatever the include tree and the workspace consist of. -/
theorem sources_exact (files : List Journal) (cur : Nat) (curTree : List Nat)
    (wsTree : Option (List Nat)) (x : Bytes) :
    (x ∈ serverDeclaredAccounts files cur curTree wsTree ↔
       x ∈ declaredAccounts ⟨files, cur, curTree, wsTree⟩) ∧
    (x ∈ serverDeclaredCommodities files cur curTree wsTree ↔
       x ∈ declaredCommodities ⟨files, cur, curTree, wsTree⟩) :=
  ⟨mem_sources collectAccounts_eq files cur curTree wsTree x,
   mem_sources collectCommodities_eq files cur curTree wsTree x⟩

/-- The UNDECLARED_* diagnostics the server publishes for the current file are
    the statement's warnings for D = current file ∪ include tree ∪ workspace, filtered by the two
    switches, each rendered as a protocol diagnostic (0-based range of the posting resp. of the
    commodity token, severity Warning). -/
theorem server_exact (lower : Bytes → Bytes) (files : List Journal) (cur : Nat) (curTree : List Nat)
    (wsTree : Option (List Nat)) (s : Settings) :
    serverAnalyze lower files cur curTree wsTree s =
      (published lower ⟨files, cur, curTree, wsTree⟩
        ⟨s.undeclaredAccounts, s.undeclaredCommodities⟩).map renderPub := by
  simp only [serverAnalyze, published]
  rw [rule_exact]
  have hsrc := sources_exact files cur curTree wsTree
  have hj : declaredAccountsOf (fileAt files cur) = collectDeclaredAccounts (fileAt files cur) :=
    (collectAccounts_eq _).symm
  have hc : declaredCommoditiesOf (fileAt files cur) = collectDeclaredCommodities (fileAt files cur) :=
    (collectCommodities_eq _).symm
  rw [hj, hc]
  have hd := declared_order_irrelevant lower (fun x => (hsrc x).1) (fun x => (hsrc x).2)
    (fileAt files cur)
  unfold serverDeclaredAccounts serverDeclaredCommodities at hd
  rw [hd]
  simp only [List.filter_map, List.map_map]
  congr 1
  apply List.filter_congr
  intro w _
  obtain ⟨k, sub, r⟩ := w
  cases k <;> simp [render, enabled, shouldIncludeDiagnostic]

def foo : Bytes := [102, 111, 111]
def fooX : Bytes := [102, 111, 111, 58, 120]
def bar : Bytes := [98, 97, 114]

/-- current file: `account bar`, `include b`, one transaction with a posting to `foo:x`. -/
def cexCur : Journal :=
  { transactions := [{ (default : Transaction) with
      postings := [{ (default : Posting) with account := ⟨fooX, default⟩, range := ⟨⟨5, 5, 40⟩, ⟨5, 25, 60⟩⟩ }] }],
    directives := [.account ⟨bar, default⟩ [] [] [] default],
    comments := [], includes := [⟨[98], default⟩] }

/-- included file: `account foo`. -/
def cexInc : Journal :=
  { transactions := [], directives := [.account ⟨foo, default⟩ [] [] [] default], comments := [], includes := [] }

/-- Before the fix, without a workspace, a declaration made in an included file was not
    consulted: `foo:x` was warned about although `foo` is declared in the include tree
    (replays/C18/include-declarations.jsonl reproduces it against the real server). -/
theorem pinned_include_declarations_counterexample :
    (serverAnalyzeUnfixed goLower [cexCur, cexInc] 0 none ⟨true, true, true⟩).length = 1 ∧
    published goLower ⟨[cexCur, cexInc], 0, [1], none⟩ ⟨true, true⟩ = [] ∧
    serverAnalyze goLower [cexCur, cexInc] 0 [1] none ⟨true, true, true⟩ = [] := by
  decide +kernel

/-- The code as pinned agrees with the repaired code (hence with the statement, by
    `server_exact`) exactly when the include tree of the current file declares nothing beyond what
    the file itself and the workspace declare. -/
theorem pinned_server_exact_partial (lower : Bytes → Bytes) (files : List Journal) (cur : Nat)
    (curTree : List Nat) (wsTree : Option (List Nat)) (s : Settings)
    (gA : ∀ x ∈ declsOf files curTree collectDeclaredAccounts,
      x ∈ collectDeclaredAccounts (fileAt files cur) ∨ x ∈ wsDecls files wsTree collectDeclaredAccounts)
    (gC : ∀ x ∈ declsOf files curTree collectDeclaredCommodities,
      x ∈ collectDeclaredCommodities (fileAt files cur) ∨ x ∈ wsDecls files wsTree collectDeclaredCommodities) :
    serverAnalyzeUnfixed lower files cur wsTree s =
      (published lower ⟨files, cur, curTree, wsTree⟩
        ⟨s.undeclaredAccounts, s.undeclaredCommodities⟩).map renderPub := by
  have drop : ∀ {own tree ws : List Bytes}, (∀ x ∈ tree, x ∈ own ∨ x ∈ ws) →
      ∀ x, x ∈ own ++ ws ↔ x ∈ own ++ ((own ++ tree) ++ ws) := by
    intro own tree ws g x
    simp only [List.mem_append]
    exact ⟨fun h => h.elim Or.inl (Or.inr ∘ Or.inr),
      fun h => h.elim Or.inl fun h => h.elim (fun h => h.elim Or.inl (g x)) Or.inr⟩
  rw [← server_exact]
  simp only [serverAnalyzeUnfixed, serverAnalyze]
  rw [analyze_order_irrelevant lower (fileAt files cur) (drop gA) (drop gC)]
  rfl

/-- Non-vacuity of the guard: with the declaration of `foo` moved into the current file the
    pinned code is right (and the guard is what fails in the counterexample above). -/
example : (∀ x ∈ declsOf [{ cexCur with directives := cexInc.directives }, { cexInc with directives := [] }] [1]
      collectDeclaredAccounts, x ∈ collectDeclaredAccounts
        (fileAt [{ cexCur with directives := cexInc.directives }, { cexInc with directives := [] }] 0) ∨
      x ∈ wsDecls [{ cexCur with directives := cexInc.directives }, { cexInc with directives := [] }] none
        collectDeclaredAccounts) := by
  intro x hx
  simp [declsOf, fileAt, collectDeclaredAccounts, cexInc] at hx

/-- The rule does warn: same files, but nothing declares `foo`. -/
example : (published goLower ⟨[cexCur, { cexInc with directives := [] }], 0, [1], none⟩
    ⟨true, true⟩).length = 1 := by decide

/-- For the lower-casing used in the correspondence runs, lower-casing the name and cutting at the
    first colon commute: "the first segment, lower-cased" and "the first segment of the lower-cased
    name" are the same reading. -/
theorem goLower_firstSegment (s : Bytes) : firstSegment (goLower s) = goLower (firstSegment s) := by
  fun_induction goLower s with
  | case1 r ih => simp [firstSegment, goLower, ih]
  | case2 r ih => simp [firstSegment, goLower, ih]
  | case3 b r h1 h2 ih =>
    by_cases hb : b = 58
    · subst hb; simp [firstSegment, goLower, asciiLower]
    · have hl := asciiLower_ne b hb
      simp only [firstSegment, hb, hl, if_false, ih]
      -- `goLower` lower-cases `b` alone only if neither two-rune pattern starts here: if one did
      -- in the first segment it would in the whole name, against `h1`, `h2`
      rw [goLower.eq_3]
      · intro r' e1 e2
        obtain ⟨r'', hr, _⟩ := firstSegment_cons e2
        exact h1 r'' e1 hr
      · intro r' e1 e2
        obtain ⟨r2, hr2, hs2⟩ := firstSegment_cons e2
        obtain ⟨r3, hr3, _⟩ := firstSegment_cons hs2
        exact h2 r3 e1 (by rw [hr2, hr3])
  | case4 => simp [firstSegment, goLower]

end HL.Props.C18
