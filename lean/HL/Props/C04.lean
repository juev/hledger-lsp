/-
  C04 — Formatting never changes what the journal says.
  The formatter's side of the property (lemmas about numbers and line edits: HL/Lemmas/Number.lean,
  Format.lean); composed with the parser model for the core grammar in HL/Props/C04Core.lean.
  For all other texts the composition "format, apply, parse again" is judged end to end on the
  real code by the oracle of the correspondence check (ops `c05.format` with prop = C04).

    * `nonposting_lines`        edits outside posting lines only remove trailing blanks/tabs;
    * `error_lines_untouched`   a line with a parse error gets no edit at all, so no text the
                                parser failed to understand is deleted;
    * `formatNumber_reads_rounded`, `formatNumber_value`, `formatNumber_value_faithful`
                                what `FormatNumber` writes, read back in the format's own
                                notation, is the quantity rounded to the format's decimals —
                                the same quantity whenever the format has at least as many
                                decimals as the amount, in particular whenever the code's own
                                guard `formatIsFaithful` lets the format be used;
    * counterexamples           why the guard is needed (rounding; the parser's single-mark
                                rule), each with `formatIsFaithful = false`.
-/
import HL.Props.C05
import HL.Lemmas.Number
namespace HL.Props.C04
open HL HL.Ast HL.FmtText HL.Fmt HL.EditSpec HL.NumberRead
open HL.Lemmas.FmtText HL.Lemmas.Format HL.Lemmas.Number HL.Props.C05

/-- Edits on lines that are not posting lines are exactly removals of trailing blanks/tabs. -/
theorem nonposting_lines (j : Journal) (errs : List ParseError) (doc : Bytes)
    (formats : Option Formats) (o : Options) (h : TreeFits doc j) :
    ∀ e ∈ formatText j errs doc formats o,
      ¬ ((e.sl.toNat : Int) ∈ (allPostings j).map postingLine) →
        isTrailingBlankRemoval (splitLines doc) e = true :=
  C05.nonposting_lines j errs doc formats o h

/-- No edit is made on a line on which the parser reported an error. -/
theorem error_lines_untouched (j : Journal) (errs : List ParseError) (doc : Bytes)
    (formats : Option Formats) (o : Options) (h : TreeFits doc j) :
    ∀ e ∈ formatText j errs doc formats o, ∀ pe ∈ errs, (e.sl.toNat : Int) ≠ (pe.pos.line : Int) - 1 := by
  obtain ⟨hsize, hlines, _⟩ := h
  have hs := smallLines_of_doc doc hsize
  rw [formatText_eq]
  generalize effFormats j formats = fm
  generalize hskip : (errs.map fun e => (e.pos.line : Int) - 1) = skip
  intro e he pe hpe heq
  have hmem : (e.sl.toNat : Int) ∈ skip := by
    rw [← hskip, heq]; exact List.mem_map.mpr ⟨pe, hpe, rfl⟩
  rcases List.mem_append.mp he with he | he
  · -- a posting edit: its posting passed the filter
    have hsub := kept_sublist j skip
    obtain ⟨p, hp, hline⟩ := editsFor_line (splitLines doc) hs _ _ (txEdits_shape j doc fm o skip)
      (fun p hp => hlines p (hsub.subset hp)) e he
    obtain ⟨tx, _, hpf⟩ := List.mem_flatMap.mp hp
    exact not_skipped (List.mem_filter.mp hpf).2 (hline ▸ hmem)
  · have := ((trimLoop_spec (splitLines doc) hs _ (splitLines doc) 0 rfl).1 e he).2.2.1
    exact this (List.mem_append_right _ hmem)

/-- `FormatNumber` writes the quantity rounded (half away from zero) to the format's decimals:
    read back in the format's own notation (group marks and blanks dropped, the format's
    decimal mark), the text is exactly that rounded coefficient with that many decimals.
    For every quantity and every well-formed format. -/
theorem formatNumber_reads_rounded (q : Dec) (f : NumberFormat) (hwf : WellFormed f) :
    readWith f (formatNumber q f) = ((round q (pl f)).coef, pl f) := by
  obtain ⟨ip, fp, hs, h1, h2, h3, h4, h5⟩ := formatNumber_shape q f
  rw [hs]
  exact read_shape f hwf _ ip fp (pl f) h1 h2 h3 h4 h5

/-- **The number clause of C04.** If the format has at least as many decimals as the quantity
    carries (`-places ≤ exponent`), the written number denotes the same quantity:
    `coef·10^exp = (coef·10^(exp+places)) / 10^places`. -/
theorem formatNumber_value (q : Dec) (f : NumberFormat) (hwf : WellFormed f)
    (hdec : -((pl f : Nat) : Int) ≤ q.exp) :
    readWith f (formatNumber q f) = (q.coef * 10 ^ (q.exp + (pl f : Nat)).toNat, pl f) := by
  rw [formatNumber_reads_rounded q f hwf, round_exact q (pl f) hdec]

theorem faithful_lossless (q : Dec) (f : NumberFormat) (h : formatIsFaithful q f = true) :
    decEqual (round q (pl f)) q = true := by
  cases hd : decEqual (round q (pl f)) q with
  | true => rfl
  | false =>
    exfalso
    unfold pl at hd
    unfold formatIsFaithful at h
    simp only [hd, Bool.not_false, if_true] at h
    cases h

/-- Whenever the formatter's own guard lets a format be used, the written number, read in the
    format's notation, equals the quantity (`Decimal.Equal`). -/
theorem formatNumber_value_faithful (q : Dec) (f : NumberFormat) (hwf : WellFormed f)
    (h : formatIsFaithful q f = true) :
    decEqual ⟨(readWith f (formatNumber q f)).1, -((readWith f (formatNumber q f)).2 : Int)⟩ q = true := by
  rw [formatNumber_reads_rounded q f hwf]
  have := faithful_lossless q f h
  have he := round_exp q (pl f)
  have : (⟨(round q (pl f)).coef, -((pl f : Nat) : Int)⟩ : Dec) = round q (pl f) := by
    cases hr : round q (pl f) with
    | mk c e => rw [hr] at he; simp only at he; simp [he]
  simp only [this]
  assumption

theorem wellFormed_marks (m o : UInt8) (sep : Bytes) (n : Nat) (b : Bool)
    (hm : m = 46 ∧ o = 44 ∨ m = 44 ∧ o = 46) (hs : sep = [o] ∨ sep = [32] ∨ sep = []) :
    WellFormed ⟨m.toNat, sep, n, b⟩ := by
  show (m.toNat = 46 ∨ m.toNat = 44) ∧ (sep = [] ∨ sep = [44] ∨ sep = [46] ∨ sep = [32]) ∧
    sep ≠ [UInt8.ofNat m.toNat]
  rcases hm with ⟨rfl, rfl⟩ | ⟨rfl, rfl⟩ <;> rcases hs with rfl | rfl | rfl <;> decide

theorem sep_cases (c d : Prop) [Decidable c] [Decidable d] (o : UInt8) :
    (if c then [o] else if d then [32] else [] : Bytes) = [o] ∨
    (if c then [o] else if d then [32] else [] : Bytes) = [32] ∨
    (if c then [o] else if d then [32] else [] : Bytes) = [] := by
  by_cases hc : c
  · rw [if_pos hc]; exact .inl rfl
  · rw [if_neg hc]
    by_cases hd : d
    · rw [if_pos hd]; exact .inr (.inl rfl)
    · rw [if_neg hd]; exact .inr (.inr rfl)

/-- The formats `ParseNumberFormat` produces are well-formed in the sense used above. -/
theorem parseNumberFormat_wellFormed (s : Bytes) : WellFormed (parseNumberFormat s) := by
  unfold parseNumberFormat
  simp only
  generalize extractNumberPart s = np
  generalize lastIndex np 46 = d
  generalize lastIndex np 44 = c
  -- `split` is slow on these nested conditionals; one `by_cases` per test of the source
  by_cases h1 : np.isEmpty = true
  · rw [if_pos h1]; decide
  rw [if_neg h1]
  by_cases h2 : d > c
  · rw [if_pos h2]; exact wellFormed_marks 46 44 _ _ _ (.inl ⟨rfl, rfl⟩) (sep_cases _ _ _)
  rw [if_neg h2]
  by_cases h3 : c > d
  · rw [if_pos h3]; exact wellFormed_marks 44 46 _ _ _ (.inr ⟨rfl, rfl⟩) (sep_cases _ _ _)
  rw [if_neg h3]
  refine wellFormed_marks 46 44 _ _ _ (.inl ⟨rfl, rfl⟩) (.inr ?_)
  by_cases h4 : np.contains 32 = true
  · rw [if_pos h4]; exact .inl rfl
  · rw [if_neg h4]; exact .inr rfl

/-- 1.2345 under a two-decimal format is written `1.23`: a different quantity.  The guard
    refuses the format, so the original spelling is kept. -/
theorem formatNumber_rounds_counterexample :
    let q : Dec := ⟨12345, -4⟩
    let f : NumberFormat := ⟨46, [], 2, true⟩
    formatNumber q f = ([49, 46, 50, 51] : Bytes) ∧ readWith f (formatNumber q f) = (123, 2) ∧
      decEqual ⟨123, -2⟩ q = false ∧ formatIsFaithful q f = false := by decide +kernel

/-- `commodity 1,000 EUR` is read by ParseNumberFormat as "comma decimal, three places"; 1234
    would be written `1234,000`, which the parser's single-mark rule reads as 1 234 000
    (DESIGN 8 #19).  The guard refuses the format. -/
theorem format_misread_counterexample :
    let f := parseNumberFormat (([49, 44, 48, 48, 48, 32, 69, 85, 82] : Bytes))
    let q : Dec := ⟨1234, 0⟩
    f = ⟨44, [], 3, true⟩ ∧ formatNumber q f = ([49, 50, 51, 52, 44, 48, 48, 48] : Bytes) ∧
      singleMarkGrouped (formatNumber q f) = true ∧ formatIsFaithful q f = false := by decide +kernel

/-- 1.2340 under `1.000,000` (lossless: three decimals suffice) would be written `1,234`,
    which the parser reads as 1234.  The guard refuses the format. -/
theorem ambiguousThree_counterexample :
    let f := parseNumberFormat (([49, 46, 48, 48, 48, 44, 48, 48, 48, 32, 66, 84, 67] : Bytes))
    let q : Dec := ⟨12340, -4⟩
    f = ⟨44, [46], 3, true⟩ ∧ formatNumber q f = ([49, 44, 50, 51, 52] : Bytes) ∧ decEqual (round q 3) q = true ∧
      singleMarkGrouped (formatNumber q f) = true ∧ formatIsFaithful q f = false := by decide +kernel

/-- Non-vacuity of `formatNumber_value_faithful`: a grouped, comma-decimal format that is used. -/
example :
    let f := parseNumberFormat (([49, 46, 48, 48, 48, 44, 48, 48, 32, 69, 85, 82] : Bytes))
    let q : Dec := ⟨-12345675, -1⟩
    WellFormed f ∧ formatIsFaithful q f = true ∧ formatNumber q f = ([45, 49, 46, 50, 51, 52, 46, 53, 54, 55, 44, 53, 48] : Bytes) := by decide +kernel

/-- A quoted commodity keeps its quotes, a bare one stays bare (pinned code: quotes lost,
    `"AAPL 2" 3` became `AAPL 23`).  Source `  a:b  "AAPL 2" 3` against `  a:b  AAPL 3`. -/
example :
    let content : Bytes := [32, 32, 97, 58, 98, 32, 32, 34, 65, 65, 80, 76, 32, 50, 34, 32, 51]
    let a : Amount := ⟨⟨3, 0⟩, [51], ⟨[65, 65, 80, 76, 32, 50], .left, ⟨⟨1, 8, 7⟩, ⟨1, 16, 15⟩⟩⟩, false, Rng.zero⟩
    writeAmountWithSign a none content = ([34, 65, 65, 80, 76, 32, 50, 34, 51] : Bytes) ∧
      writeAmountWithSign a none ([32, 32, 97, 58, 98, 32, 32, 65, 65, 80, 76, 32, 51] : Bytes) = ([65, 65, 80, 76, 32, 50, 51] : Bytes) := by decide +kernel

/-- A commodity that stood in double quotes in the source is written back in double quotes —
    also when its symbol is empty (`1 ""`, or a lone `"` before the end of the line): nothing the
    user typed there is deleted.  For every commodity with a real range and every source text. -/
theorem commodityText_keeps_quotes (c : Commodity) (content : Bytes)
    (hq : content[c.range.start.off]? = some 34) (hr : c.range.stop.off > c.range.start.off) :
    commodityText c content = [34] ++ c.symbol ++ [34] := by
  unfold commodityText
  simp [hq, hr]

theorem commodityText_bare (c : Commodity) (content : Bytes)
    (hq : content[c.range.start.off]? ≠ some 34) : commodityText c content = c.symbol := by
  unfold commodityText
  simp [hq]

/-- `commodityText` before the fix "formatting keeps the quotes of an empty quoted commodity":
    only a non-empty symbol was re-quoted. -/
def commodityTextPinned (c : Commodity) (content : Bytes) : Bytes :=
  if !c.symbol.isEmpty && content[c.range.start.off]? == some 34 then [34] ++ c.symbol ++ [34]
  else c.symbol

/-- Pinned code: the amount `1 ""` of `  a:b  1 ""` was written back as `1` — the two quote
    characters were deleted; the repaired code writes `1 ""`. -/
theorem pinned_empty_quoted_commodity_counterexample :
    let content : Bytes := [32, 32, 97, 58, 98, 32, 32, 49, 32, 34, 34]
    let c : Commodity := ⟨[], .right, ⟨⟨1, 10, 9⟩, ⟨1, 12, 11⟩⟩⟩
    let a : Amount := ⟨⟨1, 0⟩, [49], c, false, Rng.zero⟩
    commodityTextPinned c content = [] ∧
      writeAmountWithSign a none content = ([49, 32, 34, 34] : Bytes) := by decide +kernel

end HL.Props.C04
