/-
  C19 — Configuration is total, validated and effective: the property theorems, the helpers that
  speak of the feature switches (`featureOn_*`, `switchAfter`, `lastSwitch`), the rounds of
  configuration changes (`Rounds`) and concrete schedules; the lemmas are in
  HL/Lemmas/Settings.lean, SettingsSpec.lean and SettingsSrv.lean.

  Model: HL/Model/Settings.lean (settings.go, Initialize, the refresh tasks, the loader's cache
  as far as the limits go), HL/Model/FmtWidth.lean (the formatter's width arithmetic in Go ints).
  Statement's rule: HL/Spec/SettingsSpec.lean.  The model's `requestFeature` and
  `shouldIncludeDiagnostic` are compared with the source in HL/Generated/Expect/FeatureGate.lean
  and PureDiag.lean (imported so that the check audits them with this property).

  The model describes the tree after the repairs of the findings wrapper-shadows-siblings,
  unbounded-width-panics, limits-skip-cached-includes, refresh-out-of-order, push-ignored and
  feature-switch-after-init (the request-level `FeatureGate`; `feature_switches_effective`);
  the behaviour of the pinned tree is stated in the `pinned_*_counterexample` theorems.
-/
import HL.Generated.Expect.FeatureGate
import HL.Generated.Expect.PureDiag
import HL.Lemmas.Settings
import HL.Lemmas.SettingsSpec
import HL.Model.FmtWidth
import HL.Lemmas.SettingsSrv
namespace HL.Props.C19
open HL.Settings HL.Lemmas.Settings HL.Lemmas.SettingsSpec HL.Lemmas.SettingsSrv

-- unification would otherwise compare two `normalize` terms by unfolding its nine-statement fold
attribute [local irreducible] normalize

/-- One step of a background refresh task never fails: `result[0]` is guarded by the length
    test, every type assertion in settings.go is of the comma-ok form. -/
theorem refresh_step_total (σ : Srv) (i : Nat) (r : Pull) : ∃ σ', stepTask σ i r = .ok σ' := by
  unfold stepTask
  split <;> try exact ⟨_, rfl⟩
  · split <;> exact ⟨_, rfl⟩
  · rename_i l _
    cases l <;> exact ⟨_, rfl⟩

/-- `Initialize` never fails on any initialization options of any shape. -/
theorem initialize_total (σ : Srv) (p : InitParams) : ∃ r, initializeSrv σ (some p) = .ok r :=
  ⟨_, rfl⟩

/-- The only failure in this area: `Initialize(ctx, nil)` dereferences nil.  The JSON-RPC
    dispatcher always passes a pointer to a decoded struct, so no client can trigger it. -/
theorem initialize_nil_panics (σ : Srv) : initializeSrv σ none = .error .nilDeref := rfl

def wireEvent : Event → Bool
  | .init none => false
  | _ => true

/-- Any sequence of initialisations, change notifications (pulled or pushed),
    background steps and loads, under any interleaving, with payloads and client replies of any
    shape and any value types, runs to completion: no panic branch of the model is reachable.
    (`parseSettingsFromRaw` itself is a total function by structural recursion on the JSON
    value — Lean accepts no other kind.) -/
theorem parse_total (σ : Srv) (es : List Event) (h : ∀ e ∈ es, wireEvent e = true) :
    ∃ σ', run σ es = .ok σ' := by
  induction es generalizing σ with
  | nil => exact ⟨σ, rfl⟩
  | cons e es ih =>
    have hw := h e (List.mem_cons_self ..)
    obtain ⟨σ₁, h₁⟩ : ∃ σ', step σ e = .ok σ' := by
      cases e with
      | init p => cases p with
        | none => cases hw
        | some p => exact ⟨_, rfl⟩
      | task i r => exact refresh_step_total σ i r
      | _ => exact ⟨_, rfl⟩
    obtain ⟨σ₂, h₂⟩ := ih σ₁ (fun e' he' => h e' (List.mem_cons_of_mem _ he'))
    exact ⟨σ₂, by simp only [run, h₁, h₂]⟩

theorem normalize_idempotent (s : Settings) : normalize (normalize s) = normalize s :=
  normal_normalize s

/-- what `Normal` means field by field: counts are positive, the widths lie in their documented
    ranges, the path is not empty -/
theorem normal_iff (s : Settings) :
    Normal s ↔ (0 < s.completion.maxResults ∧
      0 < s.formatting.indentSize ∧ s.formatting.indentSize ≤ 32 ∧
      0 ≤ s.formatting.minAlignmentColumn ∧ s.formatting.minAlignmentColumn ≤ 500 ∧
      s.cli.path ≠ "" ∧ 0 < s.cli.timeout ∧ 0 < s.limits.maxFileSizeBytes ∧
      0 < s.limits.maxIncludeDepth) := by
  constructor
  · intro h
    have h1 := normal_get s h .cMaxResults
    have h2 := normal_get s h .oIndentSize
    have h3 := normal_get s h .oMinAlignmentColumn
    have h4 := normal_get s h .xPath
    have h5 := normal_get s h .xTimeout
    have h6 := normal_get s h .lMaxFileSizeBytes
    have h7 := normal_get s h .lMaxIncludeDepth
    simp only [normLeaf_eq, normVal, HL.Settings.get, Val.i.injEq, Val.s.injEq] at h1 h2 h3 h4 h5 h6 h7
    refine ⟨by omega, by omega, by omega, by omega, by omega, fun c => ?_, by omega, by omega, by omega⟩
    simp [c] at h4
  · intro ⟨h1, h2, h2b, h3, h3b, h4, h5, h6, h7⟩
    apply ext_get
    intro l
    rw [get_normalize, normLeaf_eq]
    cases l <;> try rfl
    all_goals simp only [normVal, HL.Settings.get, Val.i.injEq, if_neg h4]
    all_goals omega

/-- Whatever happens — any payloads, any replies, any interleaving of
    background tasks, for runs of any length — the settings held by the server are always
    normalised. -/
theorem stored_is_normal (hasClient : Bool) (es : List Event) (σ' : Srv)
    (h : run (newServer hasClient) es = .ok σ') : Normal σ'.settings := by
  exact run_invariant (fun σ => Normal σ.settings)
    (step_preserves _ (fun _ _ h => h) (fun _ s _ => normal_normalize s) (fun _ h => h)
      (fun _ h => h) (fun _ _ _ h => h) fun σ f h => (probeLoad_settings σ f).symm ▸ h)
    _ _ es (normal_normalize _) h

/-- Every numeric setting the server holds, at any time, lies inside
    its range: counts, sizes and the timeout are positive, the indent is between 1 and 32, the
    minimum alignment column between 0 and 500 — whatever numbers were sent. -/
theorem stored_is_bounded (hasClient : Bool) (es : List Event) (σ' : Srv)
    (h : run (newServer hasClient) es = .ok σ') :
    1 ≤ σ'.settings.completion.maxResults ∧
    1 ≤ σ'.settings.formatting.indentSize ∧ σ'.settings.formatting.indentSize ≤ maxIndentSize ∧
    0 ≤ σ'.settings.formatting.minAlignmentColumn ∧
    σ'.settings.formatting.minAlignmentColumn ≤ maxMinAlignmentColumn ∧
    1 ≤ σ'.settings.cli.timeout ∧ 1 ≤ σ'.settings.limits.maxFileSizeBytes ∧
    1 ≤ σ'.settings.limits.maxIncludeDepth := by
  have hn := (normal_iff _).mp (stored_is_normal hasClient es σ' h)
  unfold maxIndentSize maxMinAlignmentColumn
  omega

open HL.SettingsSpec (levels levelsIn) in
/-- **parse, field by field.** Over the objects of the `hledger` chain, outermost first: a
    field holds the normalised value of the *last* statement of `applySettingsMap` (objects in
    chain order, statements in source order) whose coercion succeeded, else its normalised
    previous value. -/
theorem parse_field (base : Settings) (j : Json) (l : Leaf) :
    HL.Settings.get (parseSettingsFromRaw base j) l =
      normLeaf l (((allCandidates j l).getLast?).getD (HL.Settings.get base l)) := by
  rw [parse_eq, get_normalize, get_foldl_levels]; rfl

open HL.SettingsSpec (levels) in
/-- For every key: if no statement reading that field finds a
    well-typed value in any object of the chain — the key is absent, its section is not an
    object, the value is null, an array, an object, a number where a boolean is expected, an
    unparsable string … or the payload is not an object at all — the stored field keeps its
    previous value. -/
theorem illtyped_unchanged (base : Settings) (j : Json) (l : Leaf) (hn : Normal base)
    (h : ∀ m ∈ levels j, ∀ e ∈ keyTable, e.leaf = l → coerceLeaf l (entryRaw m e) = none) :
    HL.Settings.get (parseSettingsFromRaw base j) l = HL.Settings.get base l := by
  rw [parse_field]
  have hc : allCandidates j l = [] := List.eq_nil_iff_forall_not_mem.mpr fun w hw => by
    obtain ⟨m, hm, e, he, hl, hw⟩ := mem_allCandidates.mp hw
    rw [h m hm e he hl] at hw; cases hw
  simp only [hc, List.getLast?_nil, Option.getD_none]
  exact normal_get base hn l

/-- the shapes that are ill-typed for each coercion -/
theorem illtyped_shapes :
    (∀ l, coerceLeaf l .null = none) ∧ (∀ l a, coerceLeaf l (.arr a) = none) ∧
    (∀ l o, coerceLeaf l (.obj o) = none) ∧
    (∀ l m e, l.coerce = .toBool → coerceLeaf l (.num m e) = none) ∧
    (∀ l m e, l.coerce = .toString → coerceLeaf l (.num m e) = none) ∧
    (∀ l b, l.coerce ≠ .toBool → coerceLeaf l (.bool b) = none) := by
  refine ⟨coerce_null, fun l _ => coerceLeaf_none l rfl rfl rfl rfl,
    fun l _ => coerceLeaf_none l rfl rfl rfl rfl, ?_, ?_, ?_⟩
  · intro l m e h; unfold coerceLeaf; rw [h]; rfl
  · intro l m e h; unfold coerceLeaf; rw [h]; rfl
  · intro l b h; unfold coerceLeaf; cases hc : l.coerce <;> first | rfl | exact absurd hc h

open HL.SettingsSpec (levels) in
/-- a payload that is not an object changes nothing -/
theorem non_object_unchanged (base : Settings) (j : Json) (hn : Normal base)
    (h : levels j = []) : parseSettingsFromRaw base j = base := by
  apply ext_get
  intro l
  exact illtyped_unchanged base j l hn (fun m hm => by rw [h] at hm; cases hm)

/-- If the last statement that finds a well-typed value for field `l`
    finds `v`, the field becomes `v` (normalised). -/
theorem welltyped_applied (base : Settings) (j : Json) (l : Leaf) (v : Val)
    (hv : (allCandidates j l).getLast? = some v) :
    HL.Settings.get (parseSettingsFromRaw base j) l = normLeaf l v := by
  rw [parse_field]
  simp only [hv, Option.getD_some]

/-- A non-positive number given for a limit, a size, an indent, a
    column or a timeout falls back to the default. -/
theorem nonpositive_defaults (base : Settings) (j : Json) (l : Leaf) (n : Int)
    (hv : (allCandidates j l).getLast? = some (.i n)) (hn : n ≤ 0)
    (hl : l ∈ [Leaf.cMaxResults, .oIndentSize, .xTimeout, .lMaxFileSizeBytes, .lMaxIncludeDepth]
      ∨ (l = .oMinAlignmentColumn)) :
    HL.Settings.get (parseSettingsFromRaw base j) l = HL.Settings.get defaults l := by
  rw [welltyped_applied base j l _ hv, normLeaf_eq]
  simp only [List.mem_cons, List.not_mem_nil, or_false] at hl
  rcases hl with (rfl | rfl | rfl | rfl | rfl) | rfl <;>
    simp only [normVal, HL.Settings.get, defaults, defaultLimits, millisecond, Val.i.injEq] <;>
    omega

/-- A width above its documented maximum is stored as the maximum. -/
theorem above_maximum_clamped (base : Settings) (j : Json) (n : Int) :
    ((allCandidates j .oIndentSize).getLast? = some (.i n) → n > maxIndentSize →
      (parseSettingsFromRaw base j).formatting.indentSize = maxIndentSize) ∧
    ((allCandidates j .oMinAlignmentColumn).getLast? = some (.i n) → n > maxMinAlignmentColumn →
      (parseSettingsFromRaw base j).formatting.minAlignmentColumn = maxMinAlignmentColumn) := by
  unfold maxIndentSize maxMinAlignmentColumn
  constructor <;> intro hv hn <;> have h := welltyped_applied base j _ _ hv <;>
    rw [normLeaf_eq] at h <;> simp only [normVal, HL.Settings.get, Val.i.injEq] at h <;> omega

/-- A negative `formatting.minAlignmentColumn` falls back to the default 0 ("no minimum") like
    the other non-positive numbers; a huge one is reduced to the maximum. -/
theorem minAlignment_examples :
    (parseSettingsFromRaw defaults
      (.obj [("formatting.minAlignmentColumn", .num (-5) 0)])).formatting.minAlignmentColumn = 0 ∧
    (parseSettingsFromRaw defaults
      (.obj [("formatting", .obj [("minAlignmentColumn", .num 1 53)])])).formatting.minAlignmentColumn = 500 ∧
    (parseSettingsFromRaw defaults
      (.obj [("formatting.indentSize", .str "9223372036854775807")])).formatting.indentSize = 32 := by
  decide +kernel

/-- **wrapper, all shapes.**
    * a payload that is not an object: nothing is read;
    * an object without a member `hledger`, or whose member `hledger` is anything but an object
      (null, a number, a string, an array …): the members of the object are read;
    * an object whose member `hledger` is an object: the members of the object are read, then
      the section is read the same way on top of them. -/
theorem wrapper_semantics (base : Settings) :
    (∀ j, (∀ kvs, j ≠ .obj kvs) → parseSettingsFromRaw base j = normalize base) ∧
    (∀ kvs, parseSettingsFromRaw base (.obj kvs) =
      match lookup "hledger" kvs with
      | some (.obj m) => parseSettingsFromRaw (applySettingsMap base kvs) (.obj m)
      | _ => normalize (applySettingsMap base kvs)) := by
  constructor
  · intro j hj
    cases j with
    | obj kvs => exact absurd rfl (hj kvs)
    | _ => rfl
  · intro kvs
    rw [parse_obj, parseNested_lookup]
    cases lookup "hledger" kvs with
    | none => rfl
    | some v => cases v <;> rfl

/-- nothing shadows anything: a recognised well-typed value next to a `hledger` member — of
    whatever type — is read (the two witnesses of the repaired finding
    `wrapper-shadows-siblings`), and the section wins where both give a value -/
theorem wrapper_examples :
    let s0 := normalize defaults
    (parseSettingsFromRaw s0 (.obj [("hledger", .obj []), ("completion", .obj [("maxResults", .num 7 0)])])).completion.maxResults = 7 ∧
    (parseSettingsFromRaw s0 (.obj [("hledger", .null), ("completion.maxResults", .num 7 0)])).completion.maxResults = 7 ∧
    (parseSettingsFromRaw s0 (.obj [("hledger", .num 5 0), ("completion.maxResults", .num 7 0)])).completion.maxResults = 7 ∧
    (parseSettingsFromRaw s0 (.obj [("hledger", .obj [("completion.maxResults", .num 9 0)]),
      ("completion.maxResults", .num 7 0), ("formatting.indentSize", .num 1 1)])).completion.maxResults = 9 ∧
    (parseSettingsFromRaw s0 (.obj [("hledger", .obj [("completion.maxResults", .num 9 0)]),
      ("completion.maxResults", .num 7 0), ("formatting.indentSize", .num 1 1)])).formatting.indentSize = 2 := by
  decide +kernel

open HL.SettingsSpec in
theorem valid_iff_normal (s : Settings) : valid s = true ↔ Normal s := by
  rw [normal_iff]
  unfold valid
  simp only [Bool.and_eq_true, decide_eq_true_eq, and_assoc]

open HL.SettingsSpec in
/-- **effective: the code meets the statement's rule, for every payload.**  For every
    previously stored (validated) settings and every JSON value whatsoever — with or without a
    `hledger` wrapper, the wrapper nested to any depth, settings next to a `hledger` member of
    any type: after `parseSettingsFromRaw` every field is as the rule of `HL.SettingsSpec`
    demands — recognised well-typed values (booleans also as strings in any letter case with
    blanks, integers also as strings or integral floats) are applied, non-positive counts and
    the empty path give the default, widths above their maximum give the maximum, ill-typed and
    unrecognised entries leave the previous value — and the result is validated. -/
theorem effective (prev : Settings) (j : Json) (hv : valid prev = true) :
    specOk prev j (parseSettingsFromRaw prev j) = true := by
  have hN : Normal prev := (valid_iff_normal prev).mp hv
  unfold specOk
  rw [Bool.and_eq_true]
  refine ⟨?_, (valid_iff_normal _).mpr (parse_normal prev j)⟩
  unfold specOkAt
  rw [List.all_eq_true]
  intro l _
  unfold leafOk
  simp only
  split
  · rfl
  · rename_i hun
    have hun' : Class.unspec ∉ mentions l (levels j) := by simpa using hun
    rw [parse_field]
    cases hc : (allCandidates j l).getLast? with
    | none =>
      -- no statement found a value: every mention is ill-typed
      have hnil : allCandidates j l = [] := List.getLast?_eq_none_iff.mp hc
      have hng : goods (mentions l (levels j)) = [] :=
        List.eq_nil_iff_forall_not_mem.mpr fun g hg => by
          obtain ⟨m, hm, hgm⟩ := List.mem_flatMap.mp ((mem_goods _ g).mp hg)
          obtain ⟨e, he, hl, hce⟩ := candidate_of_mention l m _ hgm
          have hr := read_vs_coerce l (entryRaw m e)
          rw [← hce] at hr
          obtain ⟨w, hw, _⟩ := hr
          have : w ∈ allCandidates j l := mem_allCandidates.mpr ⟨m, hm, e, he, hl, hw⟩
          rw [hnil] at this; cases this
      simp only [hng, Option.getD_none]
      rw [normal_get prev hN l]; exact agree_refl _ _
    | some w =>
      simp only [Option.getD_some]
      obtain ⟨m, hm, e, he, hl, hw⟩ := mem_allCandidates.mp (List.mem_of_getLast? hc)
      have hmen' : readLeaf l (entryRaw m e) ∈ mentions l (levels j) :=
        List.mem_flatMap.mpr ⟨m, hm, mention_of_candidate l m e w he hl hw⟩
      have hr := read_vs_coerce l (entryRaw m e)
      cases hrl : readLeaf l (entryRaw m e) with
      | good g =>
        rw [hrl] at hr hmen'
        obtain ⟨w', hw', hag⟩ := hr
        rw [hw] at hw'
        cases hw'
        have hgm : g ∈ goods (mentions l (levels j)) := (mem_goods _ g).mpr hmen'
        cases hgs : goods (mentions l (levels j)) with
        | nil => rw [hgs] at hgm; cases hgm
        | cons g0 gs =>
          simp only
          rw [← hgs, List.any_eq_true]
          exact ⟨g, hgm, hag⟩
      | bad =>
        rw [hrl] at hr
        rw [hr] at hw; cases hw
      | unspec =>
        exfalso
        rw [hrl] at hmen'
        exact hun' hmen'

open HL.SettingsSpec in
/-- non-vacuity: a payload with wrapper, settings next to the wrapper, both key forms, a
    boolean as text, a number as text and a huge width is judged by the rule (no field is
    unspecified), and the result really changed -/
example :
    let j : Json := .obj [("hledger", .obj [("completion", .obj [("maxResults", .str " 7 ")]),
      ("features.hover", .str " FALSE "), ("formatting.indentSize", .num 0 0)]),
      ("formatting.minAlignmentColumn", .num 1 40), ("cli.timeout", .num 5 0)]
    valid (normalize defaults) = true ∧
    (Leaf.all.all fun l => !(mentions l (levels j)).contains .unspec) = true ∧
    (parseSettingsFromRaw (normalize defaults) j).completion.maxResults = 7 ∧
    (parseSettingsFromRaw (normalize defaults) j).features.hover = false ∧
    (parseSettingsFromRaw (normalize defaults) j).formatting.indentSize = 4 ∧
    (parseSettingsFromRaw (normalize defaults) j).formatting.minAlignmentColumn = 500 ∧
    (parseSettingsFromRaw (normalize defaults) j).cli.timeout = 5000000 := by
  decide +kernel

/-- **Out-of-order replies: the latest request wins.**  A server that asks its client
    (`workspace.configuration` announced) receives any number of change notifications in a
    row — `qs`, then `p` — and after that the refresh tasks, the new ones and any older ones
    still in flight, take their steps in ANY order whatsoever (`es` is an arbitrary list of
    task steps: any interleaving, any order of reply processing, steps of finished tasks,
    anything), the client answering the LATEST request with `p` (and the superseded requests
    with anything at all).  Once no task is in flight, the settings are exactly `p` applied to
    the settings from before the burst: no superseded answer is ever stored, in no order. -/
theorem burst_latest_wins (σ : Srv) (hc : σ.hasClient = true) (hs : σ.supportsCfg = true)
    (hwf : WF σ) (qs : List Json) (p : Json) (es : List Event)
    (hes : ∀ e ∈ es, ∃ i r, e = .task i r ∧
      (i = σ.tasks.length + qs.length → ∃ xs, r = .items (p :: xs)))
    (σ' : Srv)
    (hrun : run σ ((qs ++ [p]).map .didChangeConfiguration ++ es) = .ok σ') :
    σ'.hasClient = true ∧ σ'.supportsCfg = true ∧ WF σ' ∧
    (quiescent σ' = true → σ'.settings = parseSettingsFromRaw σ.settings p) := by
  obtain ⟨σ₁, h1, hset, hc1, hs1, hwf1, hlen⟩ := run_changes qs σ hc hs hwf
  have hb := spawnRefresh_burst σ₁ p hc1 hs1 hwf1
  rw [List.map_append, List.append_assoc, run_append, h1] at hrun
  simp only [List.map_cons, List.map_nil, List.singleton_append, run,
    step_change_pull σ₁ p hc1 hs1] at hrun
  rw [hlen] at hb
  obtain ⟨hB, hfin⟩ := newest_wins _ _ _ _ _ _ es hb hes hrun
  refine ⟨hB.frame.hc, hB.frame.hs, wf_of_frame _ _ _ hB.frame, fun hq => ?_⟩
  rw [hfin hq, hset]

/-- Rounds of configuration changes: in each round any number of notifications arrive in a row
    (`qs`, then `p`), the tasks run under any schedule (`es`) as in `burst_latest_wins`, and the
    round ends when no task is in flight. -/
inductive Rounds : Srv → List (List Json × Json) → Srv → Prop
  | nil (σ : Srv) : Rounds σ [] σ
  | cons (σ σ₁ σ₂ : Srv) (qs : List Json) (p : Json) (es : List Event) (bs : List (List Json × Json))
      (hes : ∀ e ∈ es, ∃ i r, e = .task i r ∧
        (i = σ.tasks.length + qs.length → ∃ xs, r = .items (p :: xs)))
      (hrun : run σ ((qs ++ [p]).map .didChangeConfiguration ++ es) = .ok σ₁)
      (hq : quiescent σ₁ = true) (rest : Rounds σ₁ bs σ₂) : Rounds σ ((qs, p) :: bs) σ₂

/-- For every sequence of rounds, of any length — in particular for every
    sequence of changes each handled before the next arrives (`qs = []` in every round), under
    every schedule of the task steps — the settings at the end are the left fold of
    `parseSettingsFromRaw` over the latest payload of each round, starting from the settings at
    the beginning.  Whatever order the replies were processed in. -/
theorem sequence_fold (σ σ' : Srv) (bs : List (List Json × Json)) (hc : σ.hasClient = true)
    (hs : σ.supportsCfg = true) (hwf : WF σ) (h : Rounds σ bs σ') :
    σ'.settings = (bs.map (·.2)).foldl parseSettingsFromRaw σ.settings := by
  induction h with
  | nil σ => rfl
  | cons σ σ₁ σ₂ qs p es bs hes hrun hq _ ih =>
    obtain ⟨hc1, hs1, hwf1, hfin⟩ := burst_latest_wins σ hc hs hwf qs p es hes σ₁ hrun
    rw [ih hc1 hs1 hwf1, hfin hq]
    rfl

/-- Initialisation applies the options to the initial settings and gates the capabilities by
    the feature switches that result. -/
theorem initialize_effect (σ : Srv) (p : InitParams) :
    ∃ σ' caps, initializeSrv σ (some p) = .ok (σ', caps) ∧
      σ'.settings = parseSettingsFromRaw σ.settings p.options ∧
      caps = capsOf σ'.settings ∧
      σ'.supportsCfg = (p.workspaceCfg.getD σ.supportsCfg) ∧
      σ'.tasks = σ.tasks ∧ σ'.refreshSeq = σ.refreshSeq ∧ σ'.hasClient = σ.hasClient := by
  obtain ⟨w, o⟩ := p
  cases w <;>
    exact ⟨_, _, rfl, (setSettings_settings _ _).trans (parse_normal _ _), rfl, rfl, rfl, rfl, rfl⟩

/-- From a fresh server: `initialize` with options `opts` from a client
    that announces `workspace.configuration`, then any rounds of changes: the settings are the
    fold of `parseSettingsFromRaw` over `opts` and the latest payload of each round, starting
    from the defaults. -/
theorem sequence_fold_from_init (opts : Json) (bs : List (List Json × Json)) (σ₁ σ' : Srv)
    (hinit : step (newServer true) (.init (some ⟨some true, opts⟩)) = .ok σ₁)
    (h : Rounds σ₁ bs σ') :
    σ'.settings = (opts :: bs.map (·.2)).foldl parseSettingsFromRaw (normalize defaults) := by
  obtain ⟨σ₀, caps, h1, hset, _, hcfg, htasks, hseq, hcl⟩ :=
    initialize_effect (newServer true) ⟨some true, opts⟩
  simp only [step, h1, Except.map, Except.ok.injEq] at hinit
  subst hinit
  have hwf : WF σ₀ := by
    intro t ht; rw [htasks] at ht; cases ht
  rw [sequence_fold σ₀ σ' bs (by rw [hcl]; rfl) (by rw [hcfg]; rfl) hwf h, hset]
  rfl

/-- the task numbers never exceed `refreshSeq`, in every reachable state -/
theorem wf_reachable (hasClient : Bool) (es : List Event) (σ' : Srv)
    (h : run (newServer hasClient) es = .ok σ') : WF σ' :=
  run_invariant WF
    (step_preserves WF (fun _ _ h => h) (fun _ _ h => h)
      (fun σ h t ht => Nat.le_succ_of_le (h t ht)) spawnRefresh_wf setPc_wf
      fun σ f h => by unfold probeLoad; dsimp only; split <;> exact h)
    _ _ es (by intro _ h; cases h) h

/-- A superseded answer is never stored: a step of a task whose number is not the newest
    leaves the settings alone, whatever the reply. -/
theorem superseded_never_stores (σ σ' : Srv) (i : Nat) (r : Pull) (t : Task)
    (ht : σ.tasks[i]? = some t) (hold : t.seq ≠ σ.refreshSeq) (h : stepTask σ i r = .ok σ') :
    σ'.settings = σ.settings := by
  rcases stepTask_cases σ σ' i r h with
    rfl | ⟨t', ht', ⟨_, rfl⟩ | ⟨_, rfl⟩ | ⟨q, _, _, rfl⟩ | ⟨x, xs, _, rfl⟩⟩ <;> try rfl
  obtain rfl : t = t' := Option.some.inj (ht.symm.trans ht')
  exact (applyConfiguration_settings σ t.seq x).trans (if_neg hold)

/-- **Pushed settings are applied** (finding `push-ignored`, repaired): without a client that
    announced `workspace.configuration`, the settings carried by the notification are parsed
    on top of the stored ones, at once, and no task is started. -/
theorem push_applied (σ : Srv) (p : Json) (h : (σ.hasClient && σ.supportsCfg) = false)
    (hn : Normal σ.settings) :
    ∃ σ', step σ (.didChangeConfiguration p) = .ok σ' ∧
      σ'.settings = parseSettingsFromRaw σ.settings p ∧ σ'.tasks = σ.tasks ∧
      σ'.hasClient = σ.hasClient ∧ σ'.supportsCfg = σ.supportsCfg := by
  refine ⟨_, rfl, ?_⟩
  unfold didChangeConfiguration
  simp only [h, Bool.false_eq_true, if_false]
  have happ (q : Json) :
      let τ := applyConfiguration (nextRefresh σ) (nextRefresh σ).refreshSeq q
      τ.settings = parseSettingsFromRaw σ.settings q ∧ τ.tasks = σ.tasks ∧
        τ.hasClient = σ.hasClient ∧ τ.supportsCfg = σ.supportsCfg := by
    obtain ⟨a1, _, a3, a4⟩ := applyConfiguration_tasks (nextRefresh σ) (nextRefresh σ).refreshSeq q
    exact ⟨by rw [applyConfiguration_settings]; exact if_pos rfl, a1, a3, a4⟩
  cases p with
  | null => exact ⟨(hn.symm : σ.settings = parseSettingsFromRaw σ.settings .null), rfl, rfl, rfl⟩
  | _ => exact happ _

/-- Any number of change notifications to a server
    that cannot ask: the settings are the left fold of `parseSettingsFromRaw` over the pushed
    payloads. -/
theorem sequence_fold_push (σ : Srv) (ps : List Json) (h : (σ.hasClient && σ.supportsCfg) = false)
    (hn : Normal σ.settings) :
    ∃ σ', run σ (ps.map .didChangeConfiguration) = .ok σ' ∧
      σ'.settings = ps.foldl parseSettingsFromRaw σ.settings := by
  induction ps generalizing σ with
  | nil => exact ⟨σ, rfl, rfl⟩
  | cons p ps ih =>
    obtain ⟨σ₁, h1, hset, _, hc1, hs1⟩ := push_applied σ p h hn
    obtain ⟨σ₂, h2, hfold⟩ := ih σ₁ (by rw [hc1, hs1]; exact h) (by rw [hset]; exact parse_normal _ _)
    refine ⟨σ₂, ?_, ?_⟩
    · simp only [List.map_cons, run, h1]; exact h2
    · rw [hfold, hset]; rfl

/-- a feature switch is an ordinary boolean field of the settings -/
theorem get_feature (s : Settings) (f : Feature) :
    HL.Settings.get s f.leaf = .b (featureOn s f) := by cases f <;> rfl

/-- The value of switch `f` after the payload `p`: the last recognised, well-typed value the
    payload gives for it (any object of the `hledger` chain, either key form), else the value
    it had. -/
def switchAfter (f : Feature) (b : Bool) (p : Json) : Bool :=
  match (allCandidates p f.leaf).getLast? with
  | some (.b v) => v
  | _ => b

/-- … and after a whole sequence of payloads -/
def lastSwitch (f : Feature) (ps : List Json) (b0 : Bool) : Bool := ps.foldl (switchAfter f) b0

/-- one payload, one switch -/
theorem featureOn_parse (s : Settings) (p : Json) (f : Feature) :
    featureOn (parseSettingsFromRaw s p) f = switchAfter f (featureOn s f) p := by
  have h := parse_field s p f.leaf
  rw [get_feature, get_feature, normLeaf_eq] at h
  unfold switchAfter
  cases hc : (allCandidates p f.leaf).getLast? with
  | none => rw [hc, Option.getD_none, normVal_b] at h; exact Val.b.inj h
  | some w =>
    -- every value a payload can assign to a feature switch is a boolean
    obtain ⟨m, _, e, _, _, hw⟩ := mem_allCandidates.mp (List.mem_of_getLast? hc)
    have ht := coerceLeaf_typeOK _ _ _ hw
    cases w with
    | b v => rw [hc, Option.getD_some, normVal_b] at h; exact Val.b.inj h
    | _ => cases f <;> cases ht

/-- any sequence of payloads, one switch -/
theorem featureOn_fold (ps : List Json) (s : Settings) (f : Feature) :
    featureOn (ps.foldl parseSettingsFromRaw s) f = lastSwitch f ps (featureOn s f) := by
  induction ps generalizing s with
  | nil => rfl
  | cons p ps ih =>
    simp only [List.foldl_cons, lastSwitch]
    rw [ih, featureOn_parse]
    rfl

/-- every switch is on in a fresh server -/
theorem featureOn_fresh (f : Feature) : featureOn (normalize defaults) f = true := by
  cases f <;> decide +kernel

theorem featureOfMethod_none (m : String) (t : List (String × Feature)) (h : ∀ f, (m, f) ∉ t) :
    featureOfMethod m t = none := by
  induction t with
  | nil => rfl
  | cons x t ih =>
    obtain ⟨a, g⟩ := x
    rw [featureOfMethod, if_neg fun (ha : a = m) => h g (ha ▸ List.mem_cons_self ..)]
    exact ih fun f hf => h f (List.mem_cons_of_mem _ hf)

theorem featureOfMethod_mem (m : String) (f : Feature) (t : List (String × Feature))
    (hnd : (t.map (·.1)).Nodup) (h : (m, f) ∈ t) : featureOfMethod m t = some f := by
  induction t with
  | nil => cases h
  | cons x t ih =>
    obtain ⟨a, g⟩ := x
    rw [List.map_cons, List.nodup_cons] at hnd
    rw [featureOfMethod]
    rcases List.mem_cons.mp h with h | h
    · cases h; rw [if_pos rfl]
    · rw [if_neg fun (ha : a = m) => hnd.1 (ha ▸ List.mem_map.mpr ⟨_, h, rfl⟩)]
      exact ih hnd.2 h

/-- **The gate is the switch**: for each of the eight switches enforced by `FeatureGate`, and
    each request method the gate's table files under it, what the client receives — the
    handler's answer or the gate's `null` — is decided by the switch as stored now; a method
    that is not in the table always reaches its handler.  (`requestFeature` is the source's
    table: `HL.Generated.Expect.feature_gate_table`; the served handler passes through the
    gate: `feature_gate_chained`.) -/
theorem gate_is_switch (σ : Srv) {α : Type} (full : α) :
    (∀ m f, (m, f) ∈ requestFeature → dispatch σ m full = respond σ f (some full) none) ∧
    (∀ m, (∀ f, (m, f) ∉ requestFeature) → dispatch σ m full = some full) ∧
    (∀ f, f ≠ .diagnostics → f ≠ .inlineCompletion → ∃ m, (m, f) ∈ requestFeature) := by
  refine ⟨fun m f hm => ?_, fun m hm => ?_, fun f h1 h2 => ?_⟩
  · unfold dispatch gatePasses respond
    rw [featureOfMethod_mem m f _ (by decide) hm]
  · unfold dispatch gatePasses
    rw [featureOfMethod_none m _ hm]
    rfl
  · have : f ∈ requestFeature.map (·.2) := by
      cases f <;> first | decide | exact absurd rfl h1 | exact absurd rfl h2
    obtain ⟨⟨m, _⟩, hm, rfl⟩ := List.mem_map.mp this
    exact ⟨m, hm⟩

/-- A server that asks its client: initialisation with any
    options, then any number of rounds of configuration changes, of any length, overlapping in
    any way, the answers handled in any order (`Rounds`, as in `sequence_fold`).  Afterwards,
    for EACH of the ten feature switches, a request of that feature is answered by its handler
    iff the LAST recognised, well-typed value delivered for the switch — by the options or by
    the latest payload of some round — is `true` (no such value: the default, on); otherwise
    it gets the empty answer.  No guard: what `Initialize` advertised is irrelevant. -/
theorem feature_switches_effective (opts : Json) (bs : List (List Json × Json)) (σ₁ σ' : Srv)
    (hinit : step (newServer true) (.init (some ⟨some true, opts⟩)) = .ok σ₁)
    (h : Rounds σ₁ bs σ') (f : Feature) {α : Type} (full empty : α) :
    respond σ' f full empty =
      if lastSwitch f (opts :: bs.map (·.2)) true then full else empty := by
  unfold respond
  rw [sequence_fold_from_init opts bs σ₁ σ' hinit h, featureOn_fold, featureOn_fresh]

/-- … from any state of such a server (not only a fresh one) -/
theorem feature_switches_effective_from (σ σ' : Srv) (bs : List (List Json × Json))
    (hc : σ.hasClient = true) (hs : σ.supportsCfg = true) (hwf : WF σ) (h : Rounds σ bs σ')
    (f : Feature) {α : Type} (full empty : α) :
    respond σ' f full empty =
      if lastSwitch f (bs.map (·.2)) (featureOn σ.settings f) then full else empty := by
  unfold respond
  rw [sequence_fold σ σ' bs hc hs hwf h, featureOn_fold]

/-- **… and for a client that cannot be asked**: initialisation with any options (the client
    did not announce `workspace.configuration`, or said `false`, or there is no client), then
    any number of `didChangeConfiguration` notifications carrying settings: the same
    statement, over the options and the pushed payloads. -/
theorem feature_switches_effective_push (hasClient : Bool) (cfg : Option Bool) (opts : Json)
    (ps : List Json) (hcfg : (hasClient && cfg.getD false) = false)
    (f : Feature) {α : Type} (full empty : α) :
    ∃ σ', run (newServer hasClient) (.init (some ⟨cfg, opts⟩) :: ps.map .didChangeConfiguration) = .ok σ' ∧
      respond σ' f full empty = if lastSwitch f (opts :: ps) true then full else empty := by
  obtain ⟨σ₀, caps, h1, hset, _, hsup, _, _, hcl⟩ := initialize_effect (newServer hasClient) ⟨cfg, opts⟩
  have hno : (σ₀.hasClient && σ₀.supportsCfg) = false := by
    rw [hcl, hsup]; exact hcfg
  obtain ⟨σ', hrun, hfold⟩ := sequence_fold_push σ₀ ps hno (by rw [hset]; exact parse_normal _ _)
  refine ⟨σ', ?_, ?_⟩
  · simp only [run, step, h1, Except.map]
    exact hrun
  · unfold respond
    rw [hfold, hset, ← List.foldl_cons (f := parseSettingsFromRaw), featureOn_fold]
    show (if lastSwitch f (opts :: ps) (featureOn (normalize defaults) f) = true then full else empty) = _
    rw [featureOn_fresh]

/-- The finding's shape, without its guard: whatever was advertised and whatever came before,
    once the latest payload says `false` for a switch, requests of that feature get the empty
    answer; once it says `true`, the handler answers. -/
theorem switched_off_answers_empty (s : Settings) (ps : List Json) (p : Json) (f : Feature) (v : Bool)
    (hv : (allCandidates p f.leaf).getLast? = some (.b v)) :
    featureOn ((ps ++ [p]).foldl parseSettingsFromRaw s) f = v := by
  rw [List.foldl_append]
  simp only [List.foldl_cons, List.foldl_nil]
  rw [featureOn_parse]
  unfold switchAfter
  rw [hv]

/-- At initialisation the two agree: a feature is advertised iff its requests are answered
    (the capabilities are not registered again later; the requests follow the switch). -/
theorem initialize_consistent (σ : Srv) (p : InitParams) (f : Feature) {α : Type} (full empty : α) :
    ∃ σ' caps, initializeSrv σ (some p) = .ok (σ', caps) ∧
      (∀ b, caps.advertises f = some b → respond σ' f full empty = if b then full else empty) := by
  refine ⟨_, _, rfl, ?_⟩
  intro b hb
  cases f <;> simp only [Caps.advertises, capsOf, Option.some.injEq, reduceCtorEq] at hb <;>
    (subst hb; rfl)

def finalSettings : Except Panic Srv → Option Settings
  | .ok σ => some σ.settings
  | .error _ => none

def isQuiescent : Except Panic Srv → Bool
  | .ok σ => quiescent σ
  | .error _ => false

def p5 : Json := .obj [("completion.maxResults", .num 5 0)]

def p7 : Json := .obj [("completion.maxResults", .num 7 0)]

def pIndent2 : Json := .obj [("formatting.indentSize", .num 1 1)]

def inited : List Event := [.init (some ⟨some true, .null⟩)]

/-- non-vacuity of `burst_latest_wins` / `sequence_fold`, and the schedule of the repaired
    finding `refresh-out-of-order`: three requests in flight (5, an indent, 7), every task
    sends its request, the answers are processed in the order 3rd, 1st, 2nd — and in the order
    2nd, 3rd, 1st.  No task is left; the server holds 7, and the superseded indent was never
    stored. -/
example :
    let burst : List Event := inited ++
      [.didChangeConfiguration p5, .didChangeConfiguration pIndent2, .didChangeConfiguration p7,
       .task 0 .err, .task 1 .err, .task 2 .err]
    let a := run (newServer true) (burst ++
      [.task 2 (.items [p7]), .task 2 .err, .task 0 (.items [p5]), .task 0 .err,
       .task 1 (.items [pIndent2]), .task 1 .err])
    let b := run (newServer true) (burst ++
      [.task 1 (.items [pIndent2]), .task 2 (.items [p7]), .task 1 .err, .task 0 (.items [p5]),
       .task 2 .err, .task 0 .err])
    isQuiescent a = true ∧ isQuiescent b = true ∧
    (finalSettings a).map (fun s => (s.completion.maxResults, s.formatting.indentSize)) = some (7, 4) ∧
    (finalSettings b).map (fun s => (s.completion.maxResults, s.formatting.indentSize)) = some (7, 4) := by
  decide +kernel

/-- serial changes fold, pulled or pushed -/
example :
    (finalSettings (run (newServer true) (inited ++
      changeEvents 0 .null (.items [p5]) ++ changeEvents 1 .null (.items [pIndent2])))).map
        (fun s => (s.completion.maxResults, s.formatting.indentSize)) = some (5, 2) ∧
    (finalSettings (run (newServer true)
      [.init (some ⟨some false, .null⟩), .didChangeConfiguration (.obj [("hledger", p5)]),
       .didChangeConfiguration pIndent2])).map
        (fun s => (s.completion.maxResults, s.formatting.indentSize)) = some (5, 2) := by
  decide +kernel

def afterInit : Srv := match run (newServer true) inited with | .ok σ => σ | .error _ => newServer true

/-- non-vacuity of `sequence_fold`: two rounds — three overlapping changes answered in the order
    3rd, 1st, 2nd, then a single change — do form `Rounds`, and fold to (7, 2). -/
example : ∃ σ', Rounds afterInit [([p5, pIndent2], p7), ([], pIndent2)] σ' ∧
    (σ'.settings.completion.maxResults, σ'.settings.formatting.indentSize) = (7, 2) := by
  refine ⟨_, Rounds.cons _ _ _ [p5, pIndent2] p7
    [.task 0 .err, .task 1 .err, .task 2 (.items [p7]), .task 2 (.items [p7]), .task 2 (.items [p7]),
     .task 0 (.items [p5]), .task 0 .err, .task 1 (.items [pIndent2]), .task 1 .err] _ ?_ rfl ?_
    (Rounds.cons _ _ _ [] pIndent2
      [.task 3 (.items [pIndent2]), .task 3 (.items [pIndent2]), .task 3 (.items [pIndent2])] [] ?_ rfl ?_ (Rounds.nil _)), ?_⟩
  · intro e he
    simp only [List.mem_cons, List.not_mem_nil, or_false] at he
    rcases he with rfl | rfl | rfl | rfl | rfl | rfl | rfl | rfl | rfl <;>
      first
      | exact ⟨_, _, rfl, fun h => ⟨[], rfl⟩⟩
      | exact ⟨_, _, rfl, fun h => absurd h (by decide +kernel)⟩
  · decide +kernel
  · intro e he
    simp only [List.mem_cons, List.not_mem_nil, or_false] at he
    rcases he with rfl | rfl | rfl <;>
      first
      | exact ⟨_, _, rfl, fun h => ⟨[], rfl⟩⟩
      | exact ⟨_, _, rfl, fun h => absurd h (by decide +kernel)⟩
  · decide +kernel
  · decide +kernel

def fsOff : Json := .obj [("features", .obj [("hover", .bool false)])]

def fsBack : Json := .obj [("hledger", .obj [("features.hover", .str " TRUE "),
  ("features.semanticTokens", .str "false")])]

def srvOf (r : Except Panic Srv) : Srv := match r with | .ok σ => σ | .error _ => newServer true

def fsEs1 : List Event := [.task 0 (.items [fsOff]), .task 0 (.items [fsOff]), .task 0 (.items [fsOff])]

def fsS2 : Srv := srvOf (run afterInit (.didChangeConfiguration fsOff :: fsEs1))

def fsEs2 : List Event := [.task 1 .err, .task 2 (.items [fsBack]), .task 2 (.items [fsBack]),
  .task 2 (.items [fsBack]), .task 1 (.items [p5]), .task 1 .err]

def fsS3 : Srv := srvOf (run fsS2 (.didChangeConfiguration p5 :: .didChangeConfiguration fsBack :: fsEs2))

/-- non-vacuity of `feature_switches_effective` (and the replay of the repaired finding):
    initialisation with every feature on, hover advertised; a change — pulled — says
    `features.hover = false`: hover requests get `null`, completion is still answered; in a
    second round two changes overlap, the later one switches hover on again and semantic tokens
    off through the dotted keys, as text, inside the `hledger` wrapper.  These runs do form
    `Rounds`, and the gate follows. -/
example :
    step (newServer true) (.init (some ⟨some true, .null⟩)) = .ok afterInit ∧
    Rounds afterInit [([], fsOff)] fsS2 ∧ Rounds afterInit [([], fsOff), ([p5], fsBack)] fsS3 ∧
    (capsOf afterInit.settings).hoverProvider = true ∧
    dispatch afterInit "textDocument/hover" "H" = some "H" ∧
    dispatch fsS2 "textDocument/hover" "H" = none ∧
    dispatch fsS2 "textDocument/completion" "C" = some "C" ∧
    dispatch fsS3 "textDocument/hover" "H" = some "H" ∧
    dispatch fsS3 "textDocument/semanticTokens/full/delta" "T" = none ∧
    dispatch fsS3 "textDocument/definition" "D" = some "D" ∧
    lastSwitch .hover [.null, fsOff] true = false ∧
    lastSwitch .hover [.null, fsOff, fsBack] true = true ∧
    lastSwitch .semanticTokens [.null, fsOff, fsBack] true = false ∧
    (Feature.all.map fun f => lastSwitch f [.null, fsOff] true) =
      [false, true, true, true, true, true, true, true, true, true] := by
  have hes1 : ∀ e ∈ fsEs1, ∃ i r, e = .task i r ∧
      (i = afterInit.tasks.length + ([] : List Json).length → ∃ xs, r = .items (fsOff :: xs)) := by
    intro e he
    simp only [fsEs1, List.mem_cons, List.not_mem_nil, or_false] at he
    rcases he with rfl | rfl | rfl <;> exact ⟨_, _, rfl, fun _ => ⟨[], rfl⟩⟩
  have hes2 : ∀ e ∈ fsEs2, ∃ i r, e = .task i r ∧
      (i = fsS2.tasks.length + [p5].length → ∃ xs, r = .items (fsBack :: xs)) := by
    intro e he
    simp only [fsEs2, List.mem_cons, List.not_mem_nil, or_false] at he
    rcases he with rfl | rfl | rfl | rfl | rfl | rfl <;>
      first
      | exact ⟨_, _, rfl, fun _ => ⟨[], rfl⟩⟩
      | exact ⟨_, _, rfl, fun h => absurd h (by decide +kernel)⟩
  have r2 : Rounds fsS2 [([p5], fsBack)] fsS3 :=
    Rounds.cons fsS2 fsS3 fsS3 [p5] fsBack fsEs2 [] hes2 rfl (by decide +kernel) (Rounds.nil _)
  refine ⟨rfl, Rounds.cons afterInit fsS2 fsS2 [] fsOff fsEs1 [] hes1 rfl (by decide +kernel) (Rounds.nil _),
    Rounds.cons afterInit fsS2 fsS3 [] fsOff fsEs1 _ hes1 rfl (by decide +kernel) r2, ?_⟩
  decide +kernel

def pinnedServer (supportsCfg : Bool) : SrvP := ⟨normalizePinned defaults, supportsCfg, true, []⟩

/-- **Finding `refresh-out-of-order`, pinned code.** Two changes, 5 then 7; both refresh tasks
    ask; the client's answer to the second request is processed first.  At rest the pinned
    server holds 5 while the latest request said 7.  The repaired model, same schedule: 7. -/
theorem pinned_refresh_out_of_order_counterexample :
    ((runP (pinnedServer true)
      [.didChangeConfiguration p5, .didChangeConfiguration p7,
       .task 0 .err, .task 1 .err,                        -- both send their request
       .task 1 (.items [p7]), .task 1 .err, .task 1 .err,  -- second answered, parsed, stored
       .task 0 (.items [p5]), .task 0 .err, .task 0 .err]).settings.completion.maxResults = 5) ∧
    ((finalSettings (run (newServer true) (inited ++
      [.didChangeConfiguration p5, .didChangeConfiguration p7,
       .task 0 .err, .task 1 .err,
       .task 1 (.items [p7]), .task 1 .err,
       .task 0 (.items [p5]), .task 0 .err]))).map (·.completion.maxResults) = some 7) := by
  decide +kernel

/-- **Lost update, pinned code.**  Two changes touching different fields, both tasks read the
    settings before either stores: the first task's update is lost (50, 2).  In the repaired
    code reading, parsing and storing is one step under `refreshMu`, and only the newest task
    performs it. -/
theorem pinned_lost_update_counterexample :
    (let s := (runP (pinnedServer true)
      [.didChangeConfiguration p5, .didChangeConfiguration pIndent2,
       .task 0 .err, .task 1 .err,
       .task 0 (.items [p5]), .task 1 (.items [pIndent2]),   -- replies arrive
       .task 0 .err, .task 1 .err,                            -- both read + parse
       .task 0 .err, .task 1 .err]).settings                  -- both store
     (s.completion.maxResults, s.formatting.indentSize)) = (50, 2) := by
  decide +kernel

/-- **Finding `push-ignored`, pinned code.** A client that did not announce
    `workspace.configuration`: the pinned server never pulls and never looks at the settings
    carried by `didChangeConfiguration` — a change has no effect.  Repaired: 5. -/
theorem pinned_push_ignored_counterexample :
    ((runP (pinnedServer false)
      [.didChangeConfiguration p5, .task 0 .err, .task 0 .err, .task 0 .err]).settings.completion.maxResults = 50) ∧
    ((finalSettings (run (newServer true)
      [.init (some ⟨some false, .null⟩), .didChangeConfiguration p5])).map
        (·.completion.maxResults) = some 5) := by
  decide +kernel

open HL.SettingsSpec in
/-- **Finding `wrapper-shadows-siblings`, pinned code.** `{"hledger": {}, "completion":
    {"maxResults": 7}}` and `{"hledger": null, "completion.maxResults": 7}`: the pinned parser
    never reads the recognised, well-typed 7 next to the `hledger` member and violates the
    rule; the repaired one reads it (and meets the rule, `effective`). -/
theorem pinned_wrapper_shadows_counterexample :
    let j1 : Json := .obj [("hledger", .obj []), ("completion", .obj [("maxResults", .num 7 0)])]
    let j2 : Json := .obj [("hledger", .null), ("completion.maxResults", .num 7 0)]
    let s0 := normalize defaults
    (parseSettingsFromRawPinned s0 j1).completion.maxResults = 50 ∧
    specOk s0 j1 (parseSettingsFromRawPinned s0 j1) = false ∧
    (parseSettingsFromRawPinned s0 j2).completion.maxResults = 50 ∧
    specOk s0 j2 (parseSettingsFromRawPinned s0 j2) = false ∧
    (parseSettingsFromRaw s0 j1).completion.maxResults = 7 ∧
    (parseSettingsFromRaw s0 j2).completion.maxResults = 7 := by
  decide +kernel

open HL.SettingsSpec in
/-- **Finding `unbounded-width-panics`, pinned code.** The pinned normalisation has no upper
    bounds: `formatting.minAlignmentColumn = 2^53` and `indentSize = "9223372036854775807"` are
    stored as given (what that does to the formatter: `pinned_width_overflows_allocation`). -/
theorem pinned_unbounded_width_counterexample :
    (parseSettingsFromRawPinned (normalize defaults)
      (.obj [("formatting", .obj [("minAlignmentColumn", .num 1 53)])])).formatting.minAlignmentColumn
        = 9007199254740992 ∧
    (parseSettingsFromRawPinned (normalize defaults)
      (.obj [("formatting.indentSize", .str "9223372036854775807")])).formatting.indentSize
        = 9223372036854775807 := by
  decide +kernel

/-- **Finding `limits-skip-cached-includes`, pinned code.** After a load under the default
    limits the probe's files a, b, c are cached.  `limits.maxFileSizeBytes` is lowered to 60
    (file a has 72 bytes) and the depth to 1.  The pinned `SetLimits` keeps the cache: the next
    load serves the cached oversized file (no "too large", it reaches the depth limit instead);
    a loader with an empty cache — what the repaired `SetLimits` leaves — refuses it. -/
theorem pinned_limits_skip_cached_counterexample :
    (includeProbe [] 10485760 50).2.2 = [3, 2, 1] ∧
    ((includeProbe [3, 2, 1] 60 1).1, (includeProbe [3, 2, 1] 60 1).2.1) = (true, false) ∧
    ((includeProbe [] 60 1).1, (includeProbe [] 60 1).2.1) = (false, true) ∧
    ((run (newServer true) (inited ++ [.probe true] ++
        changeEvents 0 .null (.items [.obj [("limits", .obj [("maxIncludeDepth", .num 1 0),
          ("maxFileSizeBytes", .num 15 2)])]])) : Except Panic Srv) matches .ok ⟨_, _, _, _, _, []⟩) := by
  decide +kernel

/-- **Finding `feature-switch-after-init`, pinned code.**  Initialisation with every feature on
    (hover advertised), then a configuration change — answered by the client — that says
    `features.hover = false`.  The settings hold `false`, yet the pinned server, which has no
    gate and whose hover handler never consults the settings, still answers hover (`true`)
    where the statement asks for the empty answer; the repaired server replies `null`.  The
    same for the seven other switches that only `Initialize` read; the two switches the pinned
    code did consult (diagnostics, inline completion) were effective already. -/
theorem pinned_feature_switch_after_init_counterexample :
    let off (k : String) : Json := .obj [("features", .obj [(k, .bool false)])]
    let after (k : String) : Srv :=
      match run (newServer true) (inited ++ changeEvents 0 .null (.items [off k])) with
      | .ok σ => σ
      | .error _ => newServer true
    (after "hover").settings.features.hover = false ∧
    (capsOf afterInit.settings).hoverProvider = true ∧
    respondPinned (after "hover") .hover true false = true ∧
    respond (after "hover") .hover true false = false ∧
    dispatch (after "hover") "textDocument/hover" () = none ∧
    ([("completion", Feature.completion), ("formatting", .formatting),
      ("semanticTokens", .semanticTokens), ("codeActions", .codeActions),
      ("foldingRanges", .foldingRanges), ("documentLinks", .documentLinks),
      ("workspaceSymbol", .workspaceSymbol)].all fun (k, f) =>
        !featureOn (after k).settings f && respondPinned (after k) f true false &&
        !respond (after k) f true false) = true ∧
    ([("diagnostics", Feature.diagnostics), ("inlineCompletion", .inlineCompletion)].all fun (k, f) =>
        !featureOn (after k).settings f && !respondPinned (after k) f true false) = true := by
  decide +kernel

/-- In every reachable state, every included file the loader holds
    passed the size check under the limits now in force: `SetLimits` empties the cache whenever the
    limits change. -/
theorem cached_within_limits (hasClient : Bool) (es : List Event) (σ' : Srv)
    (h : run (newServer hasClient) es = .ok σ') : CacheOK σ' :=
  run_invariant CacheOK
    (step_preserves CacheOK (fun _ _ h => h) setSettings_cacheOK (fun _ h => h) (fun _ h => h)
      (fun _ _ _ h => h) probeLoad_cacheOK)
    _ _ es (by intro _ h; cases h) h

open HL.SettingsSpec in
/-- **The stored limits govern the load, whatever was loaded before** (finding
    `limits-skip-cached-includes`, repaired): in every reachable state, what the behaviour
    probe observes with the loader's cache as it is equals what the statement asks for — the
    observation a loader with an empty cache would give. -/
theorem limits_govern_load (hasClient : Bool) (es : List Event) (σ' : Srv) (client : Bool)
    (h : run (newServer hasClient) es = .ok σ') :
    expectedObsAt σ'.settings client
      (fun L D => ((includeProbe σ'.cache L D).1, (includeProbe σ'.cache L D).2.1)) =
    expectedObs σ'.settings client := by
  have hok := cached_within_limits hasClient es σ' h
  have hv : ((includeProbe σ'.cache σ'.settings.limits.maxFileSizeBytes σ'.settings.limits.maxIncludeDepth).1,
      (includeProbe σ'.cache σ'.settings.limits.maxFileSizeBytes σ'.settings.limits.maxIncludeDepth).2.1) =
      includeVerdict σ'.settings.limits.maxFileSizeBytes σ'.settings.limits.maxIncludeDepth := by
    unfold includeVerdict includeProbe
    dsimp only
    split
    · rfl
    · obtain ⟨e1, e2⟩ := includeFrom_verdict σ'.settings.limits.maxFileSizeBytes
        σ'.settings.limits.maxIncludeDepth 4 1 σ'.cache [] hok (by intro x hx; cases hx)
      rw [e1, e2]
  unfold expectedObs expectedObsAt
  simp only [hv]

open HL.FmtWidth in
/-- For validated (stored) settings and any
    document: every count handed to `strings.Repeat` by the formatter — the indent, the gap
    in front of an amount, the gap in front of a balance assertion — and by the inline
    completion is at least 1, at most `536 +` the longest account `+` the longest amount of the
    document, and therefore never negative and never beyond what can be allocated: the calls
    cannot panic, whatever numbers the configuration carried. -/
theorem formatting_total_for_accepted_settings (s : Settings) (hn : Normal s) (d : Lens)
    (hd : lensOK d) :
    (∀ n ∈ repeatCounts s.formatting.indentSize s.formatting.minAlignmentColumn d,
      1 ≤ n ∧ n ≤ 536 + d.account + d.amount ∧ repeatOK n = true) ∧
    (∀ n ∈ repeatCountsUnaligned s.formatting.indentSize, 1 ≤ n ∧ n ≤ 32 ∧ repeatOK n = true) := by
  obtain ⟨_, hi1, hi2, hm1, hm2, _⟩ := (normal_iff s).mp hn
  have hi1 : 1 ≤ s.formatting.indentSize := hi1
  have hok : ∀ n : Int, 1 ≤ n → n ≤ 536 + d.account + d.amount → repeatOK n = true := by
    intro n h1 h2
    obtain ⟨_, a2, _, _, _, c2, _, _⟩ := hd
    unfold docBound at a2 c2
    unfold repeatOK maxAlloc
    simp only [Bool.and_eq_true, decide_eq_true_eq]
    omega
  constructor
  · intro n hn
    obtain ⟨h1, h2⟩ := repeatCounts_bounds _ _ d ⟨hi1, hi2⟩ ⟨hm1, hm2⟩ hd n hn
    exact ⟨h1, h2, hok n h1 h2⟩
  · intro n hn
    simp only [repeatCountsUnaligned, minSpaces, goIndent_eq _ hi1, List.mem_cons,
      List.not_mem_nil, or_false] at hn
    have hb : 1 ≤ n ∧ n ≤ 32 := by rcases hn with rfl | rfl <;> omega
    obtain ⟨a1, _, _, _, c1, _⟩ := hd
    exact ⟨hb.1, hb.2, hok n hb.1 (by omega)⟩

open HL.FmtWidth in
/-- … in particular in every state the server can reach. -/
theorem formatting_total_reachable (hasClient : Bool) (es : List Event) (σ' : Srv)
    (h : run (newServer hasClient) es = .ok σ') (d : Lens) (hd : lensOK d) :
    ∀ n ∈ repeatCounts σ'.settings.formatting.indentSize σ'.settings.formatting.minAlignmentColumn d ++
        repeatCountsUnaligned σ'.settings.formatting.indentSize, repeatOK n = true := by
  intro n hn
  obtain ⟨h1, h2⟩ := formatting_total_for_accepted_settings σ'.settings
    (stored_is_normal hasClient es σ' h) d hd
  rcases List.mem_append.mp hn with hn | hn
  · exact (h1 n hn).2.2
  · exact (h2 n hn).2.2

open HL.FmtWidth in
/-- **The formatter model's natural-number columns are Go's `int` columns** for every accepted
    configuration: `HL.Fmt.effIndent`, `HL.Fmt.effGlobalCol` and `HL.Fmt.amountGap` (the model
    C04/C05 reason about) equal the wrapping-`int` computations above. -/
theorem widths_match_format_model (o : HL.Fmt.Options) (j : HL.Ast.Journal)
    (hi : 1 ≤ o.indentSize ∧ o.indentSize ≤ 32) (hm : 0 ≤ o.minCol ∧ o.minCol ≤ 500)
    (ha : (HL.Fmt.maxAccountLenTxs j.transactions : Int) ≤ docBound) :
    (HL.Fmt.effIndent o : Int) = goIndent o.indentSize ∧
    (o.alignAmounts = true → (HL.Fmt.effGlobalCol j o : Int) =
      goGlobalCol (goIndent o.indentSize) o.minCol (HL.Fmt.maxAccountLenTxs j.transactions)) ∧
    (∀ (p : HL.Ast.Posting) (al : HL.Fmt.AlignmentInfo) (indent : HL.Bytes),
      (al.accountCol : Int) ≤ 534 + docBound →
      (HL.FmtText.runeCount (HL.Fmt.postingHead p indent) : Int) ≤ docBound →
      (HL.Fmt.amountGap p al indent true : Int) =
        goAmountGap al.accountCol (HL.FmtText.runeCount (HL.Fmt.postingHead p indent))) := by
  unfold docBound at *
  have hgi := goIndent_eq o.indentSize hi.1
  have e1 : (HL.Fmt.effIndent o : Int) = goIndent o.indentSize := by
    rw [hgi]; unfold HL.Fmt.effIndent; split <;> omega
  refine ⟨e1, ?_, ?_⟩
  · intro hal
    rw [hgi] at e1 ⊢
    rw [goGlobalCol_eq _ _ _ (by omega) (by omega)]
    unfold HL.Fmt.effGlobalCol HL.Fmt.globalAlignmentColumn HL.Fmt.minSpaces
    simp only [hal, if_true, Bool.and_eq_true, decide_eq_true_eq]
    split <;> split <;> omega
  · intro p al indent hcol hhead
    rw [goAmountGap_eq _ _ (by omega) (by omega)]
    unfold HL.Fmt.amountGap HL.Fmt.minSpaces
    simp only [Bool.true_and, decide_eq_true_eq]
    split <;> split <;> omega

open HL.FmtWidth in
/-- **Finding `unbounded-width-panics`, pinned code**: with the widths the pinned tree stored
    (`pinned_unbounded_width_counterexample`) the formatter asks `strings.Repeat` for 2^53 − 17
    blanks in front of an amount, or for an indent of 2^63 − 1 blanks: beyond any allocation,
    the request handler panics.  With what the repaired normalisation stores for the same
    payloads (500, 32) every count is small. -/
theorem pinned_width_overflows_allocation :
    let d : Lens := ⟨13, 17, 6, 30⟩
    (repeatCounts 4 9007199254740992 d).all repeatOK = false ∧
    (repeatCounts 9223372036854775807 0 d).all repeatOK = false ∧
    (repeatCountsUnaligned 9223372036854775807).all repeatOK = false ∧
    repeatCounts 4 500 d = [4, 483, 478] ∧ repeatCounts 32 0 d = [32, 30, 25] := by
  decide +kernel

end HL.Props.C19
