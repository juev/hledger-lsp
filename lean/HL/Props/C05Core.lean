import HL.Props.C04Core
/-!
  C05 for the core grammar `GCore`: the composed theorems are proved in HL/Props/C04Core.lean
  (they share the characterisation `format_core` with C04); they are restated here in namespace
  `HL.Props.C05` so that the audit of property C05 lists them with their axioms.
-/
namespace HL.Props.C05
open HL HL.GCore HL.Fmt HL.EditSpec

/-- **Idempotence, composed, core grammar**: parse the formatted text, format it with the tree
    of that parse, apply the edits — the text is unchanged.  Every well-formed core journal,
    every options value; the text shorter than 4 GiB (`uint32` positions). -/
theorem C05_idempotent_core (o : Options) (j : GCore.Journal) (h : GCore.WF j = true)
    (hsize : (GCore.canon o j).length < 4294967296) :
    HL.Props.C04.formatRun o (GCore.canon o j) = some (GCore.canon o j) :=
  HL.Props.C04.C05_idempotent_core o j h hsize

/-- … starting from the user's text: the second run returns what the first returned. -/
theorem C05_idempotent_twice_core (o : Options) (j : GCore.Journal) (h : GCore.WF j = true)
    (hsize : (GCore.print j).length < 4294967296) (hsize' : (GCore.canon o j).length < 4294967296) :
    (HL.Props.C04.formatRun o (GCore.print j)).bind (HL.Props.C04.formatRun o) =
      HL.Props.C04.formatRun o (GCore.print j) :=
  HL.Props.C04.C05_idempotent_twice_core o j h hsize hsize'

/-- **Alignment, composed, core grammar**: in the formatted text every amount starts at column
    `canonCol o j`, behind at least two blanks, and that column is at least indent + longest
    account + 2. -/
theorem C05_aligned_core (o : Options) (j : GCore.Journal) (halign : o.alignAmounts = true)
    (t : GCore.Tx) (ht : t ∈ j) (p : GCore.Posting) (hp : p ∈ t.postings) (a : GCore.Amount)
    (ha : p.amount = some a) :
    ∃ pre, p.printL (canonLayout o j) = pre ++ [0x20, 0x20] ++ a.print ∧
      (pre ++ [0x20, 0x20]).length = canonCol o j ∧
      canonIndent o + widest j + 2 ≤ canonCol o j ∧
      canonIndent o + p.acct.length + 2 ≤ canonCol o j :=
  HL.Props.C04.C05_aligned_core o j halign t ht p hp a ha

theorem C05_edits_wellformed_core (o : Options) (j : GCore.Journal) (h : GCore.WF j = true)
    (hsize : (GCore.print j).length < 4294967296) :
    editsWellFormed (GCore.print j)
      (formatText (HL.Pipeline.parseText Classes.go (GCore.print j)).1
        (HL.Pipeline.parseText Classes.go (GCore.print j)).2 (GCore.print j) none o) = true :=
  HL.Props.C04.C05_edits_wellformed_core o j h hsize

end HL.Props.C05
