/-
  C12 — Incrementally maintained workspace view equals a rebuild.
  The model is HL/Model/Index.lean + HL/Model/Workspace.lean, the specification
  HL/Spec/Rebuild.lean; the invariant and its preservation are in HL/Lemmas/{AList,Counter,Index,
  ReachIdx,Load,Edges,WsInv,Refresh,Update,Init,View,Formats,Root,Run}.lean.  The theorems are
  followed by the counterexamples of the known findings, on the pinned code.

  Setting of every theorem: a directory `fs` of any number of files (at most
  `MaxIncludeDepth`, `Cfg.limit`, of them: beyond that a rebuild itself truncates the tree),
  `Initialize` with a fresh loader, then ANY sequence `us` of edits; an edit is delivered as
  the server delivers it (`step`): UpdateFile on didChange while the disk has the old text,
  the write, UpdateFile on didSave, with the getters called after each.
-/
import HL.Lemmas.Run
import HL.Lemmas.Formats
import HL.Lemmas.Root
namespace HL.Props.C12
open HL.Index HL.Workspace HL.Spec.Rebuild
open HL.Lemmas.Index HL.Lemmas.WsInv HL.Lemmas.Update HL.Lemmas.Init HL.Lemmas.View HL.Lemmas.Run

/-- After any history every counter of the index equals the sum of the
    contributions of the indexed files (so `decrementBy` never truncates), every stored count
    is positive (so the derived name lists are the sorted supports), the transaction index
    holds per key exactly the indexed files' entries, every stored payee template is the
    template of an indexed file, and the derived lists are those of `refreshDerived`. -/
theorem index_is_sum (cfg : Cfg) (fs : FS) (us : List Upd)
    (h : Setting cfg fs us) : IdxInv cfg.fixT (run cfg fs us).w.idx :=
  (run_ok cfg fs us h.ok h.nonempty h.clean h.limit h.upds).1.pinv.g.idx

/-- the counter part of `index_is_sum`, spelled out for the account counts. -/
theorem index_is_sum_accounts (cfg : Cfg) (fs : FS) (us : List Upd)
    (h : Setting cfg fs us) (k : String) :
    let idx := (run cfg fs us).w.idx
    cnt idx.ac k = total (·.ac) (idx.files.map (·.2.c)) k ∧
    (k ∈ idx.accounts.all ↔ 0 < cnt idx.ac k) := by
  intro idx
  have hI := index_is_sum cfg fs us h
  refine ⟨hI.ac.sum k, ?_⟩
  rw [hI.derived.1, buildAccountIndex, accountIndexOf_all]
  unfold sortedKeys
  rw [HL.Lemmas.AList.mem_isort]
  exact HL.Lemmas.Counter.mem_keys_iff_pos _ hI.ac.pos k

/-- After any history the indexed files are exactly the existing files
    reachable from the root through the include directives of the CURRENT contents. -/
theorem members_eq_reach (cfg : Cfg) (fs : FS) (us : List Upd)
    (h : Setting cfg fs us) (p : String) :
    ((run cfg fs us).w.idx.files.get p).isSome ↔
      (Reach (finalFs fs us) (rootSel fs) p ∧ ((finalFs fs us).get p).isSome) := by
  obtain ⟨h1, _, h3, _⟩ := run_ok cfg fs us h.ok h.nonempty h.clean h.limit h.upds
  rw [← h3]
  exact h1.closed p

/-- The commodity formats after any history are those of a rebuild
    on the final contents — no guard (code repaired by fix-formats-path-order.diff: the last
    directive with a format wins, reading the root journal and then the other member files in
    path order, whatever `resolved.FileOrder` has become). -/
theorem C12_formats_eq_rebuild (cfg : Cfg) (fs : FS) (us : List Upd)
    (h : Setting cfg fs us) :
    formatsOk (rebuildAt cfg.limit (rootSel fs) (finalFs fs us))
      (observe (run cfg fs us).w).1 = true := by
  obtain ⟨h1, _, h3, _⟩ := run_ok cfg fs us h.ok h.nonempty h.clean h.limit h.upds
  have := HL.Lemmas.Formats.formats_ok cfg (finalFs fs us) (run cfg fs us).w h1
  rw [h3] at this
  exact this

/-- The observed view after any history satisfies the specification of
    a rebuild on the final contents (with the root chosen at initialisation), in EVERY
    component the statement lists: member files, all counts, known accounts (with their
    prefix index), payees, commodities, tags, tag values, dates, the transaction index
    (per key as a multiset), declared accounts and commodities, commodity formats — and
    payee templates for the code repaired by fix-template-loss.diff (`cfg.fixT`): same
    payees as a rebuild, each template one of the member files' templates (hence THE
    template wherever the members agree; `C12_templates_eq_rebuild` for equality). -/
theorem C12_view_eq_rebuild (cfg : Cfg) (fs : FS) (us : List Upd)
    (h : Setting cfg fs us) :
    let r := rebuildAt cfg.limit (rootSel fs) (finalFs fs us)
    let v := (observe (run cfg fs us).w).1
    membersOk r v = true ∧ countsOk r v = true ∧ namesOk r v = true ∧ txOk r v = true ∧
    declOk r v = true ∧ formatsOk r v = true ∧ (cfg.fixT = true → ptOk r v = true) := by
  obtain ⟨h1, _, h3, _⟩ := run_ok cfg fs us h.ok h.nonempty h.clean h.limit h.upds
  have := view_ok cfg (finalFs fs us) (run cfg fs us).w h1
  rw [h3] at this
  obtain ⟨a1, a2, a3, a4, a5, a6⟩ := this
  exact ⟨a1, a2, a3, a4, a5, C12_formats_eq_rebuild cfg fs us h, a6⟩

/-- with the payee-template repair the whole judgement `viewOk` — the one the correspondence
    driver applies to the implementation's view — accepts the view after any history. -/
theorem C12_viewOk (cfg : Cfg) (fs : FS) (us : List Upd) (h : Setting cfg fs us)
    (hfix : cfg.fixT = true) :
    viewOk (rebuildAt cfg.limit (rootSel fs) (finalFs fs us)) (observe (run cfg fs us).w).1 = true := by
  obtain ⟨a1, a2, a3, a4, a5, a6, a7⟩ := C12_view_eq_rebuild cfg fs us h
  simp [viewOk, failures, a1, a2, a3, a4, a5, a6, a7 hfix]

/-- the same against `rebuild` (root selected by the specification's own `rootOf`), when a
    rebuild selects the root the workspace has: the negated guard of the known finding
    `root-not-reselected`. -/
theorem C12_view_eq_rebuild_root (cfg : Cfg) (fs : FS) (us : List Upd) (h : Setting cfg fs us)
    (hroot : rootOf (finalFs fs us) = rootOf fs) :
    let r := rebuild cfg.limit (finalFs fs us)
    let v := (observe (run cfg fs us).w).1
    membersOk r v = true ∧ countsOk r v = true ∧ namesOk r v = true ∧ txOk r v = true ∧
    declOk r v = true ∧ formatsOk r v = true ∧ (cfg.fixT = true → ptOk r v = true) := by
  have h0 := C12_view_eq_rebuild cfg fs us h
  have e : rootOf (finalFs fs us) = rootSel fs := by
    rw [hroot, HL.Lemmas.Root.rootSel_eq_rootOf fs (fsOk_nodup fs h.ok)]
  unfold rebuild
  rw [e]
  exact h0

/-- A fresh workspace initialised on the final contents satisfies the same specification:
    together with `C12_view_eq_rebuild` (and `rootSel (finalFs fs us) = rootSel fs`, the
    root being stable) the incremental view and the rebuilt view agree component by
    component. -/
theorem rebuild_satisfies_spec (cfg : Cfg) (fs : FS)
    (h : Setting cfg fs []) :
    let r := rebuildAt cfg.limit (rootSel fs) fs
    let v := (observe (init cfg fs)).1
    membersOk r v = true ∧ countsOk r v = true ∧ namesOk r v = true ∧ txOk r v = true ∧
    declOk r v = true ∧ formatsOk r v = true ∧ (cfg.fixT = true → ptOk r v = true) := by
  obtain ⟨i1, i2, _⟩ := init_ok cfg fs h.ok h.nonempty h.clean h.limit
  have := view_ok cfg fs (init cfg fs) i1
  have hf := HL.Lemmas.Formats.formats_ok cfg fs (init cfg fs) i1
  rw [i2] at this hf
  obtain ⟨a1, a2, a3, a4, a5, a6⟩ := this
  exact ⟨a1, a2, a3, a4, a5, hf, a6⟩

/-- The loop of `refreshIncludeTreeLocked` reaches its fixpoint within `len(directory) + 2`
    rounds (the fuel of `refreshIncludeTree`; HL.Lemmas.Refresh.refresh_ok): in every
    reachable state a single `UpdateFile` call — here the didChange call, made while the disk
    still has the old text — ends with the index closed under reachability, which is what the
    loop's exit condition establishes. -/
theorem update_closes (cfg : Cfg) (fs : FS) (us : List Upd) (u : Upd)
    (h : Setting cfg fs (us ++ [u])) (p : String) :
    let s := run cfg fs us
    let w' := updateFile cfg s.fs s.w u.path u.c
    (w'.idx.files.get p).isSome ↔
      (Reach (s.fs.set u.path u.c) w'.root p ∧ ((s.fs.set u.path u.c).get p).isSome) := by
  intro s w'
  have hus : updsOk us = true ∧ u.path ≠ "" ∧ contribOk u.c = true := by
    have := h.upds
    simp only [updsOk, List.all_append, List.all_cons, List.all_nil, Bool.and_true,
      Bool.and_eq_true, decide_eq_true_eq] at this
    exact ⟨by simpa [updsOk] using this.1, this.2.1, this.2.2⟩
  obtain ⟨h1, h2, _, h4⟩ := run_ok cfg fs us h.ok h.nonempty h.clean h.limit hus.1
  have hs : s.fs = finalFs fs us := h4
  have hok' := fsOk_set s.fs (hs ▸ h2) u.path u.c hus.2.1 hus.2.2
  obtain ⟨hw, _⟩ := updateFile_ok cfg s.fs (s.fs.set u.path u.c) s.fs s.w u.path u.c
    (hs ▸ h1) hok' (HL.Lemmas.AList.get_set_self _ _ _)
    (fun y hy => HL.Lemmas.AList.get_set_ne _ _ _ _ (Ne.symm hy))
    (fun y hy => (HL.Lemmas.AList.get_set_ne _ _ _ _ (Ne.symm hy)).symm)
  exact hw.closed p

/-- For the code repaired by fix-template-loss.diff the payee
    templates after any history are, payee by payee, those of a fresh workspace initialised
    on the final contents (both hold the template of the member file with the smallest path
    that has one), provided the rebuild selects the same root. -/
theorem C12_templates_eq_rebuild (cfg : Cfg) (fs : FS) (us : List Upd) (hfix : cfg.fixT = true)
    (h : Setting cfg fs us) (hfin : Setting cfg (finalFs fs us) [])
    (hroot : rootSel (finalFs fs us) = rootSel fs) (p : String) :
    (run cfg fs us).w.idx.pts.get p = (init cfg (finalFs fs us)).idx.pts.get p := by
  obtain ⟨h1, _, h3, _⟩ := run_ok cfg fs us h.ok h.nonempty h.clean h.limit h.upds
  obtain ⟨i1, i2, _⟩ := init_ok cfg (finalFs fs us) hfin.ok hfin.nonempty hfin.clean hfin.limit
  exact pts_get_eq cfg (finalFs fs us) _ _ h1 i1 (by rw [h3, i2, hroot]) hfix p

/-- likewise the member files and every file's index entry (hence every count) coincide with
    those of the fresh workspace, for the pinned and the repaired code. -/
theorem C12_files_eq_rebuild (cfg : Cfg) (fs : FS) (us : List Upd)
    (h : Setting cfg fs us) (hfin : Setting cfg (finalFs fs us) [])
    (hroot : rootSel (finalFs fs us) = rootSel fs) (f : String) :
    (run cfg fs us).w.idx.files.get f = (init cfg (finalFs fs us)).idx.files.get f := by
  obtain ⟨h1, _, h3, _⟩ := run_ok cfg fs us h.ok h.nonempty h.clean h.limit h.upds
  obtain ⟨i1, i2, _⟩ := init_ok cfg (finalFs fs us) hfin.ok hfin.nonempty hfin.clean hfin.limit
  exact files_get_eq cfg (finalFs fs us) _ _ h1 i1 (by rw [h3, i2, hroot]) f

/-! ### commodity formats (finding `formats-order`, repaired by fix-formats-path-order.diff) -/

/-- the commodity formats after any history are, as a map, exactly those of a fresh workspace
    initialised on the final contents (when the rebuild selects the same root). -/
theorem C12_formats_eq_init (cfg : Cfg) (fs : FS) (us : List Upd)
    (h : Setting cfg fs us) (hfin : Setting cfg (finalFs fs us) [])
    (hroot : rootSel (finalFs fs us) = rootSel fs) :
    (observe (run cfg fs us).w).1.formats = (observe (init cfg (finalFs fs us))).1.formats := by
  obtain ⟨h1, _, h3, _⟩ := run_ok cfg fs us h.ok h.nonempty h.clean h.limit h.upds
  obtain ⟨i1, i2, _⟩ := init_ok cfg (finalFs fs us) hfin.ok hfin.nonempty hfin.clean hfin.limit
  rw [observe_fst, observe_fst]
  simp only [newF_eq cfg (finalFs fs us) _ h1, newF_eq cfg (finalFs fs us) _ i1,
    HL.Lemmas.Formats.computeFormats_eq',
    HL.Lemmas.Formats.pathCommDirs_eq cfg (finalFs fs us) _ h1,
    HL.Lemmas.Formats.pathCommDirs_eq cfg (finalFs fs us) _ i1, h3, i2, hroot]

/-- the formats of a fresh workspace are those of the specification. -/
theorem rebuild_formats (cfg : Cfg) (fs : FS) (h : Setting cfg fs []) :
    formatsOk (rebuildAt cfg.limit (rootSel fs) fs) (observe (init cfg fs)).1 = true :=
  have ⟨_, _, _, _, _, hf, _⟩ := rebuild_satisfies_spec cfg fs h
  hf

def eur (f : String) : Contrib := { cds := [{ sym := "EUR", raw := f, fmt := f }] }

/-- main includes b and c, which declare different formats for EUR. -/
def fsF : FS :=
  [("main.journal", { incs := ["b.journal", "c.journal"] }),
   ("b.journal", eur "1.000,00 EUR"), ("c.journal", eur "1,000.00 EUR")]

/-- main drops the include of b, then adds it back. -/
def usF : List Upd :=
  [{ path := "main.journal", c := { incs := ["c.journal"] } },
   { path := "main.journal", c := { incs := ["b.journal", "c.journal"] } }]

/-- The pinned `GetCommodityFormats` read the files in
    the order of `resolved.FileOrder`.  After b became unreachable and reachable again it
    sits at the end of that list (`[c, b]`), so b's format won, while on a fresh workspace
    (depth-first include order `[b, c]`) c's wins — on identical final contents.  The
    repaired getter gives c's format in both. -/
theorem pinned_formats_order_counterexample :
    finalFs fsF usF = fsF ∧
    (run { fixT := true, fixG := true } fsF usF).w.order = ["c.journal", "b.journal"] ∧
    (init { fixT := true, fixG := true } (finalFs fsF usF)).order = ["b.journal", "c.journal"] ∧
    pinnedComputeFormats (run { fixT := true, fixG := true } fsF usF).w = [("EUR", "1.000,00 EUR")] ∧
    pinnedComputeFormats (init { fixT := true, fixG := true } (finalFs fsF usF)) = [("EUR", "1,000.00 EUR")] ∧
    formatConflict (finalFs fsF usF) "main.journal" = true ∧
    (observe (run { fixT := true, fixG := true } fsF usF).w).1.formats = some [("EUR", "1,000.00 EUR")] ∧
    (observe (init { fixT := true, fixG := true } (finalFs fsF usF))).1.formats = some [("EUR", "1,000.00 EUR")] := by
  decide +kernel

/-- `Setting` holds on the history of the counterexample: `C12_formats_eq_rebuild` applies
    to it (non-vacuity on the very shape that failed). -/
example : Setting { fixT := true, fixG := true } fsF usF :=
  ⟨by decide +kernel, by decide +kernel, by decide +kernel, by unfold graphsClean; decide +kernel, by decide +kernel⟩

/-! ### payee templates of the pinned code (finding `template-loss`, repaired by fix-template-loss.diff) -/

def shop : Contrib := { pc := [("Shop", 1)], pts := [("Shop", "T")] }

/-- main includes a and b, both have a transaction of payee Shop. -/
def fsT : FS :=
  [("main.journal", { incs := ["a.journal", "b.journal"] }), ("a.journal", shop), ("b.journal", shop)]

/-- b loses its transaction. -/
def usT : List Upd := [{ path := "b.journal", c := {} }]

/-- index.go as pinned: two files share a payee, one drops
    it, the payee's template vanishes from the workspace although a still has it; a rebuild
    keeps it.  Everything else still agrees (`C12_view_eq_rebuild`). -/
theorem template_loss_counterexample :
    (run {} fsT usT).w.idx.pts.get "Shop" = none ∧
    (init {} (finalFs fsT usT)).idx.pts.get "Shop" = some "T" ∧
    ptOk (rebuildAt 50 "main.journal" (finalFs fsT usT)) (observe (run {} fsT usT).w).1 = false := by
  decide +kernel

/-- a and b have different templates for Shop. -/
def fsH : FS :=
  [("main.journal", { incs := ["a.journal", "b.journal"] }),
   ("a.journal", { pc := [("Shop", 1)], pts := [("Shop", "Ta")] }),
   ("b.journal", { pc := [("Shop", 1)], pts := [("Shop", "Tb")] })]

/-- a is saved unchanged. -/
def usH : List Upd := [{ path := "a.journal", c := { pc := [("Shop", 1)], pts := [("Shop", "Ta")] } }]

/-- index.go as pinned: the stored template is the one of
    the file indexed last; saving a makes a's template replace b's, a rebuild (files indexed
    in path order) stores b's.  The repaired code stores a's in both. -/
theorem template_history_counterexample :
    (run {} fsH usH).w.idx.pts.get "Shop" = some "Ta" ∧
    (init {} (finalFs fsH usH)).idx.pts.get "Shop" = some "Tb" ∧
    (run { fixT := true } fsH usH).w.idx.pts.get "Shop" = some "Ta" ∧
    (init { fixT := true } (finalFs fsH usH)).idx.pts.get "Shop" = some "Ta" := by decide +kernel

/-- the repaired code (fix-template-loss.diff) keeps the template on the same history. -/
example : (run { fixT := true } fsT usT).w.idx.pts.get "Shop" = some "T" := by decide +kernel

/-- Pinned AND repaired code: a stored template is never stale or
    invented — it is the template some member file currently has for that payee; what the
    pinned code can get wrong is only which member's (history dependent) or that the payee is
    missing (`template_loss_counterexample`, `template_history_counterexample`). -/
theorem C12_templates_partial (cfg : Cfg) (fs : FS) (us : List Upd) (h : Setting cfg fs us)
    (p t : String) (hp : (run cfg fs us).w.idx.pts.get p = some t) :
    ∃ f c, (Reach (finalFs fs us) (rootSel fs) f ∧ (finalFs fs us).get f = some c) ∧
      c.pts.get p = some t := by
  obtain ⟨h1, _, h3, _⟩ := run_ok cfg fs us h.ok h.nonempty h.clean h.limit h.upds
  obtain ⟨f, fi, hf, hfi⟩ := h1.pinv.g.idx.pts.sound p t hp
  obtain ⟨c, hc, hfic⟩ := h1.pinv.g.fresh f fi hf
  have hm := (h1.closed f).mp (by rw [hf]; rfl)
  rw [h3] at hm
  refine ⟨f, c, ⟨hm.1, hc⟩, ?_⟩
  rw [hfic] at hfi
  exact hfi

/-! ### stale include graph of the pinned code (finding `stale-include-graph`, repaired by
  fix-stale-include-graph.diff) -/

/-- no main.journal: the root is chosen by include graph (a.journal); b includes c, and
    neither is a member. -/
def fsG : FS := [("a.journal", {}), ("b.journal", { incs := ["c.journal"] }), ("c.journal", shop)]

/-- c is saved unchanged. -/
def usG : List Upd := [{ path := "c.journal", c := shop }]

/-- workspace.go as pinned: `findRootByIncludeGraph`
    leaves the edge b→c in the reverse graph, so `isWorkspaceFileLocked(c)` accepts the update
    of c, which is indexed although unreachable from the root; its include list did not
    change, so the tree is not refreshed.  A rebuild has only a. -/
theorem stale_include_graph_counterexample :
    rootSel fsG = "a.journal" ∧
    (observe (run {} fsG usG).w).1.members = ["a.journal", "c.journal"] ∧
    (observe (init {} (finalFs fsG usG))).1.members = ["a.journal"] ∧
    membersOk (rebuildAt 50 "a.journal" (finalFs fsG usG)) (observe (run {} fsG usG).w).1 = false := by
  decide +kernel

/-- the repaired code (fix-stale-include-graph.diff) ignores the update. -/
example : (observe (run { fixG := true } fsG usG).w).1.members = ["a.journal"] := by decide +kernel

/-- `Setting` holds for this directory under the repaired code, not under the pinned code:
    the hypothesis `graphsClean` is exactly what the finding violates. -/
example : Setting { fixG := true } fsG usG :=
  ⟨by decide +kernel, by decide +kernel, by decide +kernel, by unfold graphsClean; decide +kernel, by decide +kernel⟩

/-! ### the root is not re-selected (known finding `root-not-reselected`) -/

/-- a includes b; no main.journal: the root is a. -/
def fsR : FS := [("a.journal", { incs := ["b.journal"], pc := [("Shop", 1)] }), ("b.journal", {})]

/-- a drops the include, then b includes a. -/
def usR : List Upd :=
  [{ path := "a.journal", c := { pc := [("Shop", 1)] } },
   { path := "b.journal", c := { incs := ["a.journal"] } }]

/-- A fresh workspace on the final contents selects b as
    its root and has both files; the running workspace keeps the root a and has only a.
    (Outside the hypothesis `rootSel (finalFs fs us) = rootSel fs` under which
    `C12_view_eq_rebuild` and `rebuild_satisfies_spec` speak of the same root.) -/
theorem root_not_reselected_counterexample :
    rootSel fsR = "a.journal" ∧ rootSel (finalFs fsR usR) = "b.journal" ∧
    (observe (run { fixT := true, fixG := true } fsR usR).w).1.members = ["a.journal"] ∧
    (observe (init { fixT := true, fixG := true } (finalFs fsR usR))).1.members =
      ["a.journal", "b.journal"] := by decide +kernel

/-- a history with content edits, a file becoming unreachable and reachable again, and an
    include target created later satisfies `Setting` (for the pinned code, root chosen by
    name). -/
example : Setting {} fsT
    [{ path := "main.journal", c := { incs := ["a.journal", "x.journal"] } },
     { path := "x.journal", c := shop },
     { path := "main.journal", c := { incs := ["b.journal", "a.journal", "x.journal"] } }] :=
  ⟨by decide +kernel, by decide +kernel, by decide +kernel, by unfold graphsClean; decide +kernel, by decide +kernel⟩

end HL.Props.C12
