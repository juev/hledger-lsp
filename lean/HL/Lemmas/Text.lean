/-
  Lemmas about the text model (HL/Model/Text.lean): UTF-16 lengths of char prefixes (`u16len`,
  `takeU16`), the encoding `enc16` of a text into the client's code units line by line, and
  `LSPToByte` (`lspToIdx`) against the client's offset.  Used by C01 and by the range lemmas.
-/
import HL.Model.Text
import HL.Spec.RefBuffer
namespace HL.Lemmas.Text
open HL.Text HL.Ref

theorem u16w_pos (c : Char) : 1 ≤ u16w c := by unfold u16w; split <;> omega
theorem u16w_le (c : Char) : u16w c ≤ 2 := by unfold u16w; split <;> omega

theorem encChar_length (c : Char) : (encChar c).length = u16w c := by
  unfold encChar u16w; simp only []; split <;> simp

theorem enc16_length (s : Txt) : (enc16 s).length = u16len s := by
  induction s with
  | nil => rfl
  | cons c cs ih => simp [enc16, u16len, encChar_length, ih]

theorem enc16_append (a b : Txt) : enc16 (a ++ b) = enc16 a ++ enc16 b := by
  induction a with
  | nil => rfl
  | cons c cs ih => simp [enc16, ih]

theorem u16len_append (a b : Txt) : u16len (a ++ b) = u16len a + u16len b := by
  induction a with
  | nil => simp [u16len]
  | cons c cs ih => simp [u16len, ih]; omega

theorem enc16_take (s : Txt) (k : Nat) :
    enc16 (s.take k) = (enc16 s).take (u16len (s.take k)) := by
  induction s generalizing k with
  | nil => simp [enc16, u16len]
  | cons c cs ih =>
    cases k with
    | zero => simp [enc16, u16len]
    | succ k =>
      simp only [List.take_succ_cons, enc16, u16len]
      rw [← encChar_length c, List.take_length_add_append]
      simp [ih k]

theorem enc16_drop (s : Txt) (k : Nat) :
    enc16 (s.drop k) = (enc16 s).drop (u16len (s.take k)) := by
  induction s generalizing k with
  | nil => simp [enc16, u16len]
  | cons c cs ih =>
    cases k with
    | zero => simp [enc16, u16len]
    | succ k =>
      simp only [List.take_succ_cons, List.drop_succ_cons, enc16, u16len]
      rw [← encChar_length c, List.drop_length_add_append]
      exact ih k

theorem u16len_take_lt (s : Txt) (a b : Nat) (hab : b < a) (ha : a ≤ s.length) :
    u16len (s.take b) < u16len (s.take a) := by
  induction s generalizing a b with
  | nil => exact absurd (Nat.lt_of_lt_of_le hab ha) (Nat.not_lt_zero _)
  | cons c cs ih =>
    cases a with
    | zero => exact absurd hab (Nat.not_lt_zero _)
    | succ a =>
      rw [List.take_succ_cons, u16len]
      cases b with
      | zero => exact Nat.lt_of_lt_of_le (u16w_pos c) (Nat.le_add_right _ _)
      | succ b =>
        rw [List.take_succ_cons, u16len]
        exact Nat.add_lt_add_left (ih a b (Nat.lt_of_succ_lt_succ hab) (Nat.le_of_succ_le_succ ha)) _

theorem u16len_take_add (l : Txt) (a n : Nat) :
    u16len (l.take (a + n)) = u16len (l.take a) + u16len ((l.drop a).take n) := by
  rw [← u16len_append, ← List.take_add]

theorem u16len_take_le (l : Txt) (k : Nat) : u16len (l.take k) ≤ u16len l := by
  have h : u16len l = u16len (l.take k) + u16len (l.drop k) := by
    rw [← u16len_append, List.take_append_drop]
  omega

theorem u16len_take_mono (l : Txt) {a b : Nat} (hab : a ≤ b) :
    u16len (l.take a) ≤ u16len (l.take b) := by
  have : l.take a = (l.take b).take a := by rw [List.take_take, Nat.min_eq_left hab]
  rw [this]
  exact u16len_take_le _ _

theorem u16len_take_le_iff (l : Txt) {a k : Nat} (ha : a ≤ l.length) :
    u16len (l.take a) ≤ u16len (l.take k) ↔ a ≤ k := by
  refine ⟨fun h => Nat.le_of_not_lt fun hlt => ?_, u16len_take_mono l⟩
  have := u16len_take_lt l a k hlt ha
  omega

theorem takeU16_u16len_take (l : Txt) (k : Nat) (hk : k ≤ l.length) :
    takeU16 l (u16len (l.take k)) = k := by
  induction l generalizing k with
  | nil => simp at hk; subst hk; rfl
  | cons c cs ih =>
    cases k with
    | zero => simp [u16len, takeU16]
    | succ k =>
      have hw := u16w_pos c
      simp only [List.take_succ_cons, u16len, takeU16]
      rw [if_neg (by omega), Nat.add_sub_cancel_left, ih k (by simpa using hk)]
      omega

/-- `col_is_utf16_of_bmp`, list form: a prefix without non-BMP chars has as many UTF-16 units
    as chars. -/
theorem u16len_of_bmp (l : Txt) (h : ∀ c ∈ l, c.val.toNat < 0x10000) : u16len l = l.length := by
  induction l with
  | nil => rfl
  | cons c cs ih =>
    have hc := h c (by simp)
    have : u16w c = 1 := by unfold u16w; split <;> omega
    simp only [u16len, this, List.length_cons, ih (fun d hd => h d (by simp [hd]))]
    omega

theorem char_eq_of_toNat {c d : Char} (h : c.val.toNat = d.val.toNat) : c = d := by
  apply Char.ext; apply UInt32.toNat_inj.mp; exact h

theorem encChar_nl : encChar '\n' = [10] := by decide
theorem encChar_cr : encChar '\r' = [13] := by decide

theorem encChar_small {c : Char} {k : Nat} (hk : k < 0xD800) (hc : c.val.toNat ≠ k) :
    ∀ u ∈ encChar c, u ≠ k := by
  intro u hu
  unfold encChar at hu
  simp only [] at hu
  split at hu
  · simp only [List.mem_cons, List.not_mem_nil, or_false] at hu; omega
  · simp only [List.mem_cons, List.not_mem_nil, or_false] at hu; omega

theorem encChar_ne_nl {c : Char} (hc : c ≠ '\n') : ∀ u ∈ encChar c, u ≠ 10 :=
  encChar_small (by omega) (fun h => hc (char_eq_of_toNat h))

theorem encChar_ne_nil (c : Char) : encChar c ≠ [] := by
  intro h; have := encChar_length c; rw [h] at this; have := u16w_pos c; simp at *; omega

theorem ref_firstLine_append {a b : Units} (h : ∀ u ∈ a, u ≠ 10) :
    Ref.firstLine (a ++ b) = a ++ Ref.firstLine b := by
  induction a with
  | nil => rfl
  | cons x xs ih =>
    have hx : x ≠ 10 := h x (by simp)
    simp [Ref.firstLine, hx, ih (fun u hu => h u (by simp [hu]))]

theorem ref_afterNL_append {a b : Units} (h : ∀ u ∈ a, u ≠ 10) :
    Ref.afterNL (a ++ b) = Ref.afterNL b := by
  induction a with
  | nil => rfl
  | cons x xs ih =>
    have hx : x ≠ 10 := h x (by simp)
    simp [Ref.afterNL, hx, ih (fun u hu => h u (by simp [hu]))]

theorem firstLine_enc16 (s : Txt) : Ref.firstLine (enc16 s) = enc16 (Text.firstLine s) := by
  induction s with
  | nil => rfl
  | cons c cs ih =>
    by_cases hc : c = '\n'
    · subst hc; simp [enc16, Text.firstLine, encChar_nl, Ref.firstLine]
    · simp [enc16, Text.firstLine, hc, ref_firstLine_append (encChar_ne_nl hc), ih]

theorem afterNL_enc16 (s : Txt) : Ref.afterNL (enc16 s) = (Text.afterNL s).map enc16 := by
  induction s with
  | nil => rfl
  | cons c cs ih =>
    by_cases hc : c = '\n'
    · subst hc; simp [enc16, Text.afterNL, encChar_nl, Ref.afterNL]
    · simp [enc16, Text.afterNL, hc, ref_afterNL_append (encChar_ne_nl hc), ih]

theorem split_some {s rest : Txt} (h : Text.afterNL s = some rest) :
    s = Text.firstLine s ++ '\n' :: rest := by
  induction s with
  | nil => simp [Text.afterNL] at h
  | cons c cs ih =>
    by_cases hc : c = '\n'
    · subst hc; simp [Text.afterNL] at h; simp [Text.firstLine, h]
    · simp [Text.afterNL, hc] at h; simp [Text.firstLine, hc]; exact ih h

theorem split_none {s : Txt} (h : Text.afterNL s = none) : Text.firstLine s = s := by
  induction s with
  | nil => rfl
  | cons c cs ih =>
    by_cases hc : c = '\n'
    · subst hc; simp [Text.afterNL] at h
    · simp [Text.afterNL, hc] at h; simp [Text.firstLine, hc, ih h]

theorem firstLine_prefix (s : Txt) : ∃ t, s = Text.firstLine s ++ t := by
  cases h : Text.afterNL s with
  | none => exact ⟨[], by simp [split_none h]⟩
  | some rest => exact ⟨'\n' :: rest, split_some h⟩

theorem enc16_getLast_cr (l : Txt) :
    (enc16 l).getLast? = some 13 ↔ l.getLast? = some '\r' := by
  induction l with
  | nil => simp [enc16]
  | cons c cs ih =>
    cases cs with
    | nil =>
      simp only [enc16, List.append_nil, List.getLast?_singleton, Option.some.injEq]
      constructor
      · intro h
        apply char_eq_of_toNat
        unfold encChar at h; simp only [] at h
        split at h
        · simp only [List.getLast?_cons_cons, List.getLast?_singleton, Option.some.injEq] at h; omega
        · simp only [List.getLast?_singleton, Option.some.injEq] at h; exact h
      · intro h; subst h; decide
    | cons d ds =>
      have hne : enc16 (d :: ds) ≠ [] := by
        simp [enc16, encChar_ne_nil]
      have hsome : ∃ x, (enc16 (d :: ds)).getLast? = some x := by
        cases hh : (enc16 (d :: ds)).getLast? with
        | none => simp at hh; exact absurd hh hne
        | some x => exact ⟨x, rfl⟩
      obtain ⟨x, hx⟩ := hsome
      rw [enc16, List.getLast?_append, hx, List.getLast?_cons_cons, ← ih, hx]
      simp

theorem contentLen_enc16 (l : Txt) :
    contentLen (enc16 l) = u16len (countable true l) := by
  unfold contentLen countable
  by_cases h : l.getLast? = some '\r'
  · have h' := (enc16_getLast_cr l).mpr h
    simp only [h', h, if_true, Bool.true_and, decide_true]
    obtain ⟨init, rfl⟩ := List.getLast?_eq_some_iff.mp h
    simp [enc16_length, u16len_append, u16len, u16w]
  · have h' : ¬ (enc16 l).getLast? = some 13 := fun x => h ((enc16_getLast_cr l).mp x)
    simp [h', h, enc16_length]

theorem countable_prefix {trimCR : Bool} (l : Txt) : ∃ t, l = countable trimCR l ++ t := by
  unfold countable
  split
  · exact ⟨l.drop (l.length - 1), by simp [List.dropLast_eq_take]⟩
  · exact ⟨[], by simp⟩

theorem takeU16_le (s : Txt) (n : Nat) : takeU16 s n ≤ s.length := by
  induction s generalizing n with
  | nil => simp [takeU16]
  | cons c cs ih =>
    simp only [takeU16]; split
    · omega
    · have := ih (n - u16w c); simp; omega

theorem u16len_take_takeU16 (s : Txt) (n : Nat) (h : noSplit s n = true) :
    u16len (s.take (takeU16 s n)) = min n (u16len s) := by
  induction s generalizing n with
  | nil => simp [takeU16, u16len]
  | cons c cs ih =>
    simp only [takeU16]
    by_cases hn : n = 0
    · simp [hn, u16len]
    · have hn' : (n == 0) = false := by simp [hn]
      simp only [noSplit, hn', Bool.false_or, Bool.and_eq_true, decide_eq_true_eq] at h
      simp only [hn, if_false]
      rw [Nat.add_comm 1, List.take_succ_cons]
      simp only [u16len, ih _ h.2]
      omega


theorem lspToIdx_le (s : Txt) (l ch : Nat) (trimCR : Bool := true) : lspToIdx trimCR s l ch ≤ s.length := by
  induction l generalizing s with
  | zero =>
    simp only [lspToIdx]
    obtain ⟨t, ht⟩ := countable_prefix (trimCR := trimCR) (Text.firstLine s)
    obtain ⟨t', ht'⟩ := firstLine_prefix s
    have h1 := takeU16_le (countable trimCR (Text.firstLine s)) ch
    have h2 : (countable trimCR (Text.firstLine s)).length ≤ (Text.firstLine s).length := by
      conv => rhs; rw [ht]
      simp
    have h3 : (Text.firstLine s).length ≤ s.length := by
      conv => rhs; rw [ht']
      simp
    omega
  | succ l ih =>
    simp only [lspToIdx]
    cases h : Text.afterNL s with
    | none => simp
    | some rest =>
      have := ih rest
      have hs := split_some h
      simp only []
      conv => rhs; rw [hs]
      simp; omega

/-- Main lemma: the number of code units before the char index computed by `LSPToByte`
    is the client's offset of the same position. -/
theorem u16len_take_lspToIdx (s : Txt) (l ch : Nat) (h : posOK s l ch = true) :
    u16len (s.take (lspToIdx true s l ch)) = offset (enc16 s) l ch := by
  induction l generalizing s with
  | zero =>
    simp only [lspToIdx, offset, posOK] at *
    rw [firstLine_enc16, contentLen_enc16]
    obtain ⟨t, ht⟩ := countable_prefix (trimCR := true) (Text.firstLine s)
    obtain ⟨t', ht'⟩ := firstLine_prefix s
    have hk := takeU16_le (countable true (Text.firstLine s)) ch
    have : s.take (takeU16 (countable true (Text.firstLine s)) ch)
        = (countable true (Text.firstLine s)).take (takeU16 (countable true (Text.firstLine s)) ch) := by
      conv => lhs; arg 2; rw [ht', ht]
      rw [List.append_assoc, List.take_append_of_le_length hk]
    rw [this, u16len_take_takeU16 _ _ h]
  | succ l ih =>
    simp only [lspToIdx, offset, posOK] at *
    rw [afterNL_enc16]
    cases hs : Text.afterNL s with
    | none => simp [enc16_length]
    | some rest =>
      simp only [hs] at h
      simp only [Option.map_some]
      have hsplit := split_some hs
      rw [firstLine_enc16, enc16_length, ← ih rest h]
      have : s.take ((Text.firstLine s).length + 1 + lspToIdx true rest l ch)
          = Text.firstLine s ++ '\n' :: rest.take (lspToIdx true rest l ch) := by
        conv => lhs; arg 2; rw [hsplit]
        rw [Nat.add_assoc, List.take_length_add_append, Nat.add_comm 1, List.take_succ_cons]
      rw [this, u16len_append]
      simp [u16len, u16w]
      omega

end HL.Lemmas.Text
