import HL.Lemmas.ParseGCoreNum
import HL.Lemmas.LexGCoreL
import HL.Props.C03
/-!
  The parser model on the token streams of `GCore` journals printed under an arbitrary layout
  (`toksFromL`, HL/Lemmas/LexGCoreL.lean; layer L4 of DESIGN 7.C03, composed): amount, posting
  line, the postings loop (any number of postings), transaction, and the journal loop (any number
  of transactions).  Token-list source, decimal layer `defaultNumDeps`, any classifier `cls` (the
  parser never consults it on these streams).  HL/Lemmas/ParseGCore.lean specialises to the layout
  of `GCore.print`.  The steps of `parseAmount`, `parsePosting`, `parseTransaction` on tokens of
  given types are the per-shape lemmas of HL/Props/C03.lean.
-/
namespace HL.GCore
open HL HL.Ast HL.Parser HL.PStr

variable (cls : Parser.Classes)

/-- the parser environment of `parseTokens defaultNumDeps cls` -/
abbrev E : Env (List Token) := listEnv defaultNumDeps cls

/-- the parser state in front of the stream `t :: ts` -/
def stOf (toks : List Token) (errs : List ParseError) (dy : Int) : PState (List Token) :=
  match toks with
  | t :: ts => ⟨ts, t, errs, dy⟩
  | [] => ⟨[], eofToken, errs, dy⟩

@[simp] theorem stOf_cons (t : Token) (ts : List Token) (errs : List ParseError) (dy : Int) :
    stOf (t :: ts) errs dy = ⟨ts, t, errs, dy⟩ := rfl

@[simp] theorem advance_cons (t : Token) (r : List Token) (c : Token) (e : List ParseError) (y : Int) :
    advance (E cls) ⟨t :: r, c, e, y⟩ = ⟨r, t, e, y⟩ := rfl

theorem E_normalize : (E cls).num.normalize = normalizeNumber := rfl
theorem E_decOfString : (E cls).num.decOfString = decOfString := rfl

theorem signText_eq (a : Amount) : a.signText = sgn a.neg := rfl

/-- **The number layer reads an amount of the grammar as written.** -/
theorem qty_ok (a : Amount) (h : a.wf = true) :
    decOfString (normalizeNumber (dropBlanks (a.signText ++ a.numText))) = some a.quantity ∧
    ¬ (a.quantity.exp > maxAmountExponent ∨ a.quantity.exp < -maxAmountExponent) := by
  obtain ⟨⟨hine, hid⟩, hfr, _⟩ := Amount.wf_spec h
  cases hf : a.frac with
  | none =>
    have := qty_int a.neg a.int hid hine
    simp only [signText_eq, Amount.numText, hf, List.append_nil, Amount.quantity, Option.getD_none,
      List.length_nil, maxAmountExponent]
    refine ⟨by simpa using this, by simp⟩
  | some f =>
    obtain ⟨_, hfd, hfl, hfA⟩ := hfr f hf
    have := qty_frac a.neg a.int f hid hine hfd hfl hfA
    simp only [signText_eq, Amount.numText, hf, Amount.quantity, Option.getD_some, maxAmountExponent]
    refine ⟨by simpa [List.append_assoc] using this, by omega⟩

theorem numText_noMinus (a : Amount) (h : a.wf = true) : ([0x2D] : Bytes).isPrefixOf a.numText = false := by
  obtain ⟨⟨c, t, hc, hd⟩, _⟩ := numText_spec h
  have : c ≠ 0x2D := fun e => by rw [e] at hd; cases hd
  rw [hc]
  simpa [List.isPrefixOf] using fun h' => this h'.symm

/-- `List.length_cons` with the one in front, the way the positions of `Amount.toks` are written -/
theorem length_cons' {α} (a : α) (l : List α) : (a :: l).length = 1 + l.length := Nat.add_comm ..

theorem parseAmount_toks (a : Amount) (h : a.wf = true) (ln o pre : Nat) (x : Token) (R : List Token)
    (errs : List ParseError) (dy : Int) (hx : x.ty = .newline)
    (hpos : x.pos = ⟨ln, 1 + pre + a.print.length, o + pre + a.print.length⟩) :
    parseAmount (E cls) (stOf (a.toks ln o pre ++ x :: R) errs dy) =
      (some (a.expected ln (1 + pre) (o + pre)), ⟨R, x, errs, dy⟩) := by
  -- by sign and commodity: the steps of `parseAmount` (HL/Props/C03.lean), then the positions
  have hq : defaultNumDeps.decOfString (defaultNumDeps.normalize (dropBlanks (a.signText ++ a.numText))) =
      some a.quantity := (qty_ok a h).1
  have hexp := (qty_ok a h).2
  have hnm := numText_noMinus a h
  have hnl := fun stop => HL.Props.C03.amountRightCommodity_none defaultNumDeps cls stop x R errs dy
    (by rw [hx]; decide) (by rw [hx]; decide)
  have hco := fun stop c => HL.Props.C03.amountRightCommodity_some defaultNumDeps cls stop c x R errs dy
  cases hneg : a.neg <;> cases hcom : a.com
  all_goals
    simp only [Amount.signText, hneg, Bool.false_eq_true, if_false, if_true, List.nil_append,
      List.singleton_append] at hq
    simp only [Amount.toks, hneg, hcom, Bool.false_eq_true, if_false, if_true, List.nil_append, List.cons_append,
      stOf_cons]
  case' false.none =>
    rw [HL.Props.C03.parseAmount_number defaultNumDeps cls _ _ errs dy rfl,
      HL.Props.C03.amountNumber_ok defaultNumDeps cls _ _ a.numText _ _ _ errs dy _ rfl rfl hq hexp _ _
        (hnl _)]
  case' false.some =>
    rw [HL.Props.C03.parseAmount_number defaultNumDeps cls _ _ errs dy rfl,
      HL.Props.C03.amountNumber_ok defaultNumDeps cls _ _ a.numText _ _ _ errs dy _ rfl rfl hq hexp _ _
        (hco _ _ rfl)]
  case' true.none =>
    rw [HL.Props.C03.parseAmount_sign defaultNumDeps cls _ _ _ errs dy rfl rfl,
      HL.Props.C03.amountNumber_ok defaultNumDeps cls _ _ (0x2D :: a.numText) _ _ _ errs dy _ rfl
        (by simp [tokP, hnm]) hq hexp _ _ (hnl _)]
  case' true.some =>
    rw [HL.Props.C03.parseAmount_sign defaultNumDeps cls _ _ _ errs dy rfl rfl,
      HL.Props.C03.amountNumber_ok defaultNumDeps cls _ _ (0x2D :: a.numText) _ _ _ errs dy _ rfl
        (by simp [tokP, hnm]) hq hexp _ _ (hco _ _ rfl)]
  -- both sides are sums of the same lengths: associate to the right
  all_goals
    simp only [Amount.expected, Amount.signText, Amount.print, Amount.comText, hneg, hcom, Bool.false_eq_true,
      if_false, if_true, List.nil_append, List.append_nil, List.cons_append, List.length_append, length_cons',
      List.length_nil, Nat.add_zero, Nat.add_assoc, tokP, emptyCommodity]

theorem nlP_ty (ln o pre : Nat) : (nlP ln o pre).ty = .newline := rfl
theorem nlP_pos (ln o pre : Nat) : (nlP ln o pre).pos = ⟨ln, 1 + pre, o + pre⟩ := rfl

theorem parsePosting_toksL (L : Layout) (p : Posting) (hp : p.wf = true) (ln o : Nat) (R : List Token)
    (errs : List ParseError) (dy : Int) :
    parsePosting (E cls) (stOf (p.toksL L ln o ++ R) errs dy) =
      (some (p.expectedL L ln o), ⟨R, nlP ln o (p.printL L).length, errs, dy⟩) := by
  have hamt := (Posting.wf_spec hp).2.2.2
  cases hamtv : p.amount with
  | none =>
    have e : p.toksL L ln o ++ R = tokP .indent (blanks L.indent) ln o 0 :: tokP .account p.acct ln o L.indent ::
        nlP ln o (p.printL L).length :: R := by simp [Posting.toksL, hamtv]
    rw [e, stOf_cons, HL.Props.C03.posting_account_only_ok defaultNumDeps cls _ _ _ R errs dy rfl rfl rfl]
    simp [Posting.expectedL, hamtv, tokP, nlP]
  | some a =>
    have hpa := parseAmount_toks cls a (hamt a hamtv) ln o (L.indent + p.acct.length + L.gap p)
      (nlP ln o (p.printL L).length) R errs dy rfl
      (by simp only [nlP_pos, Posting.printL, Posting.amtTextL, hamtv, List.length_append, blanks_length]
          simp only [Pos.mk.injEq, true_and]; omega)
    obtain ⟨t, ts, hts, hty⟩ : ∃ t ts, a.toks ln o (L.indent + p.acct.length + L.gap p) = t :: ts ∧
        (t.ty = .commodity ∨ t.ty = .number ∨ t.ty = .sign) := by
      cases hneg : a.neg
      · exact ⟨_, _, by simp only [Amount.toks, hneg]; rfl, Or.inr (Or.inl rfl)⟩
      · exact ⟨_, _, by simp only [Amount.toks, hneg]; rfl, Or.inr (Or.inr rfl)⟩
    rw [hts] at hpa
    have e : p.toksL L ln o ++ R = tokP .indent (blanks L.indent) ln o 0 :: tokP .account p.acct ln o L.indent ::
        t :: (ts ++ nlP ln o (p.printL L).length :: R) := by simp [Posting.toksL, hamtv, hts]
    rw [e, stOf_cons, HL.Props.C03.posting_ok defaultNumDeps cls (tokP .indent (blanks L.indent) ln o 0)
      (tokP .account p.acct ln o L.indent) t (ts ++ nlP ln o (p.printL L).length :: R) errs dy rfl rfl _ _
      (HL.Props.C03.postingTail_amount defaultNumDeps cls _ _ _ hty hpa rfl)]
    simp [Posting.expectedL, hamtv, tokP, nlP]

theorem advance_stOf (toks : List Token) (c : Token) (e : List ParseError) (y : Int) :
    advance (E cls) ⟨toks, c, e, y⟩ = stOf toks e y := by
  cases toks <;> rfl

theorem fuelOf_stOf (L : List Token) (errs : List ParseError) (dy : Int) :
    L.length ≤ fuelOf (E cls) (stOf L errs dy) := by
  cases L <;> simp [stOf, fuelOf, listEnv, listSrc]

theorem postingsToksL_length (L : Layout) (ps : List Posting) :
    ∀ ln o, ps.length ≤ (postingsToksL L ps ln o).length := by
  induction ps with
  | nil => intro _ _; simp [postingsToksL]
  | cons p ps ih =>
    intro ln o
    have := ih (ln + 1) (o + (p.printL L).length + 1)
    simp only [postingsToksL, List.length_append, List.length_cons, Posting.toksL]
    omega

theorem postingsF_toksL (L : Layout) (ps : List Posting) (hps : ∀ p ∈ ps, p.wf = true) :
    ∀ (ln o n : Nat) (x : Token) (R : List Token) (errs : List ParseError) (dy : Int),
      ps.length ≤ n → x.ty ≠ .indent →
      postingsF (E cls) n (stOf (postingsToksL L ps ln o ++ x :: R) errs dy) =
        (expectedPostingsL L ps ln o, ⟨R, x, errs, dy⟩) := by
  induction ps with
  | nil =>
    intro ln o n x R errs dy _ hx
    simp only [postingsToksL, List.nil_append, stOf_cons, expectedPostingsL]
    cases n with
    | zero => rfl
    | succ n => simp [postingsF, hx]
  | cons p ps ih =>
    intro ln o n x R errs dy hn hx
    obtain ⟨n, rfl⟩ : ∃ m, n = m + 1 := ⟨n - 1, by simp at hn; omega⟩
    have e : postingsToksL L (p :: ps) ln o ++ x :: R =
        p.toksL L ln o ++ (postingsToksL L ps (ln + 1) (o + (p.printL L).length + 1) ++ x :: R) := by
      simp [postingsToksL]
    have hind : (stOf (p.toksL L ln o ++ (postingsToksL L ps (ln + 1) (o + (p.printL L).length + 1) ++ x :: R))
        errs dy).current.ty = .indent := by simp [Posting.toksL, tokP]
    rw [e]
    unfold postingsF
    simp only [hind, ne_eq, not_true_eq_false, if_false, parsePosting_toksL cls L p (hps p (by simp)), nlP_ty, if_true,
      advance_stOf, ih (fun q hq => hps q (by simp [hq])) _ _ n x R errs dy (by simpa using hn) hx,
      expectedPostingsL]

theorem date_parse (d : Date) (hd : d.wf = true) :
    splitByte d.print (firstSep d.print) = [d.y, d.m, d.d] ∧ atoi d.y = some (digitsNat d.y : Int) ∧
    atoi d.m = some (digitsNat d.m : Int) ∧ atoi d.d = some (digitsNat d.d : Int) := by
  obtain ⟨_, _, hy, hm, hdl, hyd, hmd, hdd⟩ := Date.wf_spec hd
  have ne : ∀ s : Bytes, 0 < s.length → s ≠ [] := fun s h h' => by simp [h'] at h
  refine ⟨?_, atoi_digits _ hyd (ne _ (by omega)) (by omega), atoi_digits _ hmd (ne _ (by omega)) (by omega),
    atoi_digits _ hdd (ne _ (by omega)) (by omega)⟩
  have : firstSep d.print = 0x2D := by
    have := firstSepDate d.y (d.m ++ 0x2D :: d.d) hyd
    simpa [Date.print] using this
  rw [this]
  exact splitDate d.y d.m d.d hyd hmd hdd

theorem parseTransaction_toksL (L : Layout) (t : Tx) (ht : t.wf = true) (ln o : Nat) (x : Token) (R : List Token)
    (errs : List ParseError) (dy : Int) (hx : x.ty ≠ .indent)
    (hpos : x.pos = ⟨ln + 1 + t.postings.length, 1, o + (t.printL L).length⟩) :
    parseTransaction (E cls) (stOf (t.toksL L ln o ++ x :: R) errs dy) =
      (some (t.expectedL L ln o), ⟨R, x, errs, dy⟩) := by
  obtain ⟨hd, _, _, hps⟩ := Tx.wf_spec ht
  obtain ⟨hs, hy, hm, hdd⟩ := date_parse t.date hd
  have e : t.toksL L ln o ++ x :: R = tokP .date t.date.print ln o 0 ::
      tokP .text t.descr ln o (t.date.print.length + 1) :: nlP ln o t.header.length ::
      (postingsToksL L t.postings (ln + 1) (o + t.header.length + 1) ++ x :: R) := by
    simp [Tx.toksL, Tx.headerToks]
  rw [e, stOf_cons, HL.Props.C03.header_ok defaultNumDeps cls _ _ _ _ errs dy _ _ _ _ _ _ rfl rfl rfl hs hy hm hdd
    _ _ (by
      rw [advance_stOf, postingsF_toksL cls L t.postings hps _ _ _ x R errs dy
        (Nat.le_trans (Nat.le_trans (postingsToksL_length L t.postings (ln + 1) (o + t.header.length + 1))
          (by simp)) (fuelOf_stOf cls _ _ _)) hx])]
  simp [Tx.expectedL, hpos, tokP]

theorem toksFromL_length (L : Layout) (j : Journal) : ∀ ln o, 2 * j.length + 1 ≤ (toksFromL L j ln o).length := by
  induction j with
  | nil => intro _ _; simp [toksFromL]
  | cons t ts ih =>
    intro ln o
    cases ts with
    | nil => simp [toksFromL, Tx.toksL, Tx.headerToks]
    | cons t2 ts =>
      have := ih (ln + t.postings.length + 2) (o + (t.printL L).length + 1)
      simp only [toksFromL, List.length_append, List.length_cons, Tx.toksL, Tx.headerToks, List.length_nil] at this ⊢
      omega

theorem eofP_ty (ln o : Nat) : (eofP ln o).ty = .eof := rfl

theorem parseJournalF_toksL (L : Layout) (j : Journal) (hj : WF j = true) :
    ∀ (ln o n : Nat) (errs : List ParseError) (dy : Int), 2 * j.length ≤ n →
      ∃ st', parseJournalF (E cls) n (stOf (toksFromL L j ln o) errs dy) =
        (⟨expectedTxsL L j ln o, [], [], []⟩, st') ∧ st'.errors = errs := by
  -- two rounds of the loop per transaction (the transaction, then the empty line behind it), hence
  -- the fuel `2 * j.length`; the last transaction is followed by EOF instead
  induction j with
  | nil =>
    intro ln o n errs dy _
    refine ⟨stOf (toksFromL L [] ln o) errs dy, ?_, rfl⟩
    cases n with
    | zero => rfl
    | succ n => simp [parseJournalF, toksFromL, eofP_ty, expectedTxsL, jempty]
  | cons t ts ih =>
    intro ln o n errs dy hn
    rw [WF_cons] at hj
    obtain ⟨n, rfl⟩ : ∃ m, n = m + 1 := ⟨n - 1, by simp at hn; omega⟩
    have hdate : ∀ R, (stOf (t.toksL L ln o ++ R) errs dy).current.ty = .date := by
      intro R; simp [Tx.toksL, Tx.headerToks, tokP]
    cases ts with
    | nil =>
      have hpt := parseTransaction_toksL cls L t hj.1 ln o
        (eofP (ln + 1 + t.postings.length) (o + (t.printL L).length)) []
        errs dy (by simp [eofP_ty]) rfl
      refine ⟨⟨[], eofP (ln + 1 + t.postings.length) (o + (t.printL L).length), errs, dy⟩, ?_, rfl⟩
      simp only [toksFromL]
      unfold parseJournalF journalStep
      simp only [hdate, reduceCtorEq, if_false, if_true, hpt]
      cases n with
      | zero => simp [parseJournalF, jpush, jempty, expectedTxsL]
      | succ n => simp [parseJournalF, eofP_ty, jpush, jempty, expectedTxsL]
    | cons t2 ts =>
      obtain ⟨n, rfl⟩ : ∃ m, n = m + 1 := ⟨n - 1, by simp at hn; omega⟩
      have hpt := parseTransaction_toksL cls L t hj.1 ln o
        (nlP (ln + 1 + t.postings.length) (o + (t.printL L).length) 0)
        (toksFromL L (t2 :: ts) (ln + t.postings.length + 2) (o + (t.printL L).length + 1)) errs dy
        (by simp [nlP_ty]) (by simp [nlP_pos])
      obtain ⟨st', h1, h2⟩ := ih hj.2 (ln + t.postings.length + 2) (o + (t.printL L).length + 1) n errs dy
        (by simp only [List.length_cons] at hn ⊢; omega)
      refine ⟨st', ?_, h2⟩
      simp only [toksFromL]
      unfold parseJournalF journalStep
      simp only [hdate, reduceCtorEq, if_false, if_true, hpt]
      unfold parseJournalF journalStep
      simp only [nlP_ty, reduceCtorEq, if_false, if_true, advance_stOf, h1]
      simp [jpush, expectedTxsL]

theorem parseTokens_toksL (L : Layout) (j : Journal) (hj : WF j = true) :
    parseTokens defaultNumDeps cls (toksFromL L j 1 0) = (expectedL L j, []) := by
  unfold parseTokens parseWith parseJournal
  -- unfolding leaves the environment as the literal `⟨listSrc, defaultNumDeps, cls⟩`, where the
  -- lemmas say `E cls`: `e` and `h1'` restate them in that spelling so that `simp`/`rw` match
  have e : advance (⟨listSrc, defaultNumDeps, cls⟩ : Env (List Token)) ⟨toksFromL L j 1 0, eofToken, [], 0⟩ =
      stOf (toksFromL L j 1 0) [] 0 := advance_stOf cls _ _ _ _
  simp only [e]
  obtain ⟨st', h1, h2⟩ := parseJournalF_toksL cls L j hj 1 0
    (fuelOf (E cls) (stOf (toksFromL L j 1 0) [] 0)) [] 0
    (Nat.le_trans (by have := toksFromL_length L j 1 0; omega) (fuelOf_stOf cls _ _ _))
  have h1' : parseJournalF (⟨listSrc, defaultNumDeps, cls⟩ : Env (List Token))
      (fuelOf (⟨listSrc, defaultNumDeps, cls⟩ : Env (List Token)) (stOf (toksFromL L j 1 0) [] 0))
      (stOf (toksFromL L j 1 0) [] 0) = (⟨expectedTxsL L j 1 0, [], [], []⟩, st') := h1
  rw [h1']
  simp [h2, expectedL]

end HL.GCore
