import HL.Lemmas.Parser
/-
  Facts specific to the complete-token-list source `listSrc` (the one the correspondence uses).
-/
namespace HL.Parser
open HL HL.Ast

def listEnv (num : NumDeps) (cls : Classes) : Env (List Token) := ⟨listSrc, num, cls⟩

theorem listEnv_decr (num cls) : Decr (listEnv num cls) := by
  intro s h
  cases s with
  | nil => simp [listEnv, listSrc, eofToken] at h
  | cons t r => simp [listEnv, listSrc]

/-- The token stream a state still has in front of it (current token first). -/
def strm (st : PState (List Token)) : List Token := st.current :: st.src

variable (num : NumDeps) (cls : Classes)

theorem Reach.mem_stream {a C b} (h : Reach (listEnv num cls) a C b) :
    ∀ t ∈ C ++ strm b, t ∈ strm a ∨ t = eofToken := by
  induction h with
  | refl st => intro t ht; simp at ht; exact Or.inl ht
  | adv st _ =>
    intro t ht
    simp only [strm, advance, listEnv, listSrc] at ht ⊢
    cases hs : st.src with
    | nil => simp [hs] at ht ⊢; rcases ht with h | h | h <;> simp_all
    | cons x r => simp [hs] at ht ⊢; rcases ht with h | h | h <;> simp_all
  | err st msg => intro t ht; simp at ht; exact Or.inl ht
  | errPrev t' msg _ _ ih => intro t ht; exact ih t (by simpa [strm, errorAt] using ht)
  | year st y => intro t ht; simp at ht; exact Or.inl ht
  | @trans a C1 b C2 c _ _ ih1 ih2 =>
    intro t ht
    simp only [List.append_assoc, List.mem_append] at ht
    rcases ht with h | h
    · exact ih1 t (by simp [h])
    · rcases ih2 t (by simpa using h) with h2 | h2
      · exact ih1 t (by simp [h2])
      · exact Or.inr h2

/-- No hypothesis on `P`: the parser never advances at an EOF, so it cannot get past one. -/
theorem Reach.stream_split {a C b} (h : Reach (listEnv num cls) a C b) :
    ∀ P e Q, strm a = P ++ e :: Q → e.ty = .eof → ∃ P', P = C ++ P' ∧ strm b = P' ++ e :: Q := by
  induction h with
  | refl st => intro P e Q h _; exact ⟨P, rfl, h⟩
  | adv st hne =>
    intro P e Q h he
    cases P with
    | nil => simp [strm] at h; rw [h.1] at hne; exact absurd he hne
    | cons p P' =>
      simp only [strm, List.cons_append, List.cons.injEq] at h
      refine ⟨P', by simp [h.1], ?_⟩
      simp only [strm, advance, listEnv, listSrc, h.2]
      cases P' <;> simp
  | err st msg => intro P e Q h _; exact ⟨P, rfl, h⟩
  | errPrev t msg _ _ ih => exact ih
  | year st y => intro P e Q h _; exact ⟨P, rfl, h⟩
  | @trans a C1 b C2 c _ _ ih1 ih2 =>
    intro P e Q h he
    obtain ⟨P1, e1, s1⟩ := ih1 P e Q h he
    obtain ⟨P2, e2, s2⟩ := ih2 P1 e Q s1 he
    exact ⟨P2, by rw [e1, e2, List.append_assoc], s2⟩

/-- `Reach.stream_split` under a hypothesis on `P` that it does not need. -/
theorem Reach.stream {a C b} (h : Reach (listEnv num cls) a C b) :
    ∀ P e Q, strm a = P ++ e :: Q → e.ty = .eof → (∀ t ∈ P, t.ty ≠ .eof) →
      ∃ P', P = C ++ P' ∧ strm b = P' ++ e :: Q :=
  fun P e Q hs he _ => h.stream_split num cls P e Q hs he

end HL.Parser
