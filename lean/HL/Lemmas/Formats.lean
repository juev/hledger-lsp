/-
  Commodity formats.  `GetCommodityFormats` (repaired by fix-formats-path-order.diff) lets the
  last directive with a format win, reading the root journal and then the included files in
  path order: `formats_ok` — the result is that of a rebuild, whatever `resolved.FileOrder` is.
  The pinned getter (`pinnedComputeFormats`) reads the files in the order of
  `resolved.FileOrder`: if the member files other than the root do not disagree on any
  commodity's format its result does not depend on that order (`formats_order_indep`,
  `agree_of_noConflict`).
-/
import HL.Lemmas.View
namespace HL.Lemmas.Formats
open HL.Index HL.Workspace HL.Lemmas.AList HL.Lemmas.Index HL.Lemmas.WsInv HL.Lemmas.Update
open HL.Lemmas.View HL.Lemmas.Load HL.Spec.Rebuild

def fmtStep (m : AList String) (cd : CommDir) : AList String :=
  if cd.raw ≠ "" then m.set cd.sym cd.fmt else m

theorem formatsOf_eq (l : List CommDir) : formatsOf l = l.foldl fmtStep [] := rfl

theorem pinnedComputeFormats_eq (w : WS) : pinnedComputeFormats w = formatsOf (allCommDirs w) := rfl

theorem get_fmtStep (m : AList String) (cd : CommDir) (sym : String) :
    (fmtStep m cd).get sym = if cd.raw ≠ "" ∧ cd.sym = sym then some cd.fmt else m.get sym := by
  unfold fmtStep
  by_cases hr : cd.raw ≠ ""
  · rw [if_pos hr, get_set]
    by_cases hs : cd.sym = sym <;> simp [hr, hs]
  · rw [if_neg hr]
    have : ¬ (cd.raw ≠ "" ∧ cd.sym = sym) := fun h => hr h.1
    rw [if_neg this]

theorem get_foldl_fmt (l : List CommDir) (m : AList String) (sym : String) :
    (l.foldl fmtStep m).get sym =
      match (formatsOf l).get sym with
      | some v => some v
      | none => m.get sym := by
  induction l generalizing m with
  | nil => simp [formatsOf]
  | cons cd r ih =>
    rw [formatsOf_eq]
    simp only [List.foldl_cons]
    rw [ih (fmtStep m cd), ih (fmtStep [] cd)]
    cases (formatsOf r).get sym with
    | some v => rfl
    | none =>
      simp only [get_fmtStep]
      by_cases hc : cd.raw ≠ "" ∧ cd.sym = sym
      · simp [hc]
      · simp [hc]

theorem get_formatsOf_append (a b : List CommDir) (sym : String) :
    (formatsOf (a ++ b)).get sym =
      match (formatsOf b).get sym with
      | some v => some v
      | none => (formatsOf a).get sym := by
  rw [formatsOf_eq, List.foldl_append, get_foldl_fmt, ← formatsOf_eq]

theorem formatsOf_nodup (l : List CommDir) : (formatsOf l).keys.Nodup :=
  foldl_inv (P := fun m : AList String => m.keys.Nodup) l [] List.nodup_nil fun m cd _ h => by
    show (if cd.raw ≠ "" then m.set cd.sym cd.fmt else m).keys.Nodup
    by_cases hr : cd.raw ≠ ""
    · rw [if_pos hr]; exact nodup_keys_set _ _ _ h
    · rw [if_neg hr]; exact h

/-- the files of `ps` that give `sym` a format agree on it -/
def Agree (g : String → List CommDir) (ps : List String) (sym : String) : Prop :=
  ∀ p ∈ ps, ∀ q ∈ ps, ∀ v v', (formatsOf (g p)).get sym = some v →
    (formatsOf (g q)).get sym = some v' → v = v'

theorem get_formats_files (g : String → List CommDir) (sym : String) :
    ∀ (ps : List String), Agree g ps sym → ∀ v,
      ((formatsOf (ps.flatMap g)).get sym = some v ↔ ∃ p ∈ ps, (formatsOf (g p)).get sym = some v) := by
  intro ps
  induction ps with
  | nil => intro _ v; simp [formatsOf]
  | cons p rest ih =>
    intro hag v
    have hag' : Agree g rest sym := fun a ha b hb => hag a (List.mem_cons_of_mem _ ha) b (List.mem_cons_of_mem _ hb)
    rw [List.flatMap_cons, get_formatsOf_append]
    cases hr : (formatsOf (rest.flatMap g)).get sym with
    | some v' =>
      simp only
      obtain ⟨q, hq, hqv⟩ := (ih hag' v').mp hr
      constructor
      · intro h
        simp only [Option.some.injEq] at h
        subst h
        exact ⟨q, List.mem_cons_of_mem _ hq, hqv⟩
      · rintro ⟨q', hq', hq'v⟩
        rw [hag q' hq' q (List.mem_cons_of_mem _ hq) v v' hq'v hqv]
    | none =>
      simp only
      constructor
      · intro h; exact ⟨p, List.mem_cons_self, h⟩
      · rintro ⟨q, hq, hqv⟩
        rcases List.mem_cons.mp hq with e | e
        · exact e ▸ hqv
        · have := (ih hag' v).mpr ⟨q, e, hqv⟩
          rw [hr] at this; simp at this

/-- two file orders with the same files give the same formats when the files agree -/
theorem formats_order_indep (root : List CommDir) (g : String → List CommDir)
    (ps qs : List String) (hmem : ∀ x, x ∈ ps ↔ x ∈ qs) (sym : String)
    (hag : Agree g ps sym) :
    (formatsOf (root ++ ps.flatMap g)).get sym = (formatsOf (root ++ qs.flatMap g)).get sym := by
  have hag' : Agree g qs sym := fun a ha b hb => hag a ((hmem a).mpr ha) b ((hmem b).mpr hb)
  rw [get_formatsOf_append, get_formatsOf_append]
  have : (formatsOf (ps.flatMap g)).get sym = (formatsOf (qs.flatMap g)).get sym := by
    refine Option.ext fun v => ?_
    rw [get_formats_files g sym ps hag v, get_formats_files g sym qs hag' v]
    constructor
    · rintro ⟨p, hp, h⟩; exact ⟨p, (hmem p).mp hp, h⟩
    · rintro ⟨p, hp, h⟩; exact ⟨p, (hmem p).mpr hp, h⟩
  rw [this]

def cdsAt (fs : FS) (p : String) : List CommDir :=
  match fs.get p with
  | some c => c.cds
  | none => []

theorem length_le_one_eq (l : List String) (h : (dedup l).length < 2) (a b : String)
    (ha : a ∈ l) (hb : b ∈ l) : a = b := by
  have ha' := (mem_dedup l a).mpr ha
  have hb' := (mem_dedup l b).mpr hb
  match hd : dedup l, ha', hb' with
  | [], ha', _ => simp at ha'
  | [x], ha', hb' =>
    simp only [List.mem_singleton] at ha' hb'
    rw [ha', hb']
  | x :: y :: r, _, _ => rw [hd] at h; simp only [List.length_cons] at h; omega

theorem agree_of_noConflict (fs : FS) (root : String) (h : formatConflict fs root = false)
    (ps : List String) (hps : ∀ p ∈ ps, p ∈ members fs root ∧ p ≠ root) (sym : String) :
    Agree (cdsAt fs) ps sym := by
  intro p hp q hq v v' hv hv'
  obtain ⟨hpm, hpr⟩ := hps p hp
  obtain ⟨hqm, hqr⟩ := hps q hq
  obtain ⟨cp, hcp⟩ := Option.isSome_iff_exists.mp ((mem_members fs root p).mp hpm).2
  obtain ⟨cq, hcq⟩ := Option.isSome_iff_exists.mp ((mem_members fs root q).mp hqm).2
  simp only [cdsAt, hcp] at hv
  simp only [cdsAt, hcq] at hv'
  simp only [formatConflict, List.any_eq_false, decide_eq_true_eq, Nat.not_le] at h
  have hcpm : cp ∈ List.filterMap fs.get (List.filter (fun x => decide (x ≠ root)) (members fs root)) :=
    List.mem_filterMap.mpr ⟨p, List.mem_filter.mpr ⟨hpm, by simpa using hpr⟩, hcp⟩
  have hcqm : cq ∈ List.filterMap fs.get (List.filter (fun x => decide (x ≠ root)) (members fs root)) :=
    List.mem_filterMap.mpr ⟨q, List.mem_filter.mpr ⟨hqm, by simpa using hqr⟩, hcq⟩
  have hsym : sym ∈ dedup ((List.filterMap fs.get (List.filter (fun x => decide (x ≠ root)) (members fs root))).flatMap
      fun c => (formatsOf c.cds).keys) := by
    rw [mem_dedup]
    exact List.mem_flatMap.mpr ⟨cp, hcpm, (mem_keys_iff _ _).mpr (by rw [hv]; rfl)⟩
  have := h sym hsym
  exact length_le_one_eq _ this v v'
    (List.mem_filterMap.mpr ⟨cp, hcpm, hv⟩) (List.mem_filterMap.mpr ⟨cq, hcqm, hv'⟩)

theorem flatMap_congr' {α β : Type} (l : List α) (f g : α → List β) (h : ∀ x ∈ l, f x = g x) :
    l.flatMap f = l.flatMap g := by
  rw [List.flatMap_def, List.flatMap_def, List.map_congr_left h]

/-- for a resolved file other than the root the workspace holds what the directory holds -/
theorem rfile_cds (cfg : Cfg) (fs : FS) (w : WS) (h : WInv cfg fs w) (p : String)
    (hp : (w.rfiles.get p).isSome = true) :
    (match w.rfiles.get p with | some c => c.cds | none => []) = cdsAt fs p := by
  have hrf := h.pinv.r.rfiles p
  by_cases e1 : p = w.root
  · rw [hrf, if_pos e1] at hp; cases hp
  · rw [if_neg e1] at hrf
    by_cases e2 : (w.idx.files.get p).isSome
    · rw [if_pos e2] at hrf; rw [hrf]; rfl
    · rw [hrf, if_neg e2] at hp; cases hp

theorem allCommDirs_eq (cfg : Cfg) (fs : FS) (w : WS) (h : WInv cfg fs w) :
    allCommDirs w = cdsAt fs w.root ++ w.order.flatMap (cdsAt fs) := by
  unfold allCommDirs
  congr 1
  · rw [h.pinv.r.primary]; rfl
  · exact flatMap_congr' _ _ _ fun p hp => rfile_cds cfg fs w h p ((h.pinv.r.order p).mp hp)

theorem mem_order (cfg : Cfg) (fs : FS) (w : WS) (h : WInv cfg fs w) (p : String) :
    p ∈ w.order ↔ (p ∈ members fs w.root ∧ p ≠ w.root) := by
  have hR := h.pinv.r
  rw [hR.order p, hR.rfiles p, mem_members]
  by_cases e1 : p = w.root
  · simp [e1]
  · simp only [e1, if_false, ne_eq, not_false_eq_true, and_true]
    by_cases e2 : (w.idx.files.get p).isSome
    · simp only [e2, if_true]
      have := (h.closed p).mp e2
      simp [this.1, this.2]
    · simp only [e2]
      constructor
      · intro h'; simp at h'
      · intro h'; exact absurd ((h.closed p).mpr h') e2

theorem mem_rfiles_keys (cfg : Cfg) (fs : FS) (w : WS) (h : WInv cfg fs w) (p : String) :
    p ∈ dedup w.rfiles.keys ↔ p ∈ (members fs w.root).filter (· ≠ w.root) := by
  rw [mem_dedup, mem_keys_iff, ← h.pinv.r.order p, mem_order cfg fs w h p, List.mem_filter]
  simp

/-- the directives `GetCommodityFormats` reads are those of the root and of the other member
    files of the directory, in path order -/
theorem pathCommDirs_eq (cfg : Cfg) (fs : FS) (w : WS) (h : WInv cfg fs w) :
    pathCommDirs w =
      cdsAt fs w.root ++ (isort ((members fs w.root).filter (· ≠ w.root))).flatMap (cdsAt fs) := by
  unfold pathCommDirs
  rw [isort_ext _ _ (dedup_nodup _) ((members_nodup fs w.root).filter _) (mem_rfiles_keys cfg fs w h)]
  congr 1
  · rw [h.pinv.r.primary]; rfl
  · refine flatMap_congr' _ _ _ fun p hp => rfile_cds cfg fs w h p ?_
    rwa [mem_isort, ← mem_rfiles_keys cfg fs w h p, mem_dedup, mem_keys_iff] at hp

theorem computeFormats_eq' (w : WS) : computeFormats w = formatsOf (pathCommDirs w) := rfl

/-- the commodity formats of a workspace that satisfies the invariant for the directory `fs`
    are those of the specification (code repaired by fix-formats-path-order.diff: no guard) -/
theorem formats_ok (cfg : Cfg) (fs : FS) (w : WS) (h : WInv cfg fs w) :
    formatsOk (rebuildAt cfg.limit w.root fs) (observe w).1 = true := by
  rw [observe_fst]
  simp only [formatsOk, newF_eq cfg fs w h, Bool.and_eq_true, beq_iff_eq, List.all_eq_true]
  obtain ⟨cr, hcr⟩ := Option.isSome_iff_exists.mp ((h.closed w.root).mp h.pinv.rootIdx).2
  have hR : (rebuildAt cfg.limit w.root fs).formats = computeFormats w := by
    rw [computeFormats_eq', pathCommDirs_eq cfg fs w h]
    have e1 : cdsAt fs w.root = cr.cds := by simp [cdsAt, hcr]
    simp only [rebuildAt, formatOrder, hcr, List.flatMap_cons]
    rw [e1]
    rfl
  rw [hR]
  exact ⟨rfl, fun _ _ => rfl⟩

end HL.Lemmas.Formats
