/-
  Lemmas about the byte-string helpers of HL/Model/FmtText.lean: Go's rune decoding is
  compositional at boundaries where the right part does not start with a continuation byte,
  so rune lists, rune counts and UTF-16 lengths add up there (in particular around ASCII).
-/
import HL.Model.FmtText
import HL.Lemmas.Utf8
namespace HL.Lemmas.FmtText
open HL HL.FmtText

theorem isCont_iff (b : UInt8) : isCont b = true ↔ Utf8.isCont b = true := Iff.rfl
theorem accept2_iff (b0 b1 : UInt8) :
    accept2 b0 b1 = true ↔ (Utf8.acceptLo b0 ≤ b1 && b1 ≤ Utf8.acceptHi b0) = true := Iff.rfl
theorem runeError_eq : runeError = Utf8.runeError := rfl

/-- On non-empty input `decodeRune` is the decoder of HL/Model/Utf8.lean (on the empty string the
    widths differ, 1 and 0). -/
theorem decodeRune_eq (b0 : UInt8) (t : Bytes) : decodeRune (b0 :: t) = Utf8.decodeRune (b0 :: t) := by
  by_cases h80 : b0 < 0x80
  · simp only [decodeRune, Utf8.decodeRune, h80, if_true]
  by_cases hC2 : b0 < 0xC2
  · simp only [decodeRune, Utf8.decodeRune, h80, hC2, if_true, if_false, runeError_eq]
  by_cases hE0 : b0 < 0xE0
  · rcases t with _ | ⟨b1, t⟩ <;>
      simp only [decodeRune, Utf8.decodeRune, h80, hC2, hE0, if_true, if_false, isCont_iff, runeError_eq]
  by_cases hF0 : b0 < 0xF0
  · rcases t with _ | ⟨b1, _ | ⟨b2, t⟩⟩ <;>
      simp only [decodeRune, Utf8.decodeRune, h80, hC2, hE0, hF0, if_true, if_false, isCont_iff, accept2_iff,
        runeError_eq, ite_self]
  by_cases hF5 : b0 < 0xF5
  · rcases t with _ | ⟨b1, _ | ⟨b2, _ | ⟨b3, t⟩⟩⟩ <;>
      simp only [decodeRune, Utf8.decodeRune, h80, hC2, hE0, hF0, hF5, if_true, if_false, isCont_iff, accept2_iff,
        runeError_eq, ite_self]
  · simp only [decodeRune, Utf8.decodeRune, h80, hC2, hE0, hF0, hF5, if_false, runeError_eq]

/-- `b` is empty or does not start with a continuation byte. -/
def NonCont (b : Bytes) : Prop := ∀ x, b.head? = some x → isCont x = false

theorem nonCont_nil : NonCont [] := by intro x h; cases h

theorem nonCont_ascii (x : UInt8) (b : Bytes) (h : x < 0x80) : NonCont (x :: b) := by
  intro y hy
  simp only [List.head?_cons, Option.some.injEq] at hy
  subst hy
  exact Utf8.isCont_of_lt h

theorem decodeRune_append (a b : Bytes) (ha : a ≠ []) (hb : NonCont b) :
    decodeRune (a ++ b) = decodeRune a := by
  obtain ⟨b0, r, rfl⟩ := List.exists_cons_of_ne_nil ha
  cases b with
  | nil => rw [List.append_nil]
  | cons x b =>
    rw [List.cons_append, decodeRune_eq, decodeRune_eq]
    exact Utf8.decodeRune_append_stop (b0 :: r) ha (hb x rfl) b

theorem decodeRune_size (b0 : UInt8) (r : Bytes) :
    1 ≤ (decodeRune (b0 :: r)).2 ∧ (decodeRune (b0 :: r)).2 ≤ (b0 :: r).length := by
  rw [decodeRune_eq]
  exact ⟨Utf8.decodeRune_width_pos b0 r, Utf8.decodeRune_width_le_length b0 r⟩

theorem runesAux_append (a b : Bytes) (hb : NonCont b) :
    ∀ k, k ≤ a.length → runesAux k (a ++ b) = runesAux k a ++ runesAux 0 b := by
  induction a with
  | nil =>
    intro k hk
    have : k = 0 := by simpa using hk
    subst this
    cases b <;> simp [runesAux]
  | cons x a ih =>
    intro k hk
    cases k with
    | zero =>
      have hd : decodeRune (x :: (a ++ b)) = decodeRune (x :: a) :=
        decodeRune_append (x :: a) b (by simp) hb
      have hs := decodeRune_size x a
      simp only [List.cons_append, runesAux, hd, List.cons.injEq, true_and]
      apply ih
      simp only [List.length_cons] at hs
      omega
    | succ k =>
      simp only [List.cons_append, runesAux]
      apply ih
      simp only [List.length_cons] at hk
      omega

theorem runes_append (a b : Bytes) (hb : NonCont b) : runes (a ++ b) = runes a ++ runes b :=
  runesAux_append a b hb 0 (Nat.zero_le _)

theorem runeCountAux_eq (k : Nat) (s : Bytes) : runeCountAux k s = (runesAux k s).length := by
  induction s generalizing k with
  | nil => cases k <;> rfl
  | cons x s ih => cases k <;> simp [runeCountAux, runesAux, ih, Nat.add_comm]

theorem runeCount_eq (s : Bytes) : runeCount s = (runes s).length := runeCountAux_eq 0 s

/-- Sum of the UTF-16 widths of a rune list. -/
def u16sum : List (Nat × Nat) → Nat
  | [] => 0
  | (r, _) :: rs => u16w r + u16sum rs

theorem u16sum_append (a b : List (Nat × Nat)) : u16sum (a ++ b) = u16sum a + u16sum b := by
  induction a with
  | nil => simp [u16sum]
  | cons x a ih => obtain ⟨r, s⟩ := x; simp [u16sum, ih, Nat.add_assoc]

theorem u16lenAux_eq (k : Nat) (s : Bytes) : u16lenAux k s = u16sum (runesAux k s) := by
  induction s generalizing k with
  | nil => cases k <;> rfl
  | cons x s ih => cases k <;> simp [u16lenAux, runesAux, u16sum, ih]

theorem u16len_eq (s : Bytes) : u16len s = u16sum (runes s) := u16lenAux_eq 0 s

theorem runeCount_append (a b : Bytes) (hb : NonCont b) : runeCount (a ++ b) = runeCount a + runeCount b := by
  rw [runeCount_eq, runeCount_eq, runeCount_eq, runes_append a b hb, List.length_append]

theorem u16len_append (a b : Bytes) (hb : NonCont b) : u16len (a ++ b) = u16len a + u16len b := by
  rw [u16len_eq, u16len_eq, u16len_eq, runes_append a b hb, u16sum_append]

def IsAscii (s : Bytes) : Prop := ∀ x ∈ s, x < 0x80

theorem decodeRune_ascii (x : UInt8) (s : Bytes) (h : x < 0x80) : decodeRune (x :: s) = (x.toNat, 1) :=
  (decodeRune_eq x s).trans (Utf8.decodeRune_of_lt h s)

theorem runeCount_ascii_append (a s : Bytes) (ha : IsAscii a) : runeCount (a ++ s) = a.length + runeCount s := by
  induction a with
  | nil => simp
  | cons x a ih =>
    have hx : x < 0x80 := ha x (by simp)
    have := ih (fun y hy => ha y (by simp [hy]))
    simp only [runeCount] at *
    simp only [List.cons_append, runeCountAux, decodeRune_ascii x _ hx, Nat.sub_self, List.length_cons, this]
    omega

theorem runeCount_ascii (a : Bytes) (ha : IsAscii a) : runeCount a = a.length := by
  have := runeCount_ascii_append a [] ha
  simpa [runeCount, runeCountAux] using this

theorem nonCont_of_ascii (a s : Bytes) (ha : IsAscii a) (hs : NonCont s) : NonCont (a ++ s) := by
  cases a with
  | nil => simpa using hs
  | cons x a => exact nonCont_ascii x _ (ha x (by simp))

theorem nonCont_isAscii (a : Bytes) (ha : IsAscii a) : NonCont a := by
  cases a with
  | nil => exact nonCont_nil
  | cons x a => exact nonCont_ascii x a (ha x (by simp))

theorem isAscii_spaces (n : Nat) : IsAscii (spaces n) := by
  intro x hx
  simp only [spaces, List.mem_replicate] at hx
  rw [hx.2]; decide

theorem spaces_length (n : Nat) : (spaces n).length = n := by simp [spaces]

end HL.Lemmas.FmtText
