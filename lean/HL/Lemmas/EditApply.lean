import HL.Spec.EditSpec
import HL.Lemmas.Format
/-!
  The reference applier of HL/Spec/EditSpec.lean on a document that is given as a sequence of
  segments, some kept and some replaced: `applyEdits` rebuilds exactly the text with every
  replaced segment exchanged (`spliceAll_segs`, `applyEdits_segs`); byte offsets of LSP positions
  in a document given line by line (`offset_append`, `lineOffset_plain_all`); ASCII lines,
  `splitLines`, `trimRight` and the trimming loop on lines without trailing blanks.
  Used by HL/Lemmas/FormatGCore.lean to evaluate the formatter's edit list on journals of every
  size.
-/
namespace HL.Lemmas.EditApply
open HL HL.FmtText HL.Fmt HL.EditSpec HL.Lemmas.FmtText HL.Lemmas.Format

/-- a piece of the document: kept as it is, or replaced -/
inductive Seg where
  | keep (b : Bytes)
  | repl (old new : Bytes)

def oldText : List Seg → Bytes
  | [] => []
  | .keep b :: r => b ++ oldText r
  | .repl o _ :: r => o ++ oldText r

def newText : List Seg → Bytes
  | [] => []
  | .keep b :: r => b ++ newText r
  | .repl _ n :: r => n ++ newText r

/-- the splices of the replaced segments of a document whose first segment starts at `pos` -/
def toSplices : List Seg → Nat → List Splice
  | [], _ => []
  | .keep b :: r, pos => toSplices r (pos + b.length)
  | .repl o n :: r, pos => ⟨pos, pos + o.length, n⟩ :: toSplices r (pos + o.length)

theorem oldText_append (a b : List Seg) : oldText (a ++ b) = oldText a ++ oldText b := by
  induction a with
  | nil => rfl
  | cons s a ih => cases s <;> simp [oldText, ih]

theorem newText_append (a b : List Seg) : newText (a ++ b) = newText a ++ newText b := by
  induction a with
  | nil => rfl
  | cons s a ih => cases s <;> simp [newText, ih]

theorem toSplices_append (a b : List Seg) (pos : Nat) :
    toSplices (a ++ b) pos = toSplices a pos ++ toSplices b (pos + (oldText a).length) := by
  induction a generalizing pos with
  | nil => simp [toSplices, oldText]
  | cons s a ih =>
    cases s <;> simp [toSplices, oldText, ih, Nat.add_assoc]

/-- **Splicing a segmented document.**  `pre` has been consumed, `lag` is kept text in front of
    the next segment. -/
theorem spliceAll_segs (segs : List Seg) : ∀ (pre lag : Bytes),
    spliceAll (pre ++ lag ++ oldText segs) (toSplices segs (pre.length + lag.length)) pre.length =
      some (lag ++ newText segs) := by
  induction segs with
  | nil =>
    intro pre lag
    simp [toSplices, oldText, newText, spliceAll]
  | cons s segs ih =>
    intro pre lag
    cases s with
    | keep b =>
      have := ih pre (lag ++ b)
      simp only [List.length_append, List.append_assoc] at this
      simp only [toSplices, oldText, newText, List.append_assoc, Nat.add_assoc]
      exact this
    | repl o n =>
      have := ih (pre ++ lag ++ o) []
      rw [show (pre ++ lag ++ o).length + ([] : Bytes).length = pre.length + lag.length + o.length by simp; omega,
        show (pre ++ lag ++ o).length = pre.length + lag.length + o.length by simp; omega] at this
      simp only [List.append_nil, List.nil_append, List.append_assoc] at this
      simp only [toSplices, oldText, newText, spliceAll, List.append_assoc]
      have h1 : ¬ (pre.length + lag.length < pre.length) := by omega
      have h2 : ¬ (pre.length + lag.length + o.length < pre.length + lag.length) := by omega
      simp only [h1, h2, this]
      simp

theorem toSplices_ge (segs : List Seg) : ∀ pos, ∀ s ∈ toSplices segs pos, pos ≤ s.start := by
  induction segs with
  | nil => intro pos s hs; cases hs
  | cons x segs ih =>
    intro pos s hs
    cases x with
    | keep b => have := ih _ s hs; omega
    | repl o n =>
      rcases List.mem_cons.mp hs with rfl | hs
      · exact Nat.le_refl _
      · have := ih _ s hs; omega

theorem toSplices_sorted (segs : List Seg) : ∀ pos,
    (toSplices segs pos).Pairwise (fun a b => a.start ≤ b.start) := by
  induction segs with
  | nil => intro pos; exact List.Pairwise.nil
  | cons x segs ih =>
    intro pos
    cases x with
    | keep b => exact ih _
    | repl o n =>
      refine List.Pairwise.cons ?_ (ih _)
      intro s hs
      have := toSplices_ge segs _ s hs
      show pos ≤ s.start
      omega

theorem insertSplice_last (s : Splice) (acc : List Splice) (h : ∀ t ∈ acc, t.start ≤ s.start) :
    insertSplice s acc = acc ++ [s] := by
  induction acc with
  | nil => rfl
  | cons t acc ih =>
    have ht := h t (by simp)
    have : ¬ (s.start < t.start) := by omega
    simp only [insertSplice, this, if_false, List.cons_append, List.cons.injEq, true_and]
    exact ih (fun u hu => h u (by simp [hu]))

theorem foldl_insert_sorted (l : List Splice) : ∀ acc : List Splice,
    (acc ++ l).Pairwise (fun a b => a.start ≤ b.start) →
      l.foldl (fun acc s => insertSplice s acc) acc = acc ++ l := by
  induction l with
  | nil => intro acc _; simp
  | cons s l ih =>
    intro acc h
    simp only [List.foldl_cons]
    have hs : ∀ t ∈ acc, t.start ≤ s.start := by
      intro t ht
      have := List.pairwise_append.mp h
      exact this.2.2 t ht s (by simp)
    rw [insertSplice_last s acc hs, ih (acc ++ [s]) (by simpa using h)]
    simp

/-- Splices that are already in document order are left in that order. -/
theorem sortSplices_sorted (l : List Splice) (h : l.Pairwise (fun a b => a.start ≤ b.start)) :
    sortSplices l = l := by
  unfold sortSplices
  simpa using foldl_insert_sorted l [] (by simpa using h)

/-- **The applier on a segmented document**: given the edits translate to the splices of the
    replaced segments, the result is the document with every such segment exchanged. -/
theorem applyEdits_segs (segs : List Seg) (edits : List Edit)
    (h : edits.map (toSplice (splitLines (oldText segs))) = toSplices segs 0) :
    applyEdits (oldText segs) edits = some (newText segs) := by
  unfold applyEdits
  simp only [h, sortSplices_sorted _ (toSplices_sorted segs 0)]
  have := spliceAll_segs segs [] []
  simpa using this

/-- bytes of complete lines, each with its line feed -/
def bytesOf : List Bytes → Nat
  | [] => 0
  | l :: ls => l.length + 1 + bytesOf ls

theorem bytesOf_append (A B : List Bytes) : bytesOf (A ++ B) = bytesOf A + bytesOf B := by
  induction A with
  | nil => simp [bytesOf]
  | cons l A ih => simp only [List.cons_append, bytesOf, ih]; omega

theorem bytesOf_snoc (A : List Bytes) (l : Bytes) : bytesOf (A ++ [l]) = bytesOf A + l.length + 1 := by
  rw [bytesOf_append]; simp only [bytesOf]; omega

theorem offset_head (l : Bytes) (B : List Bytes) (ch : Nat) : offset (l :: B) 0 ch = lineOffset l ch := by
  cases B <;> rfl

theorem offset_append (A B : List Bytes) (hB : B ≠ []) (n ch : Nat) :
    offset (A ++ B) (A.length + n) ch = bytesOf A + offset B n ch := by
  induction A with
  | nil => simp [bytesOf]
  | cons l A ih =>
    obtain ⟨l', ls, hl⟩ : ∃ l' ls, A ++ B = l' :: ls := by
      cases h : A ++ B with
      | nil => simp at h; exact absurd h.2 hB
      | cons l' ls => exact ⟨l', ls, rfl⟩
    have e : (l :: A).length + n = (A.length + n) + 1 := by simp; omega
    rw [List.cons_append, hl, e]
    simp only [offset]
    rw [← hl, ih, bytesOf]
    omega

theorem getD_append_head (A : List Bytes) (l : Bytes) (B : List Bytes) :
    (A ++ l :: B).getD A.length [] = l := by
  simp [List.getD_eq_getElem?_getD]

def Plain (l : Bytes) : Prop := IsAscii l ∧ l.getLast? ≠ some 13

theorem runes_ascii (l : Bytes) (h : IsAscii l) : runes l = l.map fun c => (c.toNat, 1) := by
  unfold runes
  induction l with
  | nil => rfl
  | cons x l ih =>
    have hx : x < 0x80 := h x (by simp)
    simp only [runesAux, decodeRune_ascii x l hx, Nat.sub_self, List.map_cons, List.cons.injEq, true_and]
    exact ih (fun y hy => h y (by simp [hy]))

theorem u16w_ascii (c : UInt8) : u16w c.toNat = 1 := by
  have := UInt8.toNat_lt c
  unfold u16w
  have : ¬ (c.toNat ≥ 0x10000) := by omega
  simp [this]

theorem takeU16_zero (rs : List (Nat × Nat)) : takeU16 rs 0 = 0 := by
  cases rs with
  | nil => rfl
  | cons r rs =>
    obtain ⟨r, sz⟩ := r
    have : ¬ (u16w r ≤ 0) := by unfold u16w; split <;> omega
    simp [takeU16, this]

theorem takeU16_ascii_all (l : Bytes) : takeU16 (l.map fun c => (c.toNat, 1)) l.length = l.length := by
  induction l with
  | nil => rfl
  | cons x l ih =>
    simp only [List.map_cons, takeU16, u16w_ascii, List.length_cons]
    have : 1 ≤ l.length + 1 := by omega
    simp only [this, if_true, Nat.add_sub_cancel, ih]
    omega

theorem u16len_ascii (l : Bytes) (h : IsAscii l) : u16len l = l.length := by
  rw [u16len_eq, runes_ascii l h]
  induction l with
  | nil => rfl
  | cons x l ih =>
    simp only [List.map_cons, u16sum, u16w_ascii, List.length_cons]
    rw [ih (fun y hy => h y (by simp [hy]))]
    omega

theorem content_plain (l : Bytes) (h : Plain l) : content l = l := by
  unfold content; simp [h.2]

theorem lineOffset_zero (l : Bytes) : lineOffset l 0 = 0 := by
  unfold lineOffset; exact takeU16_zero _

theorem lineOffset_plain_all (l : Bytes) (h : Plain l) : lineOffset l l.length = l.length := by
  unfold lineOffset
  rw [content_plain l h, runes_ascii l h.1]
  exact takeU16_ascii_all l

theorem splitLines_line (l rest : Bytes) (h : ∀ c ∈ l, c ≠ 10) :
    splitLines (l ++ 10 :: rest) = l :: splitLines rest := by
  induction l with
  | nil => simp [splitLines]
  | cons x l ih =>
    have hx : x ≠ 10 := h x (by simp)
    simp only [List.cons_append, splitLines, hx, if_false]
    rw [ih (fun c hc => h c (by simp [hc]))]

theorem trimRight_nonblank (w : Bytes) (h : ∀ c ∈ w, isBlank c = false) : trimRight w = w := by
  induction w with
  | nil => rfl
  | cons x w ih =>
    have hw := ih (fun c hc => h c (by simp [hc]))
    simp only [trimRight, hw, h x (by simp), Bool.and_false, Bool.false_eq_true, if_false]

theorem trimRight_append (a b : Bytes) (hb : b ≠ []) (h : trimRight b = b) : trimRight (a ++ b) = a ++ b := by
  induction a with
  | nil => simpa using h
  | cons x a ih =>
    have : (a ++ b).isEmpty = false := by cases a <;> cases b <;> simp_all
    simp only [List.cons_append, trimRight, ih, this, Bool.false_and, Bool.false_eq_true, if_false]

theorem trimLoop_nil (all : List Bytes) (ex : List Int) (ls : List Bytes) (h : ∀ l ∈ ls, trimRight l = l) :
    ∀ n, trimLoop all ex ls n = [] := by
  induction ls with
  | nil => intro n; rfl
  | cons l ls ih =>
    intro n
    have hl := h l (by simp)
    simp only [trimLoop, trimEdit, hl, beq_self_eq_true, if_true, ih (fun x hx => h x (by simp [hx]))]
    split <;> rfl

end HL.Lemmas.EditApply
