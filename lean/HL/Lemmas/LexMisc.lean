import HL.Lemmas.Lexer
/-!
  Index arithmetic and value-level loops of the lexer model: what `looksLikeDate` asks of the
  eight bytes it reads (`looksLikeDateCore_true`), its checked version never fails (no index out of
  range), and the fuel of the value-level loops (`strings.TrimSpace`, `range value`) is never
  exhausted (`fuel_indep`).
-/
namespace HL.Lex
open HL HL.Utf8

/-- the date separators `- / .` -/
def isSep (c : UInt8) : Bool := c == 0x2D || c == 0x2F || c == 0x2E

/-- what `looksLikeDate` asks of the eight bytes it reads -/
theorem looksLikeDateCore_true {a : Bytes} (h : looksLikeDateCore a = true) :
    isDigit (a.getD 0 0) = true ∧ isDigit (a.getD 1 0) = true ∧ isDigit (a.getD 2 0) = true ∧
      isDigit (a.getD 3 0) = true ∧ isSep (a.getD 4 0) = true ∧ isDigit (a.getD 5 0) = true ∧
      (if isDigit (a.getD 6 0) = true then a.getD 7 0 = a.getD 4 0 else a.getD 6 0 = a.getD 4 0) := by
  simp only [looksLikeDateCore, Bool.and_eq_true] at h
  obtain ⟨⟨⟨⟨⟨⟨h0, h1⟩, h2⟩, h3⟩, h4⟩, h5⟩, h6⟩ := h
  refine ⟨h0, h1, h2, h3, h4, h5, ?_⟩
  split
  · rename_i hd; rw [if_pos hd] at h6; exact beq_iff_eq.mp h6
  · rename_i hd; rw [if_neg hd] at h6; exact beq_iff_eq.mp h6

theorem looksLikeDateCore_bytes {a : Bytes} (h : looksLikeDateCore a = true) (i : Nat) (hi : i ≤ 6) :
    isDigit (a.getD i 0) = true ∨ isSep (a.getD i 0) = true := by
  obtain ⟨h0, h1, h2, h3, h4, h5, h6⟩ := looksLikeDateCore_true h
  obtain rfl | rfl | rfl | rfl | rfl | rfl | rfl : i = 0 ∨ i = 1 ∨ i = 2 ∨ i = 3 ∨ i = 4 ∨ i = 5 ∨ i = 6 := by omega
  · exact .inl h0
  · exact .inl h1
  · exact .inl h2
  · exact .inl h3
  · exact .inr h4
  · exact .inl h5
  · by_cases hd : isDigit (a.getD 6 0) = true
    · exact .inl hd
    · rw [if_neg hd] at h6; rw [h6]; exact .inr h4

theorem looksLikeDateCore_digits {a : Bytes} (h : looksLikeDateCore a = true) (i : Nat) (hi : i < 4) :
    isDigit (a.getD i 0) = true := by
  obtain ⟨h0, h1, h2, h3, _⟩ := looksLikeDateCore_true h
  obtain rfl | rfl | rfl | rfl : i = 0 ∨ i = 1 ∨ i = 2 ∨ i = 3 := by omega
  · exact h0
  · exact h1
  · exact h2
  · exact h3

theorem digit_not_sep {c : UInt8} (h : isDigit c = true) : isSep c = false := by
  simp only [isDigit, Bool.and_eq_true, decide_eq_true_eq] at h
  have h1 := UInt8.le_iff_toNat_le.mp h.1
  cases hs : isSep c
  · rfl
  · simp only [isSep, Bool.or_eq_true, beq_iff_eq] at hs
    rcases hs with (rfl | rfl) | rfl <;> exact absurd h1 (by decide)

/-- `looksLikeDate` never indexes out of range: the version with checked reads always returns
    `some`, and it returns the value of the model's `looksLikeDate`. -/
theorem looksLikeDateChk_eq (a : Bytes) : looksLikeDateChk a = some (looksLikeDate a) := by
  by_cases hl : a.length < 8
  · simp [looksLikeDateChk, looksLikeDate, hl]
  · rcases a with _ | ⟨d0, _ | ⟨d1, _ | ⟨d2, _ | ⟨d3, _ | ⟨sep, _ | ⟨m, _ | ⟨x, _ | ⟨y, rest⟩⟩⟩⟩⟩⟩⟩⟩
    all_goals try (simp at hl; done)
    have hlen : ¬ ((d0 :: d1 :: d2 :: d3 :: sep :: m :: x :: y :: rest).length < 8) := by simp
    simp only [looksLikeDateChk, looksLikeDate, looksLikeDateCore, hlen, if_false]
    simp only [List.getElem?_cons_zero, List.getElem?_cons_succ, List.getD_cons_zero, List.getD_cons_succ,
      List.length_cons]
    cases h0 : (isDigit d0 && isDigit d1 && isDigit d2 && isDigit d3)
    · simp
    · cases hs : (sep == 0x2D || sep == 0x2F || sep == 0x2E)
      · have : (sep != 0x2D && sep != 0x2F && sep != 0x2E) = true := by
          simp only [Bool.or_eq_false_iff] at hs
          simp [bne, hs.1.1, hs.1.2, hs.2]
        simp [this]
      · have : (sep != 0x2D && sep != 0x2F && sep != 0x2E) = false := by
          cases h1 : (sep == 0x2D) <;> cases h2 : (sep == 0x2F) <;> cases h3 : (sep == 0x2E) <;> simp_all [bne]
        simp only [this]
        cases hm : isDigit m
        · simp
        · cases hx : isDigit x <;> simp

/-- A function that recurses on its fuel and, on a non-empty string, calls itself on strictly
    shorter strings only, does not depend on fuel at or above the length of the string. -/
theorem fuel_indep {β : Type} (f : Nat → Bytes → β) (hnil : ∀ n m, f n [] = f m [])
    (hcons : ∀ n m b t, (∀ s : Bytes, s.length ≤ t.length → f n s = f m s) → f (n + 1) (b :: t) = f (m + 1) (b :: t))
    (n m : Nat) (s : Bytes) (hn : s.length ≤ n) (hm : s.length ≤ m) : f n s = f m s := by
  induction n generalizing m s with
  | zero =>
    have := List.eq_nil_of_length_eq_zero (Nat.le_zero.mp hn)
    subst this; exact hnil 0 m
  | succ n ih =>
    cases s with
    | nil => exact hnil _ _
    | cons b t =>
      obtain ⟨m, rfl⟩ : ∃ k, m = k + 1 := ⟨m - 1, by simp at hm; omega⟩
      exact hcons n m b t fun s hs => ih m s (by simp at hn; omega) (by simp at hm; omega)

theorem drop_width_le (b : UInt8) (t : Bytes) : ((b :: t).drop (decodeRune (b :: t)).2).length ≤ t.length := by
  have := decodeRune_width_pos b t
  simp only [List.length_drop, List.length_cons]; omega

theorem trimLeftFuncF_fuel (n m : Nat) (s : Bytes) (hn : s.length ≤ n) (hm : s.length ≤ m) :
    trimLeftFuncF n s = trimLeftFuncF m s := by
  refine fuel_indep trimLeftFuncF (fun n m => by cases n <;> cases m <;> rfl) (fun n m b t ih => ?_) n m s hn hm
  simp only [trimLeftFuncF, ih _ (drop_width_le b t)]

theorem lastIndexNotSpaceF_fuel (n m : Nat) (s : Bytes) (hn : s.length ≤ n) (hm : s.length ≤ m) :
    lastIndexNotSpaceF n s = lastIndexNotSpaceF m s := by
  refine fuel_indep lastIndexNotSpaceF (fun n m => by cases n <;> cases m <;> rfl) (fun n m b t ih => ?_) n m s hn hm
  have hw := decodeLastRuneRev_width_pos b t
  have hl : ((b :: t).drop (decodeLastRuneRev (b :: t)).2).length ≤ t.length := by
    simp only [List.length_drop, List.length_cons]; omega
  simp only [lastIndexNotSpaceF, ih _ hl]

theorem runesF_fuel (n m : Nat) (s : Bytes) (hn : s.length ≤ n) (hm : s.length ≤ m) :
    runesF n s = runesF m s := by
  refine fuel_indep runesF (fun n m => by cases n <;> cases m <;> rfl) (fun n m b t ih => ?_) n m s hn hm
  simp only [runesF, ih _ (drop_width_le b t)]

end HL.Lex
