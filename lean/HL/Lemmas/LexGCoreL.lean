import HL.Lemmas.LexGCore
import HL.Spec.GCoreLayout
/-!
  The lexer model on `GCore` journals printed under an arbitrary layout (`GCore.printL`,
  HL/Spec/GCoreLayout.lean): any indent of at least one blank, any gap of at least two blanks in
  front of each amount.  Posting lines, whole transactions and whole journals (continuation of
  HL/Lemmas/LexGCore.lean; the extent lemmas of layer L3 are stated for lexemes and blank runs of
  every length), after what well-formedness says about amounts, postings and transactions
  (`Amount.wf_spec`, `Posting.wf_spec`, `Tx.wf_spec`, `WF_cons`).  HL/Lemmas/LexGCoreP.lean
  specialises to the layout of `GCore.print`.
-/
namespace HL.GCore
open HL HL.Lex

def Posting.toksL (L : Layout) (p : Posting) (ln o : Nat) : List Token :=
  tokP .indent (blanks L.indent) ln o 0 :: tokP .account p.acct ln o L.indent ::
  ((match p.amount with | none => [] | some a => a.toks ln o (L.indent + p.acct.length + L.gap p)) ++
   [nlP ln o (p.printL L).length])

def postingsToksL (L : Layout) : List Posting → Nat → Nat → List Token
  | [], _, _ => []
  | p :: ps, ln, o => p.toksL L ln o ++ postingsToksL L ps (ln + 1) (o + (p.printL L).length + 1)

def Tx.toksL (L : Layout) (t : Tx) (ln o : Nat) : List Token :=
  t.headerToks ln o ++ postingsToksL L t.postings (ln + 1) (o + t.header.length + 1)

def toksFromL (L : Layout) : List Tx → Nat → Nat → List Token
  | [], ln, o => [eofP ln o]
  | [t], ln, o => t.toksL L ln o ++ [eofP (ln + 1 + t.postings.length) (o + (t.printL L).length)]
  | t :: t2 :: ts, ln, o =>
    t.toksL L ln o ++ nlP (ln + 1 + t.postings.length) (o + (t.printL L).length) 0 ::
      toksFromL L (t2 :: ts) (ln + t.postings.length + 2) (o + (t.printL L).length + 1)

theorem blanks_length (n : Nat) : (blanks n).length = n := by simp [blanks]
theorem mem_blanks {n : Nat} {c : UInt8} (h : c ∈ blanks n) : c = 0x20 := by
  simp only [blanks, List.mem_replicate] at h; exact h.2

theorem Amount.wf_spec {a : Amount} (h : a.wf = true) :
    (a.int ≠ [] ∧ ∀ c ∈ a.int, isDigit c = true) ∧
    (∀ f, a.frac = some f → f ≠ [] ∧ (∀ c ∈ f, isDigit c = true) ∧ f.length ≤ 1000 ∧
      (f.length = 3 → ∀ c ∈ a.int, c = 0x30)) ∧
    (∀ w, a.com = some w → w ≠ [] ∧ ∀ c ∈ w, isUpper c = true) := by
  simp only [Amount.wf, Bool.and_eq_true] at h
  obtain ⟨⟨h1, h2⟩, h3⟩ := h
  refine ⟨?_, ?_, ?_⟩
  · have := word_spec h1; simpa [isDigitB_eq] using this
  · intro f hf
    rw [hf] at h2
    simp only [Bool.and_eq_true, decide_eq_true_eq, Bool.or_eq_true, bne_iff_ne, ne_eq, List.all_eq_true,
      beq_iff_eq] at h2
    obtain ⟨⟨h21, h22⟩, h23⟩ := h2
    have := word_spec h21
    refine ⟨this.1, by simpa [isDigitB_eq] using this.2, h22, ?_⟩
    intro h3'
    rcases h23 with h | h
    · exact absurd h3' h
    · exact h
  · intro w hw
    rw [hw] at h3
    have := word_spec h3
    exact ⟨this.1, by simpa [isUpperB_eq] using this.2⟩

theorem Posting.wf_spec {p : Posting} (h : p.wf = true) :
    (∃ c t, p.acct = c :: t ∧ isLower c = true) ∧ (∀ c ∈ p.acct, isLower c = true ∨ c = 0x3A) ∧
    p.acct.contains 0x3A = true ∧ (∀ a, p.amount = some a → a.wf = true) := by
  simp only [Posting.wf, Bool.and_eq_true, decide_eq_true_eq, List.all_eq_true] at h
  obtain ⟨⟨h1, h2⟩, h3⟩ := h
  match hs : p.segs, h1 with
  | s1 :: s2 :: ss, _ =>
    have hs1 := word_spec (h2 s1 (by simp [hs]))
    refine ⟨?_, ?_, by simp [Posting.acct, hs, joinWith], fun a ha => by rw [ha] at h3; exact h3⟩
    · obtain ⟨c, t, hc⟩ := List.exists_cons_of_ne_nil hs1.1
      exact ⟨c, t ++ 0x3A :: joinWith 0x3A (s2 :: ss), by simp [Posting.acct, hs, joinWith, hc],
        hs1.2 c (by simp [hc])⟩
    · intro c hc
      rcases mem_joinWith hc with h | ⟨x, hx, hcx⟩
      · exact .inr h
      · exact .inl ((word_spec (h2 x hx)).2 c hcx)

theorem Tx.wf_spec {t : Tx} (h : t.wf = true) :
    t.date.wf = true ∧ t.words ≠ [] ∧ (∀ w ∈ t.words, word isLowerB w = true) ∧ ∀ p ∈ t.postings, p.wf = true := by
  simp only [Tx.wf, Bool.and_eq_true, Bool.not_eq_true', List.isEmpty_eq_false_iff, List.all_eq_true] at h
  exact ⟨h.1.1.1, h.1.1.2, h.1.2, h.2⟩

theorem WF_cons (t : Tx) (ts : Journal) : WF (t :: ts) = true ↔ t.wf = true ∧ WF ts = true := by
  simp only [WF, List.all_cons, Bool.and_eq_true]

theorem numText_spec {a : Amount} (h : a.wf = true) :
    (∃ c t, a.numText = c :: t ∧ isDigit c = true) ∧ (∀ c ∈ a.numText, isDigit c = true ∨ c = 0x2E) := by
  obtain ⟨⟨hi, hid⟩, hf, _⟩ := Amount.wf_spec h
  constructor
  · obtain ⟨c, t, hc⟩ := List.exists_cons_of_ne_nil hi
    exact ⟨c, t ++ (match a.frac with | none => [] | some f => 0x2E :: f), by rw [Amount.numText, hc]; rfl,
      hid c (by simp [hc])⟩
  · intro c hc
    simp only [Amount.numText, List.mem_append] at hc
    rcases hc with hc | hc
    · exact .inl (hid c hc)
    · cases hfr : a.frac with
      | none => simp [hfr] at hc
      | some f =>
        simp only [hfr, List.mem_cons] at hc
        exact (hc.imp_right ((hf f hfr).2.1 c)).symm

/-- what follows the number: nothing but the line feed, or a blank and an upper-case word -/
theorem comText_spec {a : Amount} (h : a.wf = true) (rest : Bytes) :
    NumStop (a.comText ++ LF :: rest) ∧ DateStop (a.comText ++ LF :: rest) := by
  obtain ⟨_, _, hc⟩ := Amount.wf_spec h
  cases hcom : a.com with
  | none =>
    simp only [Amount.comText, hcom, List.nil_append]
    constructor
    · intro c t hct; cases hct
      exact ⟨by decide, by decide, by decide, by decide, by decide, fun h => absurd h (by decide)⟩
    · intro c t hct; cases hct; exact ⟨by decide, by decide⟩
  | some w =>
    obtain ⟨hw, hwu⟩ := hc w hcom
    obtain ⟨u, t', hu⟩ := List.exists_cons_of_ne_nil hw
    simp only [Amount.comText, hcom, List.cons_append]
    constructor
    · intro c t hct; cases hct
      refine ⟨by decide, by decide, by decide, by decide, by decide, fun _ => ?_⟩
      simp [hu, headIsDigit, (upper_spec (hwu u (by simp [hu]))).noDigit]
    · intro c t hct; cases hct; exact ⟨by decide, by decide⟩

theorem next_number (C : Classes) {z : Z} (hc : z.col = 1) {a : Amount} (h : a.wf = true) (p sp rest : Bytes)
    (hsp : ∀ c ∈ sp, c = 0x20) :
    next C (z.started.over p (sp ++ (a.numText ++ (a.comText ++ LF :: rest)))) =
      (tokP .number a.numText z.line z.before.length (p.length + sp.length),
       z.started.over (p ++ sp ++ a.numText) (a.comText ++ LF :: rest)) := by
  obtain ⟨h0, hnb⟩ := numText_spec h
  obtain ⟨hns, hds⟩ := comText_spec h rest
  obtain ⟨⟨_, hid⟩, hf, _⟩ := Amount.wf_spec h
  refine next_cur C hc hsp ?_ ?_
  · obtain ⟨c, t, hct, hcd⟩ := h0
    rw [hct]
    exact Stops.cons _ (digit_spec hcd).noBlank
  · intro Z hZ
    refine scanInLineAt_number C hZ h0
      (fun c hc => (hnb c hc).elim (fun hd => (digit_spec hd).num) (fun hd => hd ▸ by decide)) hns ?_
    rw [hZ]
    cases hfr : a.frac with
    | none =>
      have := looksLikeDate_int a.int (a.comText ++ LF :: rest) hid hds
      simpa [Amount.numText, hfr] using this
    | some f =>
      have := looksLikeDate_frac a.int f (a.comText ++ LF :: rest) hid (hf f hfr).2.1 hds
      simpa [Amount.numText, hfr] using this

theorem next_commodity (C : Classes) (hC : ClassesOk C = true) {z : Z} (hc : z.col = 1) {w : Bytes}
    (hw : w ≠ []) (hwu : ∀ c ∈ w, isUpper c = true) (p rest : Bytes) :
    next C (z.started.over p (0x20 :: (w ++ LF :: rest))) =
      (tokP .commodity w z.line z.before.length (p.length + 1),
       z.started.over (p ++ [0x20] ++ w) (LF :: rest)) := by
  have := next_cur C hc (p := p) (sp := [0x20]) (v := w) (rest := LF :: rest) (ty := .commodity) (by simp)
    (by
      obtain ⟨c, t, hct⟩ := List.exists_cons_of_ne_nil hw
      rw [hct]; exact Stops.cons _ (upper_spec (hwu c (by simp [hct]))).noBlank)
    (by
      intro Z hZ
      refine scanInLineAt_commodity C hZ hw hwu (fun c hc' => classesOk_upper hC (hwu c hc'))
        (Stops.cons _ (by decide)) ?_
      rw [hZ]
      exact looksLikeAccount_noColon _ _ (fun c hc' => ⟨(upper_spec (hwu c hc')).ascii, (upper_spec (hwu c hc')).noColon⟩)
        (Or.inr ⟨_, rfl⟩))
  simpa using this

theorem lex_amountL (C : Classes) (hC : ClassesOk C = true) {z : Z} (hc : z.col = 1) {a : Amount}
    (h : a.wf = true) (p sp rest : Bytes) (hsp : ∀ c ∈ sp, c = 0x20) :
    lexS C (z.started.over p (sp ++ (a.print ++ LF :: rest))) =
      a.toks z.line z.before.length (p.length + sp.length) ++
        lexS C (z.started.over (p ++ sp ++ a.print) (LF :: rest)) := by
  obtain ⟨_, _, hcw⟩ := Amount.wf_spec h
  obtain ⟨⟨d, t, hnt, hd⟩, _⟩ := numText_spec h
  -- one `next` step per token: the sign (if any), the number, then `tail`: the commodity (if any)
  have tail : ∀ q : Bytes,
      lexS C (z.started.over q (a.comText ++ LF :: rest)) =
        (match a.com with | none => [] | some w => [tokP .commodity w z.line z.before.length (q.length + 1)]) ++
          lexS C (z.started.over (q ++ a.comText) (LF :: rest)) := by
    intro q
    cases hcom : a.com with
    | none => simp [Amount.comText, hcom]
    | some w =>
      obtain ⟨hw, hwu⟩ := hcw w hcom
      simp only [Amount.comText, hcom, List.cons_append]
      rw [lexS_step C (next_commodity C hC hc hw hwu q rest) (by simp [tokP])]
      simp
  -- what is left at the end: the two sides differ in how a position and a consumed prefix are
  -- written (`p.length + sp.length + …`, `p ++ sp ++ …`), not in shape
  have fin : ∀ (n m : Nat) (x y : Bytes), n = m → x = y →
      (match a.com with | none => [] | some w => [tokP .commodity w z.line z.before.length n]) ++
          lexS C (z.started.over x (LF :: rest)) =
      (match a.com with | none => [] | some w => [tokP .commodity w z.line z.before.length m]) ++
          lexS C (z.started.over y (LF :: rest)) := by
    intro n m x y h1 h2; rw [h1, h2]
  cases hneg : a.neg with
  | false =>
    have e : (sp ++ (a.print ++ LF :: rest) : Bytes) =
        sp ++ (a.numText ++ (a.comText ++ LF :: rest)) := by
      simp [Amount.print, Amount.signText, hneg]
    rw [e, lexS_step C (next_number C hc h p sp rest hsp) (by simp [tokP]), tail]
    simp only [Amount.toks, hneg, Bool.false_eq_true, if_false, List.nil_append, List.cons_append,
      Amount.signText, List.length_nil, Nat.add_zero, List.cons.injEq, true_and]
    exact fin _ _ _ _ (by simp; omega) (by simp [Amount.print, Amount.signText, hneg])
  | true =>
    have e : (sp ++ (a.print ++ LF :: rest) : Bytes) =
        sp ++ ([0x2D] ++ (a.numText ++ (a.comText ++ LF :: rest))) := by
      simp [Amount.print, Amount.signText, hneg]
    have hs := next_cur C hc (p := p) (sp := sp) (v := [0x2D])
      (rest := a.numText ++ (a.comText ++ LF :: rest)) (ty := .sign) hsp
      (Stops.cons _ (by decide))
      (by
        intro Z hZ
        have hZ' : Z.after = 0x2D :: d :: (t ++ (a.comText ++ LF :: rest)) := by rw [hZ, hnt]; simp
        have := scanInLineAt_sign C hZ' (.inl rfl) hd
        rw [this]; simp [hnt])
    rw [e, lexS_step C hs (by simp [tokP])]
    have hn := next_number C hc h (p ++ sp ++ [0x2D]) [] rest (by simp)
    simp only [List.nil_append] at hn
    rw [lexS_step C hn (by simp [tokP]), tail]
    simp only [Amount.toks, hneg, if_true, List.cons_append, List.nil_append,
      Amount.signText, List.length_nil, Nat.add_zero, List.length_cons, List.cons.injEq, true_and,
      List.length_append]
    exact fin _ _ _ _ (by simp) (by simp [Amount.print, Amount.signText, hneg])

/-- **A posting line** under layout `L`: `' '{indent} account [ ' '{gap} amount ] LF`. -/
theorem lex_posting_lineL (C : Classes) (hC : ClassesOk C = true) (L : Layout) (hL : L.ok) {z : Z} (hz : LS z)
    (p : Posting) (hp : p.wf = true) {rest : Bytes} (ha : z.after = p.printL L ++ LF :: rest) :
    lexS C z = p.toksL L z.line z.before.length ++ lexS C (jump z (p.printL L ++ [LF]) rest 1) := by
  obtain ⟨⟨c0, t0, hacct, hc0⟩, hab, hcolon, hamt⟩ := Posting.wf_spec hp
  have ha1 : z.after = blanks L.indent ++ (p.acct ++ (p.amtTextL L ++ LF :: rest)) := by
    rw [ha]; simp [Posting.printL]
  have lb := lower_spec hc0
  have hine : blanks L.indent ≠ [] := by
    intro h; have := congrArg List.length h; simp [blanks_length] at this; have := hL.1; omega
  have h1 := next_indent C hz.1 hz.2 ha1 hine (by intro c hc; rw [mem_blanks hc]; decide)
    (by rw [hacct]; exact StopsL.cons _ lb.noWs)
  have e1 : tokAt .indent (blanks L.indent) z (blanks L.indent).length =
      tokP .indent (blanks L.indent) z.line z.before.length 0 := by
    simp [tokAt, tokP, Z.position, hz.2, Nat.add_comm]
  rw [lexS_step C h1 (by simp [tokAt]), e1]
  have hstopA : AcctStop (p.amtTextL L ++ LF :: rest) := by
    cases hamtv : p.amount with
    | none =>
      simp only [Posting.amtTextL, hamtv, List.nil_append]
      exact Or.inr (Or.inl ⟨LF, rest, rfl, by decide, by decide⟩)
    | some a =>
      simp only [Posting.amtTextL, hamtv]
      obtain ⟨g, hg⟩ : ∃ g, L.gap p = g + 2 := ⟨L.gap p - 2, by have := hL.2 p; omega⟩
      rw [hg]
      exact Or.inr (Or.inr ⟨blanks g ++ a.print ++ LF :: rest, by simp [blanks, List.replicate_succ]⟩)
  have h2 := next_cur C hz.2 (p := blanks L.indent) (sp := []) (v := p.acct)
    (rest := p.amtTextL L ++ LF :: rest) (ty := .account) (by simp)
    (by rw [hacct]; exact Stops.cons _ lb.noBlank)
    (fun Z hZ => scanInLineAt_account C hZ ⟨c0, t0, hacct, lb.letter⟩
      (fun c hc => (hab c hc).elim (fun h => (lower_spec h).acct) (fun h => h ▸ by decide)) hcolon hstopA)
  simp only [List.nil_append, List.append_nil, List.length_nil, Nat.add_zero, blanks_length] at h2
  rw [lexS_step C h2 (by simp [tokP])]
  cases hamtv : p.amount with
  | none =>
    have e : p.amtTextL L = [] := by simp [Posting.amtTextL, hamtv]
    have eb : blanks L.indent ++ p.acct = p.printL L := by simp [Posting.printL, e]
    rw [e, List.nil_append, eb, lexS_step C (next_cur_lf C hz.2 (p.printL L) rest) (by simp [nlP])]
    simp [Posting.toksL, hamtv]
  | some a =>
    have e : p.amtTextL L ++ LF :: rest = blanks (L.gap p) ++ (a.print ++ LF :: rest) := by
      simp [Posting.amtTextL, hamtv]
    have eb : blanks L.indent ++ p.acct ++ blanks (L.gap p) ++ a.print = p.printL L := by
      simp [Posting.printL, Posting.amtTextL, hamtv]
    rw [e, lex_amountL C hC hz.2 (hamt a hamtv) _ _ _ (fun c hc => mem_blanks hc), eb,
      lexS_step C (next_cur_lf C hz.2 (p.printL L) rest) (by simp [nlP])]
    simp [Posting.toksL, hamtv, blanks_length]

theorem lex_postingsL (C : Classes) (hC : ClassesOk C = true) (L : Layout) (hL : L.ok) (ps : List Posting) :
    ∀ {z : Z}, LS z → (∀ p ∈ ps, p.wf = true) → ∀ {rest : Bytes}, z.after = printPostingsL L ps ++ rest →
      lexS C z = postingsToksL L ps z.line z.before.length ++
        lexS C (jump z (printPostingsL L ps) rest ps.length) := by
  induction ps with
  | nil =>
    intro z hz _ rest ha
    simp only [printPostingsL, List.nil_append] at ha
    simp only [postingsToksL, printPostingsL, List.nil_append, List.length_nil]
    rw [← ha, jump_zero z hz]
  | cons p ps ih =>
    intro z hz hwf rest ha
    have ha' : z.after = p.printL L ++ LF :: (printPostingsL L ps ++ rest) := by rw [ha]; simp [printPostingsL]
    rw [lex_posting_lineL C hC L hL hz p (hwf p (by simp)) ha',
      ih (jump_ls _ _ _ _) (fun q hq => hwf q (by simp [hq])) (jump_after _ _ _ _), jump_jump]
    simp only [postingsToksL, jump_line, jump_off, printPostingsL, List.length_append, List.length_cons,
      List.length_nil, List.append_assoc, List.cons_append, List.nil_append]
    rw [show z.before.length + ((p.printL L).length + (0 + 1)) = z.before.length + (p.printL L).length + 1 by omega,
      show 1 + ps.length = ps.length + 1 by omega]

theorem lex_txL (C : Classes) (hC : ClassesOk C = true) (L : Layout) (hL : L.ok) {z : Z} (hz : LS z) (t : Tx)
    (ht : t.wf = true) {rest : Bytes} (ha : z.after = t.printL L ++ rest) :
    lexS C z = t.toksL L z.line z.before.length ++ lexS C (jump z (t.printL L) rest (1 + t.postings.length)) := by
  obtain ⟨hd, hne, hws, hps⟩ := Tx.wf_spec ht
  have ha' : z.after = t.header ++ LF :: (printPostingsL L t.postings ++ rest) := by rw [ha]; simp [Tx.printL]
  rw [lex_header_line C hC hz t hd hne hws ha',
    lex_postingsL C hC L hL t.postings (jump_ls _ _ _ _) hps (jump_after _ _ _ _), jump_jump]
  simp only [Tx.toksL, jump_line, jump_off, List.length_append, List.length_cons, List.length_nil,
    List.append_assoc, Tx.printL, List.cons_append, List.nil_append]
  rw [show z.before.length + (t.header.length + (0 + 1)) = z.before.length + t.header.length + 1 by omega]

theorem lex_journalL (C : Classes) (hC : ClassesOk C = true) (L : Layout) (hL : L.ok) (j : Journal) :
    ∀ {z : Z}, LS z → WF j = true → z.after = printL L j → lexS C z = toksFromL L j z.line z.before.length := by
  induction j with
  | nil =>
    intro z hz _ ha
    exact lexS_eof C ha hz.2
  | cons t ts ih =>
    intro z hz hwf ha
    rw [WF_cons] at hwf
    cases ts with
    | nil =>
      have ha' : z.after = t.printL L ++ [] := by simpa [printL] using ha
      rw [lex_txL C hC L hL hz t hwf.1 ha', lexS_eof C (jump_after _ _ _ _) rfl]
      simp only [toksFromL, jump_line, jump_off]
      rw [show z.line + (1 + t.postings.length) = z.line + 1 + t.postings.length by omega]
    | cons t2 ts =>
      have ha' : z.after = t.printL L ++ LF :: printL L (t2 :: ts) := by simpa [printL] using ha
      rw [lex_txL C hC L hL hz t hwf.1 ha', lex_blank_line C (jump_ls _ _ _ _) (jump_after _ _ _ _), jump_jump,
        ih (jump_ls _ _ _ _) hwf.2 (jump_after _ _ _ _)]
      simp only [toksFromL, jump_line, jump_off, List.length_append, List.length_cons, List.length_nil]
      rw [show z.line + (1 + t.postings.length) = z.line + 1 + t.postings.length by omega,
        show z.line + (1 + t.postings.length + 1) = z.line + t.postings.length + 2 by omega,
        show z.before.length + ((t.printL L).length + (0 + 1)) = z.before.length + (t.printL L).length + 1 by omega]

theorem lexAll_printL (C : Classes) (hC : ClassesOk C = true) (L : Layout) (hL : L.ok) (j : Journal)
    (h : WF j = true) : lexAll C (printL L j) = toksFromL L j 1 0 := by
  rw [lexAll_eq_lexS]
  exact lex_journalL C hC L hL j (z := Z.init (printL L j)) ⟨rfl, rfl⟩ h rfl

end HL.GCore
