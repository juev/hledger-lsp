/-
  Lemmas tying the model `HL.Loader.loadF` (repaired mode) to the specification
  `HL.Reach.visit`, and the classic depth-first-search facts about `visit`:
  shape (`seen` grows by exactly the files entered, each new), soundness (everything entered
  is reachable, every error is `Located`), completeness (without a depth error everything
  reachable is entered), and no cycle diagnostic only if nothing entered lies on a cycle.
-/
import HL.Lemmas.Loader
import HL.Spec.Reach
namespace HL.Lemmas.Reach
open HL HL.Loader HL.Reach HL.Lemmas.Loader

abbrev RecS := Path → File → List Path → List Path → Out

section
variable (fs : FS) (lim : Limits)

def SimAcc (a : Acc) (o : Out) : Prop := a.res.order = o.order ∧ a.errs = o.errs ∧ a.st.seen = o.seen

/-- the model's recursive call (one level deeper) agrees with the specification's -/
def RecSim (rec : Rec) (recS : RecS) (depth : Nat) : Prop :=
  ∀ p f stk st, Cons fs lim st.cache →
    ∃ res es st', rec p f stk (depth + 1) st = some (some res, es, st') ∧
      res.order = (recS p f stk st.seen).order ∧ es = (recS p f stk st.seen).errs ∧
      st'.seen = (recS p f stk st.seen).seen

theorem SimAcc.addErr {a : Acc} {o : Out} (hs : SimAcc a o) (e : Err) :
    SimAcc (a.addErr e) { o with errs := o.errs ++ [e] } :=
  ⟨hs.1, congrArg (· ++ [e]) hs.2.1, hs.2.2⟩

theorem descend_sim (rec : Rec) (recS : RecS) (depth : Nat) (cd : Bool)
    (hcd : cd = decide (depth + 1 < lim.maxDepth))
    (h : depth + 1 < lim.maxDepth → RecSim fs lim rec recS depth)
    (rng : Rng) (p : Path) (f : File) (stk : List Path) (a : Acc) (o : Out)
    (hs : SimAcc a o) (hc : Cons fs lim a.st.cache) :
    ∃ a', descend lim .repaired rec rng p f stk depth a = some a' ∧
      SimAcc a' (if !cd then { o with errs := o.errs ++ [⟨.depth, p, "", rng, none⟩] }
        else
          let sub := recS p f stk o.seen
          { order := o.order ++ p :: sub.order, errs := o.errs ++ sub.errs, seen := sub.seen }) := by
  unfold descend
  subst hcd
  by_cases hd : depth + 1 < lim.maxDepth
  · rw [if_neg (by simpa [Mode.repaired] using hd), if_neg (by simpa using hd)]
    obtain ⟨res, es, st', e, r1, r2, r3⟩ := h hd p f stk a.st hc
    obtain ⟨s1, s2, s3⟩ := hs
    rw [e, ← s3]
    dsimp only
    rw [← r1, ← r2, ← r3, ← s1, ← s2]
    exact ⟨_, rfl, rfl, rfl, rfl⟩
  · rw [if_pos (by simpa [Mode.repaired] using hd), if_pos (by simpa using hd)]
    exact ⟨_, rfl, hs.addErr _⟩

theorem single_sim (rec : Rec) (recS : RecS) (depth : Nat) (cd : Bool)
    (hcd : cd = decide (depth + 1 < lim.maxDepth))
    (h : depth + 1 < lim.maxDepth → RecSim fs lim rec recS depth)
    (base : Path) (rng : Rng) (p : Path) (stk : List Path) (a : Acc) (o : Out)
    (hs : SimAcc a o) (hc : Cons fs lim a.st.cache) :
    ∃ a', single fs lim .repaired rec base rng p stk depth a = some a' ∧
      SimAcc a' (follow fs lim recS cd base stk rng p o) := by
  rw [single_eq]
  unfold fetch follow
  simp only [Mode.repaired, Bool.true_and, Bool.not_true, Bool.false_and, Bool.false_eq_true, if_false,
    if_true, hs.2.2]
  by_cases h1 : stk.contains p = true
  · rw [if_pos h1, if_pos h1]; exact ⟨_, rfl, hs.addErr _⟩
  rw [if_neg h1, if_neg h1]
  by_cases h2 : o.seen.contains p = true
  · rw [if_pos h2, if_pos h2]; exact ⟨_, rfl, hs⟩
  rw [if_neg h2, if_neg h2]
  cases hg : a.st.cache.get p with
  | some cf =>
    obtain ⟨hf, hsz⟩ := hc p cf hg
    rw [hf]; dsimp only; rw [if_neg (Nat.not_lt.mpr hsz)]
    exact descend_sim fs lim rec recS depth cd hcd h rng p cf stk a o hs hc
  | none =>
    cases hf : fs p with
    | none => exact ⟨_, rfl, hs.addErr _⟩
    | some f =>
      dsimp only
      by_cases hsz : f.size > lim.maxSize
      · rw [if_pos hsz, if_pos hsz]; exact ⟨_, rfl, hs.addErr _⟩
      · rw [if_neg hsz, if_neg hsz]
        exact descend_sim fs lim rec recS depth cd hcd h rng p f stk _ o ⟨hs.1, hs.2.1, rfl⟩
          (hc.set fs lim hf (Nat.le_of_not_lt hsz))

theorem runItems_sim (rec : Rec) (hrc : RecInv fs lim rec) (recS : RecS) (depth : Nat) (cd : Bool)
    (hcd : cd = decide (depth + 1 < lim.maxDepth))
    (h : depth + 1 < lim.maxDepth → RecSim fs lim rec recS depth)
    (base : Path) (stk : List Path) (its : List Item) (a : Acc) (o : Out)
    (hs : SimAcc a o) (hc : Cons fs lim a.st.cache) :
    ∃ a', runItems fs lim .repaired rec base stk depth its a = some a' ∧
      SimAcc a' (visitItems fs lim recS cd base stk its o) := by
  induction its generalizing a o with
  | nil => exact ⟨a, rfl, hs⟩
  | cons it rest ih =>
    cases it with
    | err e => exact ih _ _ (hs.addErr e) hc
    | tgt rng p =>
      obtain ⟨a1, e1, h1⟩ := single_sim fs lim rec recS depth cd hcd h base rng p stk a o hs hc
      rw [runItems, visitItems, e1]
      exact ih a1 _ h1 (single_inv fs lim .repaired rec hrc base rng p stk depth a a1 hc e1).1

theorem loadF_sim : ∀ (fuel depth : Nat), depth < lim.maxDepth → lim.maxDepth ≤ fuel + depth →
    ∀ (path : Path) (file : File) (stk : List Path) (st : St), Cons fs lim st.cache →
    ∃ res es st', loadF fs lim .repaired fuel path file stk depth st = some (some res, es, st') ∧
      res.order = (visit fs lim (lim.maxDepth - 1 - depth) path file stk st.seen).order ∧
      es = (visit fs lim (lim.maxDepth - 1 - depth) path file stk st.seen).errs ∧
      st'.seen = (visit fs lim (lim.maxDepth - 1 - depth) path file stk st.seen).seen := by
  intro fuel
  induction fuel with
  | zero => intro depth h1 h2; omega
  | succ fuel ih =>
    intro depth h1 h2 path file stk st hc
    -- one level of `loadF` against one level of `visit`, whatever is used below
    have level : ∀ (recS : RecS) (cd : Bool), cd = decide (depth + 1 < lim.maxDepth) →
        (depth + 1 < lim.maxDepth → RecSim fs lim (loadF fs lim .repaired fuel) recS depth) →
        ∃ res es st', loadF fs lim .repaired (fuel + 1) path file stk depth st = some (some res, es, st') ∧
          SimAcc ⟨res, es, st'⟩ (visitItems fs lim recS cd path (path :: stk) (items fs path file)
            ⟨[], file.perrs.map (parseErr path), path :: st.seen⟩) := by
      intro recS cd hcd hrec
      obtain ⟨a', e, hs⟩ := runItems_sim fs lim (loadF fs lim .repaired fuel)
        (loadF_inv fs lim .repaired fuel) recS depth cd hcd hrec path (path :: stk) (items fs path file)
        ⟨⟨file, [], []⟩, file.perrs.map (parseErr path), { st with seen := path :: st.seen }⟩
        ⟨[], file.perrs.map (parseErr path), path :: st.seen⟩ ⟨rfl, rfl, rfl⟩ hc
      rw [loadF, if_neg (by simp [Mode.repaired])]
      dsimp only
      rw [e]
      exact ⟨_, _, _, rfl, hs⟩
    cases hn : lim.maxDepth - 1 - depth with
    | zero =>
      have hd : ¬ depth + 1 < lim.maxDepth := by omega
      exact level _ false (decide_eq_false hd).symm (fun x => absurd x hd)
    | succ b =>
      have hd : depth + 1 < lim.maxDepth := by omega
      refine level (visit fs lim b) true (decide_eq_true hd).symm fun _ p f stk' st1 hc1 => ?_
      rw [show b = lim.maxDepth - 1 - (depth + 1) by omega]
      exact ih (depth + 1) hd (by omega) p f stk' st1 hc1

theorem follow_cases {P : Out → Prop} (rec : RecS) (cd : Bool) (f : Path) (stk : List Path)
    (rng : Rng) (g : Path) (o : Out)
    (cycle : g ∈ stk → P { o with errs := o.errs ++ [⟨.cycle, g, "", rng, some f⟩] })
    (skip : g ∉ stk → g ∈ o.seen → P o)
    (missing : g ∉ stk → g ∉ o.seen → fs g = none →
      P { o with errs := o.errs ++ [⟨.notFound, g, "", rng, none⟩] })
    (large : ∀ fg, g ∉ stk → g ∉ o.seen → fs g = some fg → lim.maxSize < fg.size →
      P { o with errs := o.errs ++ [⟨.tooLarge, g, "", rng, none⟩] })
    (deep : ∀ fg, g ∉ stk → g ∉ o.seen → fs g = some fg → fg.size ≤ lim.maxSize → cd = false →
      P { o with errs := o.errs ++ [⟨.depth, g, "", rng, none⟩] })
    (enter : ∀ fg, g ∉ stk → g ∉ o.seen → fs g = some fg → fg.size ≤ lim.maxSize → cd = true →
      P { order := o.order ++ g :: (rec g fg stk o.seen).order,
          errs := o.errs ++ (rec g fg stk o.seen).errs, seen := (rec g fg stk o.seen).seen }) :
    P (follow fs lim rec cd f stk rng g o) := by
  unfold follow
  by_cases h1 : stk.contains g = true
  · rw [if_pos h1]; exact cycle (List.contains_iff_mem.mp h1)
  rw [if_neg h1]
  have h1 : g ∉ stk := fun h => h1 (List.contains_iff_mem.mpr h)
  by_cases h2 : o.seen.contains g = true
  · rw [if_pos h2]; exact skip h1 (List.contains_iff_mem.mp h2)
  rw [if_neg h2]
  have h2 : g ∉ o.seen := fun h => h2 (List.contains_iff_mem.mpr h)
  cases hf : fs g with
  | none => exact missing h1 h2 hf
  | some fg =>
    dsimp only
    by_cases hs : fg.size > lim.maxSize
    · rw [if_pos hs]; exact large fg h1 h2 hf hs
    rw [if_neg hs]
    cases cd with
    | false => exact deep fg h1 h2 hf (Nat.le_of_not_lt hs) rfl
    | true => exact enter fg h1 h2 hf (Nat.le_of_not_lt hs) rfl

theorem visit_induct {P : RecS → Prop}
    (step : ∀ (rec : RecS) (cd : Bool), (cd = true → P rec) →
      P fun g fg stk s => visitItems fs lim rec cd g (g :: stk) (items fs g fg)
        ⟨[], fg.perrs.map (parseErr g), g :: s⟩) : ∀ b, P (visit fs lim b) := by
  intro b
  induction b with
  | zero => exact step _ false (fun h => nomatch h)
  | succ b ih => exact step _ true (fun _ => ih)

/-- what a (sub-)traversal from `g` returns: the files entered, none of them seen before -/
def Shape (g : Path) (s : List Path) (r : Out) : Prop :=
  r.seen = r.order.reverse ++ g :: s ∧ r.seen.Nodup

def RecShape (rec : RecS) : Prop :=
  ∀ g fg stk s, g ∉ s → s.Nodup → Shape g s (rec g fg stk s)

/-- invariant of the loop over one file's directives (`s0` = `seen` when the loop started) -/
def Inv1 (s0 : List Path) (o : Out) : Prop := o.seen = o.order.reverse ++ s0 ∧ o.seen.Nodup

theorem follow_shape (rec : RecS) (cd : Bool) (h : cd = true → RecShape rec) (f : Path)
    (stk : List Path) (rng : Rng) (g : Path) (s0 : List Path) (o : Out) (ho : Inv1 s0 o) :
    Inv1 s0 (follow fs lim rec cd f stk rng g o) := by
  refine follow_cases fs lim rec cd f stk rng g o (fun _ => ho) (fun _ _ => ho) (fun _ _ _ => ho)
    (fun _ _ _ _ _ => ho) (fun _ _ _ _ _ _ => ho) fun fg _ hg _ _ hcd => ?_
  obtain ⟨h1, h2⟩ := h hcd g fg stk o.seen hg ho.2
  refine ⟨?_, h2⟩
  show (rec g fg stk o.seen).seen = (o.order ++ g :: (rec g fg stk o.seen).order).reverse ++ s0
  rw [h1, ho.1, List.reverse_append, List.reverse_cons, List.append_assoc, List.append_assoc,
    List.singleton_append]

theorem visitItems_shape (rec : RecS) (cd : Bool) (h : cd = true → RecShape rec) (f : Path)
    (stk : List Path) (its : List Item) (s0 : List Path) (o : Out) (ho : Inv1 s0 o) :
    Inv1 s0 (visitItems fs lim rec cd f stk its o) := by
  induction its generalizing o with
  | nil => exact ho
  | cons it rest ih =>
    cases it with
    | err e => exact ih _ ho
    | tgt rng g => exact ih _ (follow_shape fs lim rec cd h f stk rng g s0 o ho)

theorem visit_shape : ∀ b, RecShape (visit fs lim b) :=
  visit_induct fs lim fun rec cd h g _ stk s hg hs =>
    visitItems_shape fs lim rec cd h g (g :: stk) _ (g :: s) _ ⟨rfl, List.nodup_cons.mpr ⟨hg, hs⟩⟩
theorem tgt_mem_itemsOf (f : Path) (i : Inc) (rng : Rng) (g : Path)
    (h : Item.tgt rng g ∈ itemsOf fs f i) : rng = i.rng ∧ Names fs f i g := by
  unfold itemsOf at h
  split at h
  · rename_i p hp
    simp only [List.mem_singleton, Item.tgt.injEq] at h
    exact ⟨h.1, Or.inl (by rw [hp, h.2])⟩
  · simp at h
  · simp at h
  · rename_i ms hms
    simp only at h
    split at h
    · simp at h
    · simp only [List.mem_map, Item.tgt.injEq, List.mem_filter, Bool.and_eq_true, bne_iff_ne, ne_eq] at h
      obtain ⟨q, ⟨hq1, hq2, hq3⟩, hq4, hq5⟩ := h
      subst hq5
      exact ⟨hq4.symm, Or.inr ⟨ms, hms, hq1, hq2, hq3⟩⟩

theorem tgt_mem_items (f : Path) (file : File) (rng : Rng) (g : Path)
    (h : Item.tgt rng g ∈ items fs f file) : ∃ i ∈ file.incs, rng = i.rng ∧ Names fs f i g := by
  unfold items at h
  simp only [List.mem_flatMap] at h
  obtain ⟨i, hi, hm⟩ := h
  exact ⟨i, hi, tgt_mem_itemsOf fs f i rng g hm⟩

theorem names_mem_items (f : Path) (file : File) (i : Inc) (hi : i ∈ file.incs) (g : Path)
    (h : Names fs f i g) : Item.tgt i.rng g ∈ items fs f file := by
  unfold items
  simp only [List.mem_flatMap]
  refine ⟨i, hi, ?_⟩
  unfold itemsOf
  rcases h with h | ⟨ms, h1, h2, h3, h4⟩
  · simp [h]
  · simp only [h1]
    have hm : g ∈ ms.filter (fun q => (fs q).isSome && q != f) := by
      simp only [List.mem_filter, Bool.and_eq_true, bne_iff_ne, ne_eq]
      exact ⟨h2, h3, h4⟩
    split
    · rename_i he
      simp only [List.isEmpty_iff] at he
      rw [he] at hm
      simp at hm
    · simp only [List.mem_map, Item.tgt.injEq, true_and]
      exact ⟨g, hm, rfl⟩

theorem err_mem_items (f : Path) (file : File) (e : Err) (h : Item.err e ∈ items fs f file) :
    ∃ i ∈ file.incs, e = ⟨e.kind, 0, i.raw, i.rng, none⟩ ∧
      (e.kind = .traversal ∨ e.kind = .globNoMatch ∨ e.kind = .globBad) := by
  unfold items at h
  simp only [List.mem_flatMap] at h
  obtain ⟨i, hi, hm⟩ := h
  refine ⟨i, hi, ?_⟩
  unfold itemsOf at hm
  split at hm
  · simp at hm
  · simp only [List.mem_singleton, Item.err.injEq] at hm; subst hm; exact ⟨rfl, Or.inl rfl⟩
  · simp only [List.mem_singleton, Item.err.injEq] at hm; subst hm; exact ⟨rfl, Or.inr (Or.inr rfl)⟩
  · simp only at hm
    split at hm
    · simp only [List.mem_singleton, Item.err.injEq] at hm; subst hm; exact ⟨rfl, Or.inr (Or.inl rfl)⟩
    · simp at hm

section
variable (root : Path) (rf : File)

/-- what `visit` is entered with at `g`: `g` has content `fg` and is reachable, the root has been
    seen, every file on the stack leads to `g`, and `g` and the stack can be entered -/
def Pre2 (g : Path) (fg : File) (stk s : List Path) : Prop :=
  fileOf fs root rf g = some fg ∧ (root = g ∨ root ∈ s) ∧ Reach fs lim root rf g ∧
    (∀ x ∈ stk, LeadsL fs lim root rf x g) ∧ ∀ x ∈ g :: stk, Enterable fs lim root x

/-- what it returns: nothing seen is lost, every file entered is reachable, every diagnostic is
    `Located` -/
def Post2 (s : List Path) (r : Out) : Prop :=
  (∀ x ∈ s, x ∈ r.seen) ∧ (∀ x ∈ r.order, Reach fs lim root rf x) ∧ (∀ e ∈ r.errs, Located fs lim root rf e)

def RecSound (rec : RecS) : Prop :=
  ∀ g fg stk s, Pre2 fs lim root rf g fg stk s → Post2 fs lim root rf (g :: s) (rec g fg stk s)

theorem Post2.addErr {s0 : List Path} {o : Out} (ho : Post2 fs lim root rf s0 o) {e : Err}
    (he : Located fs lim root rf e) : Post2 fs lim root rf s0 { o with errs := o.errs ++ [e] } :=
  ⟨ho.1, ho.2.1, fun e' he' => (List.mem_append.mp he').elim (ho.2.2 e')
    fun h1 => List.mem_singleton.mp h1 ▸ he⟩

theorem follow_sound (rec : RecS) (cd : Bool) (h : cd = true → RecSound fs lim root rf rec)
    (f : Path) (file : File) (stk : List Path) (hf : fileOf fs root rf f = some file)
    (hr : Reach fs lim root rf f) (hstk : ∀ x ∈ stk, LeadsL fs lim root rf x f)
    (hent : ∀ x ∈ f :: stk, Enterable fs lim root x)
    (rng : Rng) (g : Path) (hit : Item.tgt rng g ∈ items fs f file)
    (s0 : List Path) (o : Out) (hroot : root ∈ o.seen) (ho : Post2 fs lim root rf s0 o) :
    root ∈ (follow fs lim rec cd f (f :: stk) rng g o).seen ∧
      Post2 fs lim root rf s0 (follow fs lim rec cd f (f :: stk) rng g o) := by
  obtain ⟨i, hi, rfl, hnames⟩ := tgt_mem_items fs f file rng g hit
  have edge : Edge fs root rf f g := ⟨file, hf, i, hi, hnames⟩
  refine follow_cases (P := fun r => root ∈ r.seen ∧ Post2 fs lim root rf s0 r) fs lim rec cd f
    (f :: stk) i.rng g o ?_ (fun _ _ => ⟨hroot, ho⟩) ?_ ?_ ?_ ?_
  · intro hc
    refine ⟨hroot, ho.addErr fs lim root rf (Located.cycle hr hf hi hnames (hent g hc) ?_)⟩
    rcases List.mem_cons.mp hc with rfl | hc'
    · exact LeadsL.refl _
    · exact hstk g hc'
  · exact fun _ _ hfs => ⟨hroot, ho.addErr fs lim root rf (Located.notFound hr hf hi hnames hfs)⟩
  · exact fun fg _ _ hfs hsz =>
      ⟨hroot, ho.addErr fs lim root rf (Located.tooLarge hr hf hi hnames hfs hsz)⟩
  · exact fun fg _ _ hfs hsz _ =>
      ⟨hroot, ho.addErr fs lim root rf (Located.depth hr hf hi hnames ⟨fg, hfs, hsz⟩)⟩
  · intro fg _ hg hfs hsz hcd
    have hload : Loadable fs lim g := ⟨fg, hfs, hsz⟩
    have edgeL : EdgeL fs lim root rf f g := ⟨edge, Or.inr hload⟩
    have hpre : Pre2 fs lim root rf g fg (f :: stk) o.seen := by
      refine ⟨?_, Or.inr hroot, Reach.step hr edge hload, ?_, ?_⟩
      · rw [fileOf, if_neg fun (e : g = root) => hg (e ▸ hroot)]; exact hfs
      · intro x hx
        rcases List.mem_cons.mp hx with rfl | hx
        · exact LeadsL.tail (LeadsL.refl _) edgeL
        · exact LeadsL.tail (hstk x hx) edgeL
      · intro x hx
        rcases List.mem_cons.mp hx with rfl | hx
        · exact Or.inr hload
        · exact hent x hx
    obtain ⟨p1, p2, p3⟩ := h hcd g fg (f :: stk) o.seen hpre
    refine ⟨p1 root (List.mem_cons_of_mem _ hroot),
      fun x hx => p1 x (List.mem_cons_of_mem _ (ho.1 x hx)), fun x hx => ?_, fun e he => ?_⟩
    · rcases List.mem_append.mp hx with hx | hx
      · exact ho.2.1 x hx
      · rcases List.mem_cons.mp hx with rfl | hx
        · exact Reach.step hr edge hload
        · exact p2 x hx
    · exact (List.mem_append.mp he).elim (ho.2.2 e) (p3 e)

theorem visitItems_sound (rec : RecS) (cd : Bool) (h : cd = true → RecSound fs lim root rf rec)
    (f : Path) (file : File) (stk : List Path) (hf : fileOf fs root rf f = some file)
    (hr : Reach fs lim root rf f) (hstk : ∀ x ∈ stk, LeadsL fs lim root rf x f)
    (hent : ∀ x ∈ f :: stk, Enterable fs lim root x)
    (its : List Item) (hits : ∀ it ∈ its, it ∈ items fs f file)
    (s0 : List Path) (o : Out) (hroot : root ∈ o.seen) (ho : Post2 fs lim root rf s0 o) :
    Post2 fs lim root rf s0 (visitItems fs lim rec cd f (f :: stk) its o) := by
  induction its generalizing o with
  | nil => exact ho
  | cons it rest ih =>
    have hrest : ∀ it ∈ rest, it ∈ items fs f file := fun x hx => hits x (List.mem_cons_of_mem _ hx)
    cases it with
    | err e =>
      obtain ⟨i, hi, he, hk⟩ := err_mem_items fs f file e (hits _ List.mem_cons_self)
      exact ih hrest _ hroot (ho.addErr fs lim root rf (he ▸ Located.directive hr hf hi hk))
    | tgt rng g =>
      obtain ⟨r1, r2⟩ := follow_sound fs lim root rf rec cd h f file stk hf hr hstk hent rng g
        (hits _ List.mem_cons_self) s0 o hroot ho
      exact ih hrest _ r1 r2

theorem visit_sound : ∀ b, RecSound fs lim root rf (visit fs lim b) :=
  visit_induct fs lim fun rec cd h g fg stk s ⟨h1, h2, h3, h4, h5⟩ =>
    visitItems_sound fs lim root rf rec cd h g fg stk h1 h3 h4 h5 _ (fun _ hx => hx) _ _
      (h2.elim (fun e => e ▸ List.mem_cons_self) (List.mem_cons_of_mem _))
      ⟨fun _ hx => hx, fun _ hx => (nomatch hx), fun e he => by
        obtain ⟨pos, hp, rfl⟩ := List.mem_map.mp he
        exact Located.parse h3 h1 hp⟩

def NoDepth (es : List Err) : Prop := ∀ e ∈ es, e.kind ≠ .depth

/-- the files entered between `s` and `s'` have all their loadable include targets in `s'` -/
def ClosedNew (s s' : List Path) : Prop :=
  ∀ x ∈ s', x ∉ s → ∀ y, Edge fs root rf x y → Loadable fs lim y → y ∈ s'

/-- the part of `Pre2` completeness needs: content, root seen, stack seen -/
def Pre3 (g : Path) (fg : File) (stk s : List Path) : Prop :=
  fileOf fs root rf g = some fg ∧ (root = g ∨ root ∈ s) ∧ ∀ x ∈ stk, x ∈ s

/-- `g` and everything seen before are seen, and unless a depth error was reported the files
    entered since have all their loadable include targets seen -/
def Post3 (g : Path) (s : List Path) (r : Out) : Prop :=
  (∀ x ∈ g :: s, x ∈ r.seen) ∧ (NoDepth r.errs → ClosedNew fs lim root rf s r.seen)

def RecComplete (rec : RecS) : Prop :=
  ∀ g fg stk s, Pre3 fs root rf g fg stk s → Post3 fs lim root rf g s (rec g fg stk s)

/-- `r` continues `o`: nothing seen or reported is lost, and unless `r` has a depth error the
    files entered since `o` have all their loadable include targets in `r.seen` -/
def Ext (o r : Out) : Prop :=
  (∀ x ∈ o.seen, x ∈ r.seen) ∧ (∀ e ∈ o.errs, e ∈ r.errs) ∧
    (NoDepth r.errs → ClosedNew fs lim root rf o.seen r.seen)

theorem Ext.refl (o : Out) : Ext fs lim root rf o o :=
  ⟨fun _ h => h, fun _ h => h, fun _ _ hx hx' => absurd hx hx'⟩

theorem Ext.addErr (o : Out) (e : Err) : Ext fs lim root rf o { o with errs := o.errs ++ [e] } :=
  ⟨fun _ h => h, fun _ h => List.mem_append_left _ h, fun _ _ hx hx' => absurd hx hx'⟩

theorem Ext.trans {o o' r : Out} (h1 : Ext fs lim root rf o o') (h2 : Ext fs lim root rf o' r) :
    Ext fs lim root rf o r := by
  refine ⟨fun x hx => h2.1 x (h1.1 x hx), fun e he => h2.2.1 e (h1.2.1 e he), fun hnd x hx hx' y hy hl => ?_⟩
  by_cases hx1 : x ∈ o'.seen
  · exact h2.1 y (h1.2.2 (fun e he => hnd e (h2.2.1 e he)) x hx1 hx' y hy hl)
  · exact h2.2.2 hnd x hx hx1 y hy hl

theorem fileOf_ne {g : Path} (h : g ≠ root) : fileOf fs root rf g = fs g := if_neg h

theorem follow_complete (rec : RecS) (cd : Bool) (h : cd = true → RecComplete fs lim root rf rec)
    (f : Path) (stk : List Path) (rng : Rng) (g : Path)
    (o : Out) (hroot : root ∈ o.seen) (hstk : ∀ x ∈ f :: stk, x ∈ o.seen) :
    Ext fs lim root rf o (follow fs lim rec cd f (f :: stk) rng g o) ∧
    (NoDepth (follow fs lim rec cd f (f :: stk) rng g o).errs → Loadable fs lim g →
      g ∈ (follow fs lim rec cd f (f :: stk) rng g o).seen) := by
  -- a diagnostic that is a depth error or says that `g` cannot be loaded
  have fail : ∀ (e : Err), ¬ (e.kind ≠ .depth ∧ Loadable fs lim g) →
      Ext fs lim root rf o { o with errs := o.errs ++ [e] } ∧
      (NoDepth ({ o with errs := o.errs ++ [e] } : Out).errs → Loadable fs lim g → g ∈ o.seen) :=
    fun e hne => ⟨Ext.addErr fs lim root rf o e, fun hnd hl =>
      absurd ⟨hnd e (List.mem_append_right _ (List.mem_singleton.mpr rfl)), hl⟩ hne⟩
  refine follow_cases (P := fun r => Ext fs lim root rf o r ∧ (NoDepth r.errs → Loadable fs lim g →
    g ∈ r.seen)) fs lim rec cd f (f :: stk) rng g o ?_ ?_ ?_ ?_ ?_ ?_
  · exact fun hc => ⟨Ext.addErr fs lim root rf o _, fun _ _ => hstk g hc⟩
  · exact fun _ hg => ⟨Ext.refl fs lim root rf o, fun _ _ => hg⟩
  · exact fun _ _ hfs => fail _ fun ⟨_, fg, h1, _⟩ => nomatch hfs.symm.trans h1
  · exact fun fg _ _ hfs hsz => fail _ fun ⟨_, fg', h1, h2⟩ =>
      Nat.not_le_of_lt hsz (Option.some.inj (hfs.symm.trans h1) ▸ h2)
  · exact fun _ _ _ _ _ _ => fail _ fun h => h.1 rfl
  · intro fg _ hg hfs _ hcd
    have hne : g ≠ root := fun e => hg (e ▸ hroot)
    obtain ⟨p1, p2⟩ := h hcd g fg (f :: stk) o.seen
      ⟨(fileOf_ne fs root rf hne).trans hfs, Or.inr hroot, hstk⟩
    exact ⟨⟨fun x hx => p1 x (List.mem_cons_of_mem _ hx), fun e he => List.mem_append_left _ he,
      fun hnd => p2 fun e he => hnd e (List.mem_append_right _ he)⟩, fun _ _ => p1 g List.mem_cons_self⟩

theorem visitItems_complete (rec : RecS) (cd : Bool) (h : cd = true → RecComplete fs lim root rf rec)
    (f : Path) (stk : List Path) (its : List Item)
    (o : Out) (hroot : root ∈ o.seen) (hstk : ∀ x ∈ f :: stk, x ∈ o.seen) :
    Ext fs lim root rf o (visitItems fs lim rec cd f (f :: stk) its o) ∧
    (NoDepth (visitItems fs lim rec cd f (f :: stk) its o).errs →
      ∀ rng y, Item.tgt rng y ∈ its → Loadable fs lim y →
        y ∈ (visitItems fs lim rec cd f (f :: stk) its o).seen) := by
  induction its generalizing o with
  | nil => exact ⟨Ext.refl fs lim root rf o, fun _ _ _ hy => nomatch hy⟩
  | cons it rest ih =>
    cases it with
    | err e =>
      obtain ⟨i1, i2⟩ := ih { o with errs := o.errs ++ [e] } hroot hstk
      refine ⟨(Ext.addErr fs lim root rf o e).trans fs lim root rf i1, fun hnd rng y hy => ?_⟩
      rcases List.mem_cons.mp hy with hy | hy
      · cases hy
      · exact i2 hnd rng y hy
    | tgt rng g =>
      obtain ⟨f1, f2⟩ := follow_complete fs lim root rf rec cd h f stk rng g o hroot hstk
      obtain ⟨i1, i2⟩ := ih (follow fs lim rec cd f (f :: stk) rng g o) (f1.1 root hroot)
        (fun x hx => f1.1 x (hstk x hx))
      refine ⟨f1.trans fs lim root rf i1, fun hnd rng' y hy hl => ?_⟩
      rcases List.mem_cons.mp hy with hy | hy
      · cases hy; exact i1.1 _ (f2 (fun e he => hnd e (i1.2.1 e he)) hl)
      · exact i2 hnd rng' y hy hl

theorem visitFile_complete (rec : RecS) (cd : Bool) (h : cd = true → RecComplete fs lim root rf rec) :
    RecComplete fs lim root rf fun g fg stk s => visitItems fs lim rec cd g (g :: stk) (items fs g fg)
      ⟨[], fg.perrs.map (parseErr g), g :: s⟩ := by
  intro g fg stk s ⟨h1, h2, h3⟩
  have hroot : root ∈ g :: s := h2.elim (fun e => e ▸ List.mem_cons_self) (List.mem_cons_of_mem _)
  have hstk : ∀ x ∈ g :: stk, x ∈ g :: s := fun x hx =>
    (List.mem_cons.mp hx).elim (fun e => e ▸ List.mem_cons_self) fun hx => List.mem_cons_of_mem _ (h3 x hx)
  obtain ⟨i1, i2⟩ := visitItems_complete fs lim root rf rec cd h g stk (items fs g fg)
    ⟨[], fg.perrs.map (parseErr g), g :: s⟩ hroot hstk
  refine ⟨i1.1, fun hnd x hx hxs y hy hl => ?_⟩
  by_cases hxg : x = g
  · subst hxg
    obtain ⟨file, hfile, i, hi, hn⟩ := hy
    cases h1.symm.trans hfile
    exact i2 hnd i.rng y (names_mem_items fs x fg i hi y hn) hl
  · exact i1.2.2 hnd x hx (fun h => (List.mem_cons.mp h).elim hxg hxs) y hy hl

theorem visit_complete : ∀ b, RecComplete fs lim root rf (visit fs lim b) :=
  visit_induct fs lim (visitFile_complete fs lim root rf)

def NoCyc (es : List Err) : Prop := ∀ e ∈ es, e.kind ≠ .cycle

/-- the files that are finished (seen and not on the stack) only name finished files -/
def Done (s stk : List Path) : Prop :=
  ∀ x ∈ s, x ∉ stk → ∀ y, EdgeL fs lim root rf x y → y ∈ s ∧ y ∉ stk

theorem Done.leads {s stk : List Path} (h : Done fs lim root rf s stk) {x y : Path}
    (hx : x ∈ s) (hx' : x ∉ stk) (hl : LeadsL fs lim root rf x y) : y ∈ s ∧ y ∉ stk := by
  induction hl with
  | refl => exact ⟨hx, hx'⟩
  | tail _ he ih => exact h _ ih.1 ih.2 _ he

def Pre4 (g : Path) (fg : File) (stk s : List Path) : Prop :=
  Pre3 fs root rf g fg stk s ∧ g ∉ s ∧ Done fs lim root rf s stk

def Post4 (stk s : List Path) (r : Out) : Prop :=
  NoDepth r.errs → NoCyc r.errs →
    Done fs lim root rf r.seen stk ∧ ∀ x ∈ r.seen, x ∉ s → ¬ OnCycle fs lim root rf x

def RecAcyc (rec : RecS) : Prop :=
  ∀ g fg stk s, Pre4 fs lim root rf g fg stk s → Post4 fs lim root rf stk s (rec g fg stk s)

theorem follow_acyc (rec : RecS) (cd : Bool) (h : cd = true → RecAcyc fs lim root rf rec)
    (f : Path) (stk : List Path) (rng : Rng) (g : Path) (s0 : List Path)
    (o : Out) (hroot : root ∈ o.seen) (hstk : ∀ x ∈ f :: stk, x ∈ o.seen)
    (hfin : Done fs lim root rf o.seen (f :: stk))
    (hac : ∀ x ∈ o.seen, x ∉ s0 → ¬ OnCycle fs lim root rf x) :
    NoDepth (follow fs lim rec cd f (f :: stk) rng g o).errs →
    NoCyc (follow fs lim rec cd f (f :: stk) rng g o).errs →
    g ∉ f :: stk ∧ Done fs lim root rf (follow fs lim rec cd f (f :: stk) rng g o).seen (f :: stk) ∧
      ∀ x ∈ (follow fs lim rec cd f (f :: stk) rng g o).seen, x ∉ s0 → ¬ OnCycle fs lim root rf x := by
  refine follow_cases (P := fun r => NoDepth r.errs → NoCyc r.errs → g ∉ f :: stk ∧
    Done fs lim root rf r.seen (f :: stk) ∧ ∀ x ∈ r.seen, x ∉ s0 → ¬ OnCycle fs lim root rf x)
    fs lim rec cd f (f :: stk) rng g o ?_ (fun hg _ _ _ => ⟨hg, hfin, hac⟩)
    (fun hg _ _ _ _ => ⟨hg, hfin, hac⟩) (fun _ hg _ _ _ _ _ => ⟨hg, hfin, hac⟩)
    (fun _ hg _ _ _ _ _ _ => ⟨hg, hfin, hac⟩) ?_
  · exact fun _ _ hnc => absurd rfl (hnc _ (List.mem_append_right _ (List.mem_singleton.mpr rfl)))
  · intro fg hg1 hg hfs _ hcd hnd hnc
    have hne : g ≠ root := fun e => hg (e ▸ hroot)
    obtain ⟨q1, q2⟩ := h hcd g fg (f :: stk) o.seen
      ⟨⟨(fileOf_ne fs root rf hne).trans hfs, Or.inr hroot, hstk⟩, hg, hfin⟩
      (fun e he => hnd e (List.mem_append_right _ he)) (fun e he => hnc e (List.mem_append_right _ he))
    refine ⟨hg1, q1, fun x hx hx0 => ?_⟩
    by_cases hxo : x ∈ o.seen
    · exact hac x hxo hx0
    · exact q2 x hx hxo

theorem visitItems_acyc (rec : RecS) (cd : Bool) (hc : cd = true → RecComplete fs lim root rf rec)
    (h : cd = true → RecAcyc fs lim root rf rec)
    (f : Path) (stk : List Path) (its : List Item) (s0 : List Path)
    (o : Out) (hroot : root ∈ o.seen) (hstk : ∀ x ∈ f :: stk, x ∈ o.seen)
    (hnd : NoDepth (visitItems fs lim rec cd f (f :: stk) its o).errs)
    (hnc : NoCyc (visitItems fs lim rec cd f (f :: stk) its o).errs)
    (hfin : Done fs lim root rf o.seen (f :: stk))
    (hac : ∀ x ∈ o.seen, x ∉ s0 → ¬ OnCycle fs lim root rf x) :
    (∀ rng y, Item.tgt rng y ∈ its → y ∉ f :: stk) ∧
      Done fs lim root rf (visitItems fs lim rec cd f (f :: stk) its o).seen (f :: stk) ∧
      ∀ x ∈ (visitItems fs lim rec cd f (f :: stk) its o).seen, x ∉ s0 → ¬ OnCycle fs lim root rf x := by
  induction its generalizing o with
  | nil => exact ⟨fun rng y hy => (nomatch hy), hfin, hac⟩
  | cons it rest ih =>
    cases it with
    | err e =>
      obtain ⟨i1, i2, i3⟩ := ih { o with errs := o.errs ++ [e] } hroot hstk hnd hnc hfin hac
      refine ⟨fun rng y hy => ?_, i2, i3⟩
      rcases List.mem_cons.mp hy with hy | hy
      · cases hy
      · exact i1 rng y hy
    | tgt rng g =>
      obtain ⟨f1, _⟩ := follow_complete fs lim root rf rec cd hc f stk rng g o hroot hstk
      have hroot' := f1.1 root hroot
      have hstk' := fun x hx => f1.1 x (hstk x hx)
      obtain ⟨m, _⟩ := visitItems_complete fs lim root rf rec cd hc f stk rest _ hroot' hstk'
      obtain ⟨a1, a2, a3⟩ := follow_acyc fs lim root rf rec cd h f stk rng g s0 o hroot hstk hfin hac
        (fun e he => hnd e (m.2.1 e he)) (fun e he => hnc e (m.2.1 e he))
      obtain ⟨i1, i2, i3⟩ := ih _ hroot' hstk' hnd hnc a2 a3
      refine ⟨fun rng' y hy => ?_, i2, i3⟩
      rcases List.mem_cons.mp hy with hy | hy
      · cases hy; exact a1
      · exact i1 rng' y hy

theorem visitFile_acyc (rec : RecS) (cd : Bool) (hc : cd = true → RecComplete fs lim root rf rec)
    (h : cd = true → RecAcyc fs lim root rf rec) :
    RecAcyc fs lim root rf fun g fg stk s => visitItems fs lim rec cd g (g :: stk) (items fs g fg)
      ⟨[], fg.perrs.map (parseErr g), g :: s⟩ := by
  intro g fg stk s ⟨⟨h1, h2, h3⟩, hgs, hfin⟩ hnd hnc
  have hroot : root ∈ g :: s := h2.elim (fun e => e ▸ List.mem_cons_self) (List.mem_cons_of_mem _)
  have hstk : ∀ x ∈ g :: stk, x ∈ g :: s := fun x hx =>
    (List.mem_cons.mp hx).elim (fun e => e ▸ List.mem_cons_self) fun hx => List.mem_cons_of_mem _ (h3 x hx)
  have hfin0 : Done fs lim root rf (g :: s) (g :: stk) := by
    intro x hx hx' y hy
    have hxs : x ∈ s := (List.mem_cons.mp hx).resolve_left fun e => hx' (e ▸ List.mem_cons_self)
    obtain ⟨y1, y2⟩ := hfin x hxs (fun h => hx' (List.mem_cons_of_mem _ h)) y hy
    exact ⟨List.mem_cons_of_mem _ y1, fun h => (List.mem_cons.mp h).elim (fun e => hgs (e ▸ y1)) y2⟩
  obtain ⟨c1, c2⟩ := visitItems_complete fs lim root rf rec cd hc g stk (items fs g fg)
    ⟨[], fg.perrs.map (parseErr g), g :: s⟩ hroot hstk
  obtain ⟨a1, a2, a3⟩ := visitItems_acyc fs lim root rf rec cd hc h g stk (items fs g fg) (g :: s)
    ⟨[], fg.perrs.map (parseErr g), g :: s⟩ hroot hstk hnd hnc hfin0 (fun x hx hx' => absurd hx hx')
  -- the include targets of `g` itself
  have tgt : ∀ y, EdgeL fs lim root rf g y →
      y ∈ (visitItems fs lim rec cd g (g :: stk) (items fs g fg)
        ⟨[], fg.perrs.map (parseErr g), g :: s⟩).seen ∧ y ∉ g :: stk := by
    intro y ⟨⟨file, hfile, i, hi, hn⟩, hent⟩
    cases h1.symm.trans hfile
    have hit := names_mem_items fs g fg i hi y hn
    refine ⟨?_, a1 i.rng y hit⟩
    rcases hent with rfl | hent
    · exact c1.1 _ hroot
    · exact c2 hnd i.rng y hit hent
  refine ⟨fun x hx hx' y hy => ?_, fun x hx hxs => ?_⟩
  · have off : ∀ {l : List Path}, y ∈ l ∧ y ∉ g :: stk → y ∈ l ∧ y ∉ stk :=
      fun h => ⟨h.1, fun e => h.2 (List.mem_cons_of_mem _ e)⟩
    by_cases hxg : x = g
    · subst hxg; exact off (tgt y hy)
    · exact off (a2 x hx (fun h => (List.mem_cons.mp h).elim hxg hx') y hy)
  · by_cases hxg : x = g
    · subst hxg
      rintro ⟨y, hy, hl⟩
      obtain ⟨y1, y2⟩ := tgt y hy
      exact (Done.leads fs lim root rf a2 y1 y2 hl).2 List.mem_cons_self
    · exact a3 x hx fun h => (List.mem_cons.mp h).elim hxg hxs

theorem visit_acyc (b : Nat) : RecAcyc fs lim root rf (visit fs lim b) :=
  (visit_induct (P := fun rec => RecComplete fs lim root rf rec ∧ RecAcyc fs lim root rf rec) fs lim
    (fun rec cd h => ⟨visitFile_complete fs lim root rf rec cd fun c => (h c).1,
      visitFile_acyc fs lim root rf rec cd (fun c => (h c).1) fun c => (h c).2⟩) b).2
end
end
end HL.Lemmas.Reach
