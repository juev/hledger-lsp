/-
  Helper lemmas for C20 (hover): decimal addition, association-list balances, counting
  loops, the refinement map from syntax trees to the specification's ground-truth shape,
  permutation invariance of the specification's aggregates.
-/
import HL.Model.Hover
import HL.Spec.HoverSpec
import HL.Lemmas.Dec
namespace HL.Lemmas.Hover
open HL HL.Ast HL.Hover HL.HoverSpec

/-- `Decimal.Add` as Hover uses it is the `Add` of the decimal model. -/
theorem decAdd_eq (a b : Dec) : decAdd a b = Dec.add a b := by
  unfold decAdd Dec.add Dec.rescalePair Dec.rescale
  by_cases h1 : a.exp < b.exp
  · have : ¬ a.exp > b.exp := by omega
    simp only [h1, if_true, this, if_false]
  · by_cases h2 : b.exp < a.exp
    · simp only [h1, h2, if_false, if_true]
    · simp only [h1, h2, if_false]

/-- `Decimal.Add` is exact. -/
theorem decAdd_exact (a b : Dec) : decToRat (decAdd a b) = decToRat a + decToRat b := by
  rw [decAdd_eq]
  exact Dec.add_exact a b

theorem decZero_toRat : decToRat decZero = 0 := by
  simp [decToRat, decZero]

/-! The refinement map: what a syntax tree says, in the specification's shape. -/

def absTag (t : Tag) : Bytes × Bytes := (t.name, t.value)

def absPosting (p : Posting) : GPosting :=
  { account := p.account.name
    amount := p.amount.map fun a => ⟨decToRat a.quantity, a.commodity.symbol⟩
    cost := p.cost.map fun c => ⟨c.isTotal, decToRat c.amount.quantity, c.amount.commodity.symbol⟩
    tags := p.tags.map absTag }

def absTx (tx : Transaction) : GTx :=
  { payee := payeeOrDescription tx
    tags := (tx.comments.flatMap (·.tags)).map absTag
    postings := tx.postings.map absPosting }

def allPostings (txs : List Transaction) : List Posting := txs.flatMap (·.postings)

theorem postingsOf_abs (txs : List Transaction) :
    postingsOf (txs.map absTx) = (allPostings txs).map absPosting := by
  induction txs with
  | nil => rfl
  | cons t ts ih =>
    simp only [postingsOf, allPostings, List.map_cons, List.flatMap_cons, List.map_append] at *
    rw [ih]; rfl

theorem tagsOf_abs (txs : List Transaction) :
    tagsOf (txs.map absTx) = (allTags txs).map absTag := by
  induction txs with
  | nil => rfl
  | cons t ts ih =>
    simp only [tagsOf, allTags, List.map_cons, List.flatMap_cons, List.map_append] at *
    rw [ih]
    congr 1
    simp only [absTx, List.flatMap_map, List.map_flatMap, absPosting]

theorem foldl_count {α} (P : α → Bool) (l : List α) (n : Nat) :
    l.foldl (fun n x => if P x then n + 1 else n) n = n + l.countP P := by
  induction l generalizing n with
  | nil => simp
  | cons x xs ih =>
    simp only [List.foldl_cons, List.countP_cons]
    rw [ih]
    cases h : P x <;> simp <;> omega

theorem countPostings_eq (a : Bytes) (txs : List Transaction) :
    countPostings a txs = (allPostings txs).countP (fun p => p.account.name == a) := by
  unfold countPostings
  suffices h : ∀ n, txs.foldl (fun n tx => tx.postings.foldl
      (fun n p => if p.account.name == a then n + 1 else n) n) n
      = n + (allPostings txs).countP (fun p => p.account.name == a) by simpa using h 0
  induction txs with
  | nil => intro n; simp [allPostings]
  | cons t ts ih =>
    intro n
    simp only [List.foldl_cons, allPostings, List.flatMap_cons, List.countP_append]
    rw [foldl_count (fun p : Posting => p.account.name == a), ih]
    simp only [allPostings]; omega

def balVal (m : Balances) (k : Bytes × Bytes) : Option Rat := (balLookup m k).map decToRat

theorem balVal_balAdd (m : Balances) (k k' : Bytes × Bytes) (q : Dec) :
    balVal (balAdd m k q) k' =
      if k' = k then some ((balVal m k).getD 0 + decToRat q) else balVal m k' := by
  induction m with
  | nil =>
    by_cases h : k' = k
    · subst h; simp [balVal, balAdd, balLookup, decAdd_exact, decZero_toRat]
    · have : (k == k') = false := by simpa using fun e => h e.symm
      simp [balVal, balAdd, balLookup, h, this]
  | cons e r ih =>
    obtain ⟨ke, v⟩ := e
    unfold balAdd
    by_cases hk : ke = k
    · subst hk
      by_cases h : k' = ke
      · subst h; simp [balVal, balLookup, decAdd_exact]
      · have : (ke == k') = false := by simpa using fun e => h e.symm
        simp [balVal, balLookup, h, this]
    · simp only [hk, if_false]
      by_cases h : k' = k
      · subst h
        have h1 : (ke == k') = false := by simpa using hk
        have ih' := ih
        simp only [balVal, balLookup, if_true] at ih'
        simp only [balVal, balLookup, List.find?_cons, h1, if_true]
        exact ih'
      · by_cases h2 : ke = k'
        · subst h2; simp [balVal, balLookup, h]
        · have h1 : (ke == k') = false := by simpa using h2
          have ih' := ih
          simp only [balVal, balLookup, h, if_false] at ih'
          simp only [balVal, balLookup, List.find?_cons, h1, h, if_false]
          exact ih'

/-- Running accumulation of an optional sum. -/
def accF (o : Option Rat) (l : List Rat) : Option Rat :=
  l.foldl (fun o q => some (o.getD 0 + q)) o

theorem accF_some (x : Rat) (l : List Rat) : accF (some x) l = some (x + HoverSpec.sum l) := by
  induction l generalizing x with
  | nil => simp [accF, HoverSpec.sum, Rat.add_zero]
  | cons q l ih =>
    simp only [accF, List.foldl_cons, Option.getD_some, HoverSpec.sum] at *
    rw [ih, Rat.add_assoc]

theorem accF_none (l : List Rat) :
    accF none l = (match l with | [] => none | _ => some (HoverSpec.sum l)) := by
  cases l with
  | nil => rfl
  | cons q l =>
    have := accF_some (0 + q) l
    simp only [accF, List.foldl_cons, Option.getD_none, HoverSpec.sum] at *
    rw [this, Rat.zero_add]

theorem balVal_balPostings (m : Balances) (ps : List Posting) (a c : Bytes) :
    balVal (balPostings m ps) (a, c) =
      accF (balVal m (a, c)) ((ps.map absPosting).filterMap (contrib a c)) := by
  induction ps generalizing m with
  | nil => simp [balPostings, accF]
  | cons p ps ih =>
    have hstep : balPostings m (p :: ps) = balPostings
        (match p.amount with | none => m | some am => balAdd m (p.account.name, am.commodity.symbol) am.quantity) ps := by
      rfl
    rw [hstep, ih]
    cases hp : p.amount with
    | none => simp [contrib, absPosting, hp]
    | some am =>
      simp only [List.map_cons, List.filterMap_cons]
      by_cases hk : p.account.name = a ∧ am.commodity.symbol = c
      · obtain ⟨h1, h2⟩ := hk
        subst h1 h2
        simp [contrib, absPosting, hp, balVal_balAdd, accF]
      · have hne : ((a, c) : Bytes × Bytes) ≠ (p.account.name, am.commodity.symbol) := by
          intro e; apply hk; cases e; exact ⟨rfl, rfl⟩
        have hc : contrib a c (absPosting p) = none := by
          simp only [contrib, absPosting, hp, Option.map_some]
          by_cases h1 : p.account.name = a
          · have h2 : ¬ am.commodity.symbol = c := fun h => hk ⟨h1, h⟩
            simp [h1, h2]
          · simp [h1]
        simp [hc, balVal_balAdd, hne]

theorem accountBalances_eq (txs : List Transaction) :
    accountBalances txs = balPostings [] (allPostings txs) := by
  unfold accountBalances
  suffices h : ∀ m, txs.foldl (fun m tx => balPostings m tx.postings) m = balPostings m (allPostings txs) from h []
  induction txs with
  | nil => intro m; simp [allPostings, balPostings]
  | cons t ts ih =>
    intro m
    simp only [List.foldl_cons, allPostings, List.flatMap_cons]
    rw [ih]
    simp [balPostings, allPostings, List.foldl_append]

theorem sum_perm {l l' : List Rat} (h : l.Perm l') : HoverSpec.sum l = HoverSpec.sum l' := by
  induction h with
  | nil => rfl
  | cons x _ ih => simp [HoverSpec.sum, ih]
  | swap x y l => simp only [HoverSpec.sum]; grind
  | trans _ _ ih1 ih2 => exact ih1.trans ih2

def keys (m : Balances) : List (Bytes × Bytes) := m.map (·.1)

theorem keys_balAdd (m : Balances) (k : Bytes × Bytes) (q : Dec) :
    keys (balAdd m k q) = if k ∈ keys m then keys m else keys m ++ [k] := by
  induction m with
  | nil => simp [balAdd, keys]
  | cons e r ih =>
    obtain ⟨ke, v⟩ := e
    unfold balAdd
    by_cases hk : ke = k
    · subst hk; simp [keys]
    · have hk' : ¬ k = ke := fun e => hk e.symm
      simp only [hk, if_false]
      simp only [keys, List.map_cons, List.mem_cons, hk', false_or] at ih ⊢
      rw [ih]
      split <;> simp [*]

theorem nodup_balAdd (m : Balances) (k : Bytes × Bytes) (q : Dec) (h : (keys m).Nodup) :
    (keys (balAdd m k q)).Nodup := by
  rw [keys_balAdd]
  split
  · exact h
  · next hn =>
    rw [List.nodup_append]
    exact ⟨h, by simp, by intro a ha b hb; simp at hb; subst hb; intro e; subst e; exact hn ha⟩

theorem nodup_balPostings (m : Balances) (ps : List Posting) (h : (keys m).Nodup) :
    (keys (balPostings m ps)).Nodup := by
  induction ps generalizing m with
  | nil => simpa [balPostings] using h
  | cons p ps ih =>
    have hstep : balPostings m (p :: ps) = balPostings
        (match p.amount with | none => m | some am => balAdd m (p.account.name, am.commodity.symbol) am.quantity) ps := by
      rfl
    rw [hstep]
    apply ih
    cases p.amount with
    | none => exact h
    | some am => exact nodup_balAdd _ _ _ h

theorem nodup_accountBalances (txs : List Transaction) : (keys (accountBalances txs)).Nodup := by
  rw [accountBalances_eq]
  exact nodup_balPostings [] _ (by simp [keys])

theorem lookup_of_mem (m : Balances) (k : Bytes × Bytes) (v : Dec) (h : (keys m).Nodup)
    (hm : (k, v) ∈ m) : balLookup m k = some v := by
  induction m with
  | nil => cases hm
  | cons e r ih =>
    obtain ⟨ke, ve⟩ := e
    simp only [keys, List.map_cons, List.nodup_cons] at h
    rcases List.mem_cons.mp hm with heq | hr
    · cases heq; simp [balLookup]
    · have hne : ke ≠ k := by
        intro e; subst e
        exact h.1 (List.mem_map.mpr ⟨(ke, v), hr, rfl⟩)
      have hb : (ke == k) = false := by simpa using hne
      have := ih h.2 hr
      simp only [balLookup, List.find?_cons, hb] at this ⊢
      exact this

theorem mem_of_lookup (m : Balances) (k : Bytes × Bytes) (v : Dec) (h : balLookup m k = some v) :
    (k, v) ∈ m := by
  induction m with
  | nil => simp [balLookup] at h
  | cons e r ih =>
    obtain ⟨ke, ve⟩ := e
    by_cases hk : ke = k
    · subst hk
      simp [balLookup] at h
      subst h
      exact List.mem_cons_self
    · have hb : (ke == k) = false := by simpa using hk
      simp only [balLookup, List.find?_cons, hb] at h ih
      exact List.mem_cons_of_mem _ (ih h)

theorem mem_insertBy {α} (le : α → α → Bool) (x y : α) (l : List α) :
    y ∈ insertBy le x l ↔ y = x ∨ y ∈ l := by
  induction l with
  | nil => simp [insertBy]
  | cons z zs ih =>
    unfold insertBy
    split
    · simp
    · simp only [List.mem_cons, ih]
      exact or_left_comm

theorem mem_sortBy {α} (le : α → α → Bool) (y : α) (l : List α) : y ∈ sortBy le l ↔ y ∈ l := by
  induction l with
  | nil => simp [sortBy]
  | cons z zs ih =>
    simp only [sortBy, List.foldr_cons, List.mem_cons] at ih ⊢
    rw [mem_insertBy, ih]

theorem mem_lines (m : Balances) (a c : Bytes) (v : Dec) :
    (c, v) ∈ accountBalanceLines m a ↔ ((a, c), v) ∈ m := by
  unfold accountBalanceLines
  rw [mem_sortBy]
  simp only [List.mem_map, List.mem_filter, beq_iff_eq]
  constructor
  · rintro ⟨⟨⟨a', c'⟩, v'⟩, ⟨hm, ha⟩, he⟩
    simp only at ha he
    cases he; subst ha; exact hm
  · intro h
    exact ⟨((a, c), v), ⟨h, rfl⟩, rfl⟩

/-- Where an account or amount element comes from: a posting of `ps` (for an amount, one whose
    amount range holds the cursor).  Nothing is said about the other kinds. -/
def elemFrom (ps : List Posting) (p : LspPos) : Element → Prop
  | .amount rng a c => ∃ po ∈ ps, po.amount = some a ∧ po.cost = c ∧ rng = a.range ∧ positionInRange p a.range = true
  | .account _ acc => ∃ po ∈ ps, po.account = acc
  | _ => True

theorem elemFrom_cons {ps : List Posting} {po : Posting} {p : LspPos} {e : Element} (h : elemFrom ps p e) :
    elemFrom (po :: ps) p e := by
  cases e <;> try trivial
  · obtain ⟨q, hq, r⟩ := h
    exact ⟨q, List.mem_cons_of_mem _ hq, r⟩
  · obtain ⟨q, hq, r⟩ := h
    exact ⟨q, List.mem_cons_of_mem _ hq, r⟩

theorem findTag_from {tags : List Tag} {p : LspPos} {e : Element} (ps : List Posting)
    (h : findTagAtPosition tags p = some e) : elemFrom ps p e := by
  induction tags with
  | nil => cases h
  | cons t ts ih =>
    unfold findTagAtPosition at h
    split at h
    · cases h
      unfold tagElement
      split <;> trivial
    · exact ih h

theorem findInComments_from {cs : List Comment} {p : LspPos} {e : Element} (ps : List Posting)
    (h : findInComments cs p = some e) : elemFrom ps p e := by
  induction cs with
  | nil => cases h
  | cons c cs ih =>
    unfold findInComments at h
    split at h
    · next e' he =>
      cases h
      exact findTag_from _ he
    · exact ih h

theorem findInPostings_from {ps : List Posting} {p : LspPos} {e : Element}
    (h : findInPostings ps p = some e) : elemFrom ps p e := by
  induction ps with
  | nil => cases h
  | cons po ps ih =>
    unfold findInPostings at h
    split at h
    · cases h
      exact ⟨po, List.mem_cons_self, rfl⟩
    · split at h
      · next e' he =>
        cases h
        unfold amountElement at he
        split at he
        · next a ha =>
          split at he
          · next hin =>
            cases he
            exact ⟨po, List.mem_cons_self, ha, rfl, rfl, hin⟩
          · cases he
        · cases he
      · split at h
        · next e' he =>
          cases h
          exact findTag_from _ he
        · exact elemFrom_cons (ih h)

theorem findElement_from {lns : List HL.Text.Txt} {txs : List Transaction} {p : LspPos} {e : Element}
    (h : findElement lns txs p = some e) : ∃ tx ∈ txs, elemFrom tx.postings p e := by
  induction txs with
  | nil => cases h
  | cons tx txs ih =>
    unfold findElement at h
    split at h
    · next e' he =>
      cases h
      refine ⟨tx, List.mem_cons_self, ?_⟩
      unfold findInTransaction at he
      split at he
      · cases he
        trivial
      · split at he
        · next e'' hp =>
          cases he
          unfold payeeElement at hp
          split at hp
          · split at hp
            · cases hp
              trivial
            · cases hp
          · cases hp
        · split at he
          · next e'' hc =>
            cases he
            exact findInComments_from _ hc
          · exact findInPostings_from he
    · obtain ⟨t, ht, r⟩ := ih h
      exact ⟨t, List.mem_cons_of_mem _ ht, r⟩

end HL.Lemmas.Hover
