import HL.Lemmas.LexCrlfLine
import HL.Lemmas.LexCrlf
/-!
  Carriage returns and the repaired lexer, part 3: WHOLE FILES.

  `toCrlf t` replaces every line feed of `t` by CR LF.  For every byte string `t` without a
  carriage return, lexing `toCrlf t` gives the tokens of `t` — same types, values, lines and
  columns — with every offset moved by the number of line ends in front of it, which is the
  position's own line number minus one (`lexAll_crlf`).  Composition of the one-line lemma
  `lexS_crx` with line-locality (`lexAll_line_local`).

  `lexAll_mixed`: the same for every text in which a carriage return stands only in front of a
  line feed, LF and CR LF line ends mixed — the tokens are those of the text without its carriage
  returns (`dropCR`), offsets moved by the carriage returns in front of the line (`mixShift`).
-/
namespace HL.Lex
open HL HL.Utf8 Ctl

/-- every line feed replaced by carriage return + line feed -/
def toCrlf : Bytes → Bytes
  | [] => []
  | c :: t => if c == LF then CR :: LF :: toCrlf t else c :: toCrlf t

/-- the same token in the CR LF text: every offset moved by the number of line ends in front of
    it, i.e. by the position's line number minus one -/
def crShift (t : Token) : Token := crLine 1 t

theorem toCrlf_append (a b : Bytes) : toCrlf (a ++ b) = toCrlf a ++ toCrlf b := by
  induction a with
  | nil => rfl
  | cons c a ih =>
    simp only [List.cons_append, toCrlf, ih]
    split <;> rfl

theorem toCrlf_noLF {a : Bytes} (h : LF ∉ a) : toCrlf a = a := by
  induction a with
  | nil => rfl
  | cons c a ih =>
    have hc : (c == LF) = false := by simpa using fun e : c = LF => h (by simp [e])
    simp only [toCrlf, hc, Bool.false_eq_true, if_false, ih (fun m => h (by simp [m]))]

theorem split_first_lf (t : Bytes) : LF ∉ t ∨ ∃ a b, t = a ++ LF :: b ∧ LF ∉ a := by
  induction t with
  | nil => exact Or.inl (by simp)
  | cons c t ih =>
    by_cases hc : c = LF
    · exact Or.inr ⟨[], t, by simp [hc], by simp⟩
    · rcases ih with h | ⟨a, b, h1, h2⟩
      · refine Or.inl ?_
        intro m; rcases List.mem_cons.mp m with e | e
        · exact hc e.symm
        · exact h e
      · refine Or.inr ⟨c :: a, b, by simp [h1], ?_⟩
        intro m; rcases List.mem_cons.mp m with e | e
        · exact hc e.symm
        · exact h2 e

theorem lexS_stop_lines (C : Classes) (L n : Nat) (z : Z) (hn : z.after.length ≤ n)
    (hinv : z.line = L + countLF z.before) :
    ∀ t ∈ lexS C z, t.stop.line = L + countLF (z.input.take t.stop.off) :=
  fun t ht => (lexS_lines C L z hinv t ht).2

theorem lexAll_lines (C : Classes) (input : Bytes) :
    ∀ t ∈ lexAll C input, (1 ≤ t.pos.line ∧ t.pos.line ≤ 1 + countLF input) ∧
      (1 ≤ t.stop.line ∧ t.stop.line ≤ 1 + countLF input) := by
  intro t ht
  rw [lexAll_eq_lexS] at ht
  obtain ⟨h1, h2⟩ := lexS_lines C 1 (Z.init input) (by simp [Z.init, countLF]) t ht
  have e : (Z.init input).input = input := by simp [Z.init, Z.input]
  rw [e] at h1 h2
  have le : ∀ k, countLF (input.take k) ≤ countLF input := fun k =>
    ((List.take_sublist k input).filter _).length_le
  have b1 := le t.pos.off
  have b2 := le t.stop.off
  omega

theorem lexAll_one_line (C : Classes) {input : Bytes} (h : LF ∉ input) :
    ∀ t ∈ lexAll C input, t.pos.line = 1 ∧ t.stop.line = 1 := by
  intro t ht
  have := lexAll_lines C input t ht
  rw [countLF_of_not_mem h] at this
  omega

theorem lexAll_crlf_line (C : Classes) {a : Bytes} (ha : LF ∉ a) (hca : CR ∉ a) :
    lexAll C (a ++ [CR] ++ [LF]) = (lexAll C (a ++ [LF])).map (crLine 1) := by
  have : Z.init (a ++ [CR] ++ [LF]) = (Z.init (a ++ [LF])).crx := by
    simp only [Z.init, Z.crx, crx_append]; simp
  rw [lexAll_eq_lexS, lexAll_eq_lexS, this, lexS_crx C _ ⟨a, rfl, ha, hca⟩ (Nat.le_refl _)]
  rfl

theorem crShift_shift (x : Token) (n : Nat) (h1 : 1 ≤ x.pos.line) (h2 : 1 ≤ x.stop.line) :
    shiftTok 1 (n + 2) (crShift x) = crShift (shiftTok 1 (n + 1) x) := by
  cases x with
  | mk ty v p e =>
    cases p; cases e
    simp only at h1 h2
    simp only [crShift, crLine, shiftTok, shiftPos, Token.mk.injEq, Pos.mk.injEq, true_and]
    omega

/-- **CRLF is LF.**  For every byte string `t` without a carriage return and every classifier:
    the token stream of `t` with every LF replaced by CR LF is the token stream of `t` — same
    types, same values, same lines and columns — with every offset moved by the number of line
    ends in front of it (`crShift`: offset + line − 1). -/
theorem lexAll_crlf (C : Classes) (t : Bytes) (h : CR ∉ t) :
    lexAll C (toCrlf t) = (lexAll C t).map crShift := by
  generalize hn : t.length = n
  induction n using Nat.strongRecOn generalizing t with
  | _ n ih =>
    rcases split_first_lf t with hno | ⟨a, b, rfl, ha⟩
    · -- one line without a line end
      rw [toCrlf_noLF hno]
      symm
      have : ∀ x ∈ lexAll C t, crShift x = x := fun x hx =>
        crLine_same 1 x (lexAll_one_line C hno x hx).1 (lexAll_one_line C hno x hx).2
      rw [List.map_congr_left this]; simp
    · have hca : CR ∉ a := fun m => h (by simp [m])
      have hcb : CR ∉ b := fun m => h (by simp [m])
      have hb := ih b.length (by rw [← hn]; simp; omega) b hcb rfl
      have e1 : toCrlf (a ++ LF :: b) = (a ++ [CR]) ++ LF :: toCrlf b := by
        rw [toCrlf_append, toCrlf_noLF ha]; simp [toCrlf]
      have hcl : countLF (a ++ [CR]) = 0 := by
        apply countLF_of_not_mem
        intro m; rcases List.mem_append.mp m with m | m
        · exact ha m
        · simp at m
      have hcl2 : countLF a = 0 := countLF_of_not_mem ha
      have hline : lexAll C (a ++ [CR] ++ [LF]) = (lexAll C (a ++ [LF])).map crShift := lexAll_crlf_line C ha hca
      rw [e1, lexAll_line_local C (a ++ [CR]) (toCrlf b), lexAll_line_local C a b, hline, hb, hcl, hcl2]
      rw [List.map_append, List.map_dropLast, List.map_map, List.map_map]
      congr 1
      apply List.map_congr_left
      intro x hx
      have hp := lexAll_lines C b x hx
      simp only [Function.comp_apply, List.length_append, List.length_singleton, Nat.zero_add]
      exact crShift_shift x a.length hp.1.1 hp.2.1

/-- `t` without its carriage returns -/
def dropCR (t : Bytes) : Bytes := t.filter (· != CR)

/-- number of carriage returns in `t` in front of its `k`-th line feed (all of them if `t` has
    fewer line feeds) -/
def crBefore : Bytes → Nat → Nat
  | [], _ => 0
  | _ :: _, 0 => 0
  | c :: r, k + 1 => if c == LF then crBefore r k else (if c == CR then 1 else 0) + crBefore r (k + 1)

/-- a token of `dropCR t` as it lies in `t`: every offset moved by the number of carriage
    returns in front of the position's line -/
def mixShift (t : Bytes) (x : Token) : Token :=
  { x with pos := ⟨x.pos.line, x.pos.col, x.pos.off + crBefore t (x.pos.line - 1)⟩,
           stop := ⟨x.stop.line, x.stop.col, x.stop.off + crBefore t (x.stop.line - 1)⟩ }

theorem dropCR_append (a b : Bytes) : dropCR (a ++ b) = dropCR a ++ dropCR b := by simp [dropCR]

theorem dropCR_noCR {a : Bytes} (h : CR ∉ a) : dropCR a = a := by
  simp only [dropCR, List.filter_eq_self]
  intro x hx
  simpa using fun e : x = CR => h (e ▸ hx)

theorem crBefore_zero (t : Bytes) : crBefore t 0 = 0 := by cases t <;> rfl

theorem crBefore_line (a b : Bytes) (ha : LF ∉ a) (k : Nat) :
    crBefore (a ++ LF :: b) (k + 1) = (a.filter (· == CR)).length + crBefore b k := by
  induction a with
  | nil => simp [crBefore]
  | cons c a ih =>
    have hc : (c == LF) = false := by simpa using fun e : c = LF => ha (by simp [e])
    simp only [List.cons_append, crBefore, hc, Bool.false_eq_true, if_false, ih (fun m => ha (by simp [m])),
      List.filter_cons]
    split <;> simp <;> omega

theorem crOk_first_line {a b : Bytes} (h : CrOk (a ++ LF :: b) = true) (ha : LF ∉ a) :
    (CR ∉ a ∨ ∃ a0, a = a0 ++ [CR] ∧ CR ∉ a0) ∧ CrOk b = true := by
  induction a with
  | nil =>
    refine ⟨Or.inl (by simp), ?_⟩
    cases b with
    | nil => rfl
    | cons d r => simp only [List.nil_append, CrOk, Bool.and_eq_true] at h; exact h.2
  | cons c a ih =>
    have ha' : LF ∉ a := fun m => ha (by simp [m])
    have hcr : CrOk (a ++ LF :: b) = true := by
      cases a with
      | nil => simp only [List.cons_append, List.nil_append, CrOk, Bool.and_eq_true] at h ⊢; exact h.2
      | cons d r => simp only [List.cons_append, CrOk, Bool.and_eq_true] at h ⊢; exact h.2
    obtain ⟨h1, h2⟩ := ih hcr ha'
    refine ⟨?_, h2⟩
    by_cases hc : c = CR
    · -- a carriage return is followed by a line feed: `a` is empty
      subst hc
      cases a with
      | nil => exact Or.inr ⟨[], rfl, by simp⟩
      | cons d r =>
        simp only [List.cons_append, CrOk, Bool.and_eq_true, Bool.or_eq_true, bne_iff_ne, ne_eq,
          not_true_eq_false, false_or, beq_iff_eq] at h
        exact absurd h.1 (fun e => ha (by simp [e]))
    · rcases h1 with h1 | ⟨a0, h1, h1'⟩
      · refine Or.inl ?_
        intro m; rcases List.mem_cons.mp m with e | e
        · exact hc e.symm
        · exact h1 e
      · refine Or.inr ⟨c :: a0, by simp [h1], ?_⟩
        intro m; rcases List.mem_cons.mp m with e | e
        · exact hc e.symm
        · exact h1' e

theorem mixShift_shift (a b : Bytes) (ha : LF ∉ a) (x : Token) (n : Nat)
    (h1 : 1 ≤ x.pos.line) (h2 : 1 ≤ x.stop.line) :
    shiftTok 1 (n + (a.filter (· == CR)).length) (mixShift b x) = mixShift (a ++ LF :: b) (shiftTok 1 n x) := by
  cases x with
  | mk ty v p e =>
    cases p with
    | mk pl pc po =>
      cases e with
      | mk el ec eo =>
        simp only at h1 h2
        obtain ⟨k, rfl⟩ : ∃ k, pl = k + 1 := ⟨pl - 1, by omega⟩
        obtain ⟨m, rfl⟩ : ∃ m, el = m + 1 := ⟨el - 1, by omega⟩
        simp only [mixShift, shiftTok, shiftPos, Nat.add_sub_cancel, crBefore_line a b ha, Token.mk.injEq,
          Pos.mk.injEq, true_and]
        omega

theorem lexAll_first_line (C : Classes) {a : Bytes} (ha : LF ∉ a) :
    ∀ x ∈ lexAll C (a ++ [LF]), (1 ≤ x.pos.line ∧ x.pos.line ≤ 2) ∧ (1 ≤ x.stop.line ∧ x.stop.line ≤ 2) := by
  have hc : countLF (a ++ [LF]) = 1 := by rw [countLF_append, countLF_of_not_mem ha]; rfl
  intro x hx
  have := lexAll_lines C (a ++ [LF]) x hx
  rw [hc] at this
  exact this

theorem mixShift_first_line (a b : Bytes) (ha : LF ∉ a) (x : Token)
    (hp : 1 ≤ x.pos.line ∧ x.pos.line ≤ 2) (hs : 1 ≤ x.stop.line ∧ x.stop.line ≤ 2) :
    ((a.filter (· == CR)).length = 0 → mixShift (a ++ LF :: b) x = x) ∧
    ((a.filter (· == CR)).length = 1 → mixShift (a ++ LF :: b) x = crLine 1 x) := by
  have c0 : crBefore (a ++ LF :: b) 0 = 0 := crBefore_zero _
  have c1 : crBefore (a ++ LF :: b) 1 = (a.filter (· == CR)).length := by
    rw [crBefore_line a b ha 0, crBefore_zero]; rfl
  cases x with
  | mk ty v p e =>
    cases p with
    | mk pl pc po =>
      cases e with
      | mk el ec eo =>
        simp only at hp hs
        have hpl : pl = 1 ∨ pl = 2 := by omega
        have hel : el = 1 ∨ el = 2 := by omega
        constructor
        · intro h0
          rcases hpl with rfl | rfl <;> rcases hel with rfl | rfl <;> simp [mixShift, c0, c1, h0]
        · intro h1
          rcases hpl with rfl | rfl <;> rcases hel with rfl | rfl <;> simp [mixShift, crLine, c0, c1, h1]

/-- **Mixed line ends.**  For every byte string `t` in which a carriage return occurs only
    directly in front of a line feed — LF files, CRLF files and files that mix the two — and
    every classifier: the token stream of `t` is the token stream of `t` without its carriage
    returns — same types, values, lines and columns — with every offset moved by the number of
    carriage returns in front of the position's line. -/
theorem lexAll_mixed (C : Classes) (t : Bytes) (h : CrOk t = true) :
    lexAll C t = (lexAll C (dropCR t)).map (mixShift t) := by
  generalize hn : t.length = n
  induction n using Nat.strongRecOn generalizing t with
  | _ n ih =>
    rcases split_first_lf t with hno | ⟨a, b, rfl, ha⟩
    · -- no line feed: a carriage return could only be the last byte, and `CrOk` forbids that
      have hnc : CR ∉ t := by
        intro m
        obtain ⟨s, r, rfl⟩ := List.append_of_mem m
        have := crOk_append_cr h
        cases r with
        | nil => simp [headIs] at this
        | cons d r =>
          simp only [headIs, beq_iff_eq] at this
          exact hno (by simp [this])
      rw [dropCR_noCR hnc]
      symm
      have : ∀ x ∈ lexAll C t, mixShift t x = x := by
        intro x hx
        obtain ⟨h1, h2⟩ := lexAll_one_line C hno x hx
        cases x with
        | mk ty v p e =>
          cases p; cases e
          simp only at h1 h2
          simp [mixShift, h1, h2, crBefore_zero]
      rw [List.map_congr_left this]; simp
    · obtain ⟨hfirst, hb⟩ := crOk_first_line h ha
      have hih := ih b.length (by rw [← hn]; simp; omega) b hb rfl
      have hmap : ∀ (n : Nat), (List.map (mixShift b) (lexAll C (dropCR b))).map (shiftTok 1 (n + (a.filter (· == CR)).length))
          = ((lexAll C (dropCR b)).map (shiftTok 1 n)).map (mixShift (a ++ LF :: b)) := by
        intro n
        rw [List.map_map, List.map_map]
        apply List.map_congr_left
        intro x hx
        have hp := lexAll_lines C (dropCR b) x hx
        exact mixShift_shift a b ha x n hp.1.1 hp.2.1
      rcases hfirst with hnc | ⟨a0, rfl, hnc⟩
      · -- the first line ends in LF
        have hd : dropCR (a ++ LF :: b) = a ++ LF :: dropCR b := by
          rw [dropCR_append, dropCR_noCR hnc]; simp [dropCR]
        have hcnt : (a.filter (· == CR)).length = 0 := by
          simp only [List.length_eq_zero_iff, List.filter_eq_nil_iff]
          intro x hx e
          have : x = CR := by simpa using e
          exact hnc (this ▸ hx)
        have hfl : ∀ x ∈ (lexAll C (a ++ [LF])).dropLast, mixShift (a ++ LF :: b) x = x := by
          intro x hx
          have hl := lexAll_first_line C ha x ((List.dropLast_sublist _).subset hx)
          exact (mixShift_first_line a b ha x hl.1 hl.2).1 hcnt
        have hm := hmap (a.length + 1)
        rw [hcnt, Nat.add_zero] at hm
        rw [hd, lexAll_line_local C a b, lexAll_line_local C a (dropCR b), hih, List.map_append,
          countLF_of_not_mem ha, Nat.zero_add, hm, List.map_congr_left hfl]
        simp
      · -- the first line ends in CR LF
        have ha0 : LF ∉ a0 := fun m => ha (by simp [m])
        have hd : dropCR (a0 ++ [CR] ++ LF :: b) = a0 ++ LF :: dropCR b := by
          rw [dropCR_append, dropCR_append, dropCR_noCR hnc]; simp [dropCR]
        have hcnt : ((a0 ++ [CR]).filter (· == CR)).length = 1 := by
          have : a0.filter (· == CR) = [] := by
            simp only [List.filter_eq_nil_iff]
            intro x hx e
            have : x = CR := by simpa using e
            exact hnc (this ▸ hx)
          simp [List.filter_append, this]
        have hline := lexAll_crlf_line C ha0 hnc
        have hfl : ∀ x ∈ (lexAll C (a0 ++ [LF])).dropLast, mixShift (a0 ++ [CR] ++ LF :: b) x = crLine 1 x := by
          intro x hx
          have hl := lexAll_first_line C ha0 x ((List.dropLast_sublist _).subset hx)
          exact (mixShift_first_line (a0 ++ [CR]) b ha x hl.1 hl.2).2 hcnt
        have hm := hmap (a0.length + 1)
        rw [hcnt] at hm
        have hcl : countLF (a0 ++ [CR]) = 0 := countLF_of_not_mem ha
        rw [hd, lexAll_line_local C (a0 ++ [CR]) b, lexAll_line_local C a0 (dropCR b), hih, List.map_append,
          hline, hcl, countLF_of_not_mem ha0, Nat.zero_add]
        have e1 : (a0 ++ [CR]).length + 1 = a0.length + 1 + 1 := by simp
        rw [e1, hm, ← List.map_dropLast, List.map_congr_left hfl]

end HL.Lex
