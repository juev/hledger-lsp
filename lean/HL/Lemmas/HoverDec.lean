/-
  `Decimal.String()` as modelled in HL/Model/Hover.lean (`decStr`) prints exactly the value:
  reading the printed text back (`HoverSpec.readDec?`) gives `decToRat`.  `decStr` is the decimal
  model's `Dec.toString`, so what it prints comes from Lemmas/DecString.
-/
import HL.Lemmas.Hover
import HL.Lemmas.Number
namespace HL.Lemmas.HoverDec
open HL HL.Hover HL.HoverSpec HL.Lemmas.Hover

theorem digitsF_eq (f n : Nat) (acc : Bytes) : digitsF f n acc = Fmt.digitsAux f n acc := by
  induction f generalizing n acc with
  | zero => rfl
  | succ f ih => simp only [digitsF, Fmt.digitsAux, ih]

theorem natStr_eq (n : Nat) : natStr n = Dec.natDigits n :=
  (digitsF_eq _ _ _).trans (Number.natStr_eq n)

theorem decStr_eq (d : Dec) : decStr d = Dec.toString d := by
  unfold decStr Dec.toString Dec.toStr
  by_cases h : d.exp ≥ 0
  · have hc : (Dec.rescale d 0).coef = d.coef * 10 ^ d.exp.toNat := by
      simp [Dec.rescale, show ¬ 0 > d.exp by omega]
    simp only [if_pos h, natStr_eq, hc, Dec.intDigits]
    split <;> rfl
  · have number : ∀ ip fp : Bytes, (if fp.isEmpty then ip else ip ++ [46] ++ fp) =
        (if fp.isEmpty then ip else ip ++ 46 :: fp) := fun ip fp => by simp
    simp only [if_neg h, natStr_eq, number]
    rfl

theorem digitVal_digitByte : ∀ d : G.Digit, digitVal? (G.digitByte d) = some d.val := by decide

theorem readNat_digits (ds : List G.Digit) (hne : ds ≠ []) :
    readNat? (G.digitsBytes ds) = some (G.natOf ds) := by
  have key : ∀ (ds : List G.Digit) (n : Nat),
      (G.digitsBytes ds).foldl (fun acc b => match acc, digitVal? b with
        | some n, some d => some (n * 10 + d)
        | _, _ => none) (some n) = some (ds.foldl (fun a d => a * 10 + d.val) n) := by
    intro ds
    induction ds with
    | nil => intro n; rfl
    | cons d r ih =>
      intro n
      simp only [G.digitsBytes, List.map_cons, List.foldl_cons, digitVal_digitByte]
      exact ih _
  cases ds with
  | nil => exact absurd rfl hne
  | cons d r => exact key (d :: r) 0

theorem readDec_canon (neg : Bool) (ip fr : List G.Digit) (hne : ip ≠ []) :
    readDec? (Num.signBytes neg ++ G.digitsBytes ip ++ Num.fracBytes (!fr.isEmpty) fr) =
      some (Dec.toRat ⟨if neg then -(G.natOf (ip ++ fr) : Int) else (G.natOf (ip ++ fr) : Int), 0 - fr.length⟩) := by
  have h46 : ∀ b ∈ G.digitsBytes ip, (b != 46) = true := fun b hb =>
    bne_iff_ne.2 (Num.isDigit_ne (Num.allDigits_digitsBytes ip b hb) rfl)
  have hbody : readBody? (G.digitsBytes ip ++ Num.fracBytes (!fr.isEmpty) fr) =
      some ((G.natOf ip : Rat) + (G.natOf fr : Rat) / (10 : Rat) ^ fr.length) := by
    unfold readBody?
    rw [List.takeWhile_append_of_pos h46, List.dropWhile_append_of_pos h46]
    cases fr with
    | nil => simp [Num.fracBytes, readNat_digits ip hne, G.natOf, Rat.div_def, Rat.zero_mul, Rat.add_zero]
    | cons d r =>
      have hf := readNat_digits (d :: r) (List.cons_ne_nil _ _)
      have hl : (G.digitsBytes (d :: r)).length = (d :: r).length := List.length_map _
      simp [Num.fracBytes, show (Num.DOT != 46) = false from rfl, readNat_digits ip hne, hf, hl]
  rw [Num.toRat_canon, Rat.zpow_zero, Rat.mul_one, List.append_assoc]
  cases neg with
  | true => simp only [Num.signBytes, Num.MINUS, if_true, List.singleton_append, readDec?, hbody]
  | false =>
    obtain ⟨d, r, rfl⟩ : ∃ d r, ip = d :: r := by
      cases ip with
      | nil => exact absurd rfl hne
      | cons d r => exact ⟨d, r, rfl⟩
    simp only [Num.signBytes, Bool.false_eq_true, if_false, List.nil_append]
    unfold readDec?
    split
    · next t heq =>
      simp only [G.digitsBytes, List.map_cons, List.cons_append, List.cons.injEq] at heq
      exact absurd (heq.1 ▸ Num.digitByte_isDigit d) (by decide)
    · exact hbody

/-- `Decimal.String()` denotes exactly the decimal's value. -/
theorem decStr_exact (d : Dec) : readDec? (decStr d) = some (decToRat d) := by
  obtain ⟨neg, ip, fr, h1, _, hs, hv⟩ := Num.toStr_canon true d
  rw [decStr_eq, Dec.toString, hs, readDec_canon neg ip fr h1, hv]
  rfl

/-- The figures as shown: decimals printed by `Decimal.String()`. -/
def shownOf : Figures → Shown
  | .account name bal n => .account name (bal.map fun e => (e.1, decStr e.2)) n
  | .amount q com cost => .amount (decStr q) com (cost.map fun c => (c.1, decStr c.2.1, c.2.2))
  | .payee name n => .payee name n
  | .date _ _ _ _ _ => .date
  | .tag name n _ => .tag name n
  | .tagValue name v n => .tagValue name v n

theorem insertBy_perm {α} (le : α → α → Bool) (x : α) (l : List α) : (insertBy le x l).Perm (x :: l) := by
  induction l with
  | nil => exact List.Perm.refl _
  | cons y ys ih =>
    unfold insertBy
    split
    · exact List.Perm.refl _
    · exact (List.Perm.cons y ih).trans (List.Perm.swap x y ys)

theorem sortBy_perm {α} (le : α → α → Bool) (l : List α) : (sortBy le l).Perm l := by
  induction l with
  | nil => exact List.Perm.refl _
  | cons y ys ih =>
    simp only [sortBy, List.foldr_cons] at ih ⊢
    exact (insertBy_perm le y _).trans (List.Perm.cons y ih)

theorem nodup_filter_commodities (m : Balances) (a : Bytes) (h : (keys m).Nodup) :
    ((m.filter (fun e => e.1.1 == a)).map (fun e => e.1.2)).Nodup := by
  have h1 : m.Pairwise (fun e e' => e.1 ≠ e'.1) := List.pairwise_map.1 h
  refine List.pairwise_map.2 ((h1.filter _).imp_of_mem fun {e e'} he he' hne heq => hne ?_)
  have ha := beq_iff_eq.1 (List.mem_filter.1 he).2
  have ha' := beq_iff_eq.1 (List.mem_filter.1 he').2
  exact Prod.ext (ha.trans ha'.symm) heq

theorem nodup_line_commodities (m : Balances) (a : Bytes) (h : (keys m).Nodup) :
    ((accountBalanceLines m a).map (·.1)).Nodup := by
  unfold accountBalanceLines
  have hp := (sortBy_perm (fun (x y : Bytes × Dec) => bytesLe x.1 y.1)
    ((m.filter (fun e => e.1.1 == a)).map (fun e => (e.1.2, e.2)))).map (·.1)
  rw [hp.nodup_iff]
  simp only [List.map_map]
  exact nodup_filter_commodities m a h

end HL.Lemmas.HoverDec
