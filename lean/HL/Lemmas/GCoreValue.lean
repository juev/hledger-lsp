import HL.Spec.GCoreValue
import HL.Lemmas.Num
/-!
  The arithmetic bridge of the C02 pipeline for the core grammar: the decimal the syntax tree
  `GCore.expected` holds for an amount has exactly the rational value WRITTEN
  (`quantity_toRat`), the commodity is the one written, and so the rational image of the tree
  of a transaction is the transaction as written (`image_expected`).  No well-formedness is
  needed for any of these: they are identities between two ways of reading digit strings.
-/
namespace HL.GCore
open HL HL.Ast HL.Spec.Bal

/-- the parser's reading of a digit string (Horner) is its positional value -/
theorem digitsNat_eq_natOf (ds : Bytes) : digitsNat ds = natOf ds := by
  induction ds with
  | nil => rfl
  | cons c r ih =>
    rw [natOf, ← ih, digitsNat, List.foldl_cons, Num.foldl_base10, Nat.zero_mul, Nat.zero_add]
    rfl

theorem natOf_append (a b : Bytes) : natOf (a ++ b) = natOf a * 10 ^ b.length + natOf b := by
  simp only [← digitsNat_eq_natOf, digitsNat]
  rw [List.foldl_append, Num.foldl_base10]

/-- The decimal the tree holds for an amount — coefficient = all
    digits, exponent = minus the number of decimals, exactly as `decimal.NewFromString` builds
    it — has the exact rational value written. -/
theorem quantity_toRat (a : Amount) : Dec.toRat a.quantity = amountValue a := by
  have h : Dec.toRat ⟨(digitsNat (a.int ++ a.frac.getD []) : Int), -((a.frac.getD []).length : Int)⟩ =
      a.magnitude := by
    have := Dec.toRat_split (natOf a.int) (natOf (a.frac.getD [])) (a.frac.getD []).length 0
    rw [Int.zero_sub, ← natOf_append, ← digitsNat_eq_natOf (a.int ++ _), Rat.zpow_zero, Rat.mul_one] at this
    rw [this, Amount.magnitude]
    cases a.frac with
    | none => simp [natOf, Rat.div_def, Rat.zero_mul, Rat.add_zero]
    | some f => simp only [Option.getD_some, Rat.natCast_pow]; rfl
  unfold Amount.quantity amountValue
  cases a.neg
  · exact h
  · exact (Dec.neg_exact ⟨_, _⟩).trans (congrArg _ h)

/-- the commodity symbol in the tree is the one written (empty when none is written) -/
theorem commodity_expected (a : Amount) (ln c o : Nat) :
    (a.expected ln c o).commodity.symbol = amountCommodity a := by
  unfold Amount.expected amountCommodity
  cases a.com <;> rfl

theorem imageAmount_expected (a : Amount) (ln c o : Nat) :
    imageAmount (a.expected ln c o) = ⟨amountValue a, amountCommodity a⟩ := by
  unfold imageAmount
  rw [commodity_expected]
  show RAmount.mk (Dec.toRat a.quantity) _ = _
  rw [quantity_toRat]

theorem imagePosting_expected (p : Posting) (ln o : Nat) :
    imagePosting (p.expected ln o) = postingImage p := by
  unfold imagePosting postingImage Posting.expected
  simp only [Option.map_map, Option.map_none]
  congr 1
  cases p.amount with
  | none => rfl
  | some a => simp only [Option.map_some, Function.comp, imageAmount_expected]

theorem image_expectedPostings (ps : List Posting) (ln o : Nat) :
    (expectedPostings ps ln o).map imagePosting = ps.map postingImage := by
  induction ps generalizing ln o with
  | nil => rfl
  | cons p ps ih => simp only [expectedPostings, List.map_cons, imagePosting_expected, ih]

/-- The rational image of the tree of a transaction is the transaction as
    written. -/
theorem image_expected (t : Tx) (ln o : Nat) : image (t.expected ln o) = txImage t := by
  unfold image txImage Tx.expected
  exact image_expectedPostings _ _ _

/-- no posting of the core grammar carries a cost -/
theorem cost_expectedPostings (ps : List Posting) (ln o : Nat) :
    ∀ p ∈ expectedPostings ps ln o, p.cost = none := by
  induction ps generalizing ln o with
  | nil => intro p hp; cases hp
  | cons q ps ih =>
    intro p hp
    simp only [expectedPostings, List.mem_cons] at hp
    rcases hp with rfl | hp
    · rfl
    · exact ih _ _ p hp

/-- every decimal exponent in the tree is minus a number of decimals written -/
theorem exp_expectedPostings (ps : List Posting) (ln o : Nat) (hwf : ps.all Posting.wf = true) :
    ∀ p ∈ expectedPostings ps ln o, ∀ a, p.amount = some a → -1000 ≤ a.quantity.exp ∧ a.quantity.exp ≤ 0 := by
  induction ps generalizing ln o with
  | nil => intro p hp; cases hp
  | cons q ps ih =>
    simp only [List.all_cons, Bool.and_eq_true] at hwf
    intro p hp
    simp only [expectedPostings, List.mem_cons] at hp
    rcases hp with rfl | hp
    · intro a ha
      unfold Posting.expected at ha
      simp only at ha
      cases hq : q.amount with
      | none => rw [hq] at ha; cases ha
      | some am =>
        rw [hq] at ha
        simp only [Option.map_some, Option.some.injEq] at ha
        subst ha
        have hw := hwf.1
        unfold Posting.wf at hw
        rw [hq] at hw
        simp only [Bool.and_eq_true] at hw
        -- the exponent is minus the number of fraction digits, and `Amount.wf` allows at most 1000
        have haw := hw.2
        unfold Amount.wf at haw
        simp only [Bool.and_eq_true] at haw
        show -1000 ≤ am.quantity.exp ∧ am.quantity.exp ≤ 0
        unfold Amount.quantity
        simp only
        cases hfr : am.frac with
        | none => simp
        | some f =>
          have := haw.1.2
          rw [hfr] at this
          simp only [Bool.and_eq_true, decide_eq_true_eq] at this
          simp only [Option.getD_some]
          omega
    · exact ih _ _ hwf.2 p hp

/-- the ranges of the transactions in the tree are where the printer puts them -/
theorem txRanges_expected (ts : List Tx) (ln o : Nat) :
    (expectedTxs ts ln o).map (·.range) = txRanges ts ln o := by
  induction ts generalizing ln o with
  | nil => rfl
  | cons t ts ih => simp only [expectedTxs, txRanges, List.map_cons, ih]; rfl

theorem length_expectedTxs (ts : List Tx) (ln o : Nat) : (expectedTxs ts ln o).length = ts.length := by
  induction ts generalizing ln o with
  | nil => rfl
  | cons t ts ih => simp only [expectedTxs, List.length_cons, ih]

end HL.GCore
