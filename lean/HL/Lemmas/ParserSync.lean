import HL.Lemmas.ParserYear
import HL.Lemmas.ParserFuel
import HL.Lemmas.ParserList
/-
  Resynchronisation at blank lines (token level, list source).

  `sync`: if the token stream in front of the journal loop is `X ++ nl :: y0 :: Y'` with `nl`
  a Newline token, `y0` neither an Indent nor a Newline (the first token of a line that starts
  in column 1) and no EOF inside `X`, then the loop comes back to its head with exactly
  `y0 :: Y'` in front of it: the result of the whole run is the items parsed from `X ++ [nl]`
  pushed onto the result of the run from `y0 :: Y'`, and every error raised on the way sits on
  a token of `X ++ [nl]`.  (`X` may itself end in Newline tokens: blank lines.)
-/
namespace HL.Parser
open HL HL.Ast

variable (num : NumDeps) (cls : Classes)

/-- The journal after the items of several loop iterations have been pushed onto the journal
    of the rest (`parseJournalF` conses in iteration order). -/
def pushAll (items : List Item) (j : Journal) : Journal := items.foldr (fun it j => jpush j it) j

def itemsTx : List Item → List Transaction
  | [] => []
  | .tx t :: r => t :: itemsTx r
  | _ :: r => itemsTx r
def itemsDir : List Item → List Directive
  | [] => []
  | .dir d :: r => d :: itemsDir r
  | _ :: r => itemsDir r
def itemsComment : List Item → List Comment
  | [] => []
  | .comment c :: r => c :: itemsComment r
  | _ :: r => itemsComment r
def itemsIncl : List Item → List Include
  | [] => []
  | .incl i :: r => i :: itemsIncl r
  | _ :: r => itemsIncl r

theorem pushAll_eq (items : List Item) (j : Journal) :
    pushAll items j = ⟨itemsTx items ++ j.transactions, itemsDir items ++ j.directives,
      itemsComment items ++ j.comments, itemsIncl items ++ j.includes⟩ := by
  induction items with
  | nil => simp [pushAll, itemsTx, itemsDir, itemsComment, itemsIncl]
  | cons it r ih =>
    have : pushAll (it :: r) j = jpush (pushAll r j) it := rfl
    rw [this, ih]
    cases it <;> simp [jpush, itemsTx, itemsDir, itemsComment, itemsIncl]

theorem pushAll_append (a b : List Item) (j : Journal) : pushAll (a ++ b) j = pushAll a (pushAll b j) := by
  simp [pushAll, List.foldr_append]

theorem strm_eq_cons {st : PState (List Token)} {y Y} (h : strm st = y :: Y) :
    st = ⟨Y, y, st.errors, st.defaultYear⟩ := by
  cases st; simp [strm] at h; simp [h.1, h.2]

theorem nc_cross (tl : Nat) (X R : List Token) (t1 t2 : Token) (h1 : t1.ty = .newline)
    (h2 : t2.ty ≠ .indent) (h3 : t2.ty ≠ .newline) : nc tl (X ++ t1 :: t2 :: R) = none := by
  rw [nc_append]
  cases nc tl X with
  | none => rfl
  | some k =>
    simp only [Option.bind_some, nc]
    have hs1 : ncStep k t1 = some 1 := by simp [ncStep, h1]
    simp only [hs1]
    simp [ncStep, h2, h3]

theorem parseJournalF_step {σ} (E : Env σ) {st : PState σ} (h : st.current.ty ≠ .eof) (n : Nat) :
    parseJournalF E (n + 1) st =
      (jpush (parseJournalF E n (journalStep E st).2).1 (journalStep E st).1,
       (parseJournalF E n (journalStep E st).2).2) := by
  rw [parseJournalF]; simp only [h, if_false]

theorem measure_pos {σ} (E : Env σ) {st : PState σ} (h : st.current.ty ≠ .eof) : 0 < measure E st :=
  Nat.pos_of_ne_zero fun h0 => h ((measure_zero_iff E st).1 h0)

theorem journalStep_newline {σ} (E : Env σ) (st : PState σ) (h : st.current.ty = .newline) :
    journalStep E st = (.nothing, advance E st) := by
  unfold journalStep; simp [h]

theorem step_stream (st : PState (List Token)) (P : List Token) (e : Token) (Q : List Token)
    (hs : strm st = P ++ e :: Q) (he : e.ty = .eof) (hne : st.current.ty ≠ .eof) :
    ∃ C P' new, C ≠ [] ∧ P = C ++ P' ∧ strm (journalStep (listEnv num cls) st).2 = P' ++ e :: Q ∧
      (nc 0 C).isSome ∧ (journalStep (listEnv num cls) st).2.errors = st.errors ++ new ∧
      ∀ x ∈ new, ∃ t ∈ okSites (C ++ [(journalStep (listEnv num cls) st).2.current]), x.pos = t.pos := by
  obtain ⟨C, new, r, hnc, herr, hpos⟩ := RC.elim _ (journalStep_RC (listEnv num cls) st)
  obtain ⟨P', hP', hs'⟩ := r.stream_split num cls P e Q hs he
  refine ⟨C, P', new, ?_, hP', hs', hnc, herr, hpos⟩
  intro hC
  have hlt := journalStep_lt (listEnv num cls) (listEnv_decr num cls) st hne
  have hsame := r.nil_same _ hC
  simp only [measure, hsame.1, hsame.2] at hlt
  omega

theorem lastNL_seed {p q : Bool} {L : List Token} (h : L ≠ []) : lastNL p L = lastNL q L := by
  cases L with
  | nil => exact absurd rfl h
  | cons t r => rfl

/-- Where the errors raised while consuming `X ++ [nl]` may sit: on a token of `X`, or on the
    closing Newline `nl` when `X` is non-empty and does not itself end in a Newline. -/
def ErrZone (X : List Token) (nl : Token) (new : List ParseError) : Prop :=
  ∀ x ∈ new, ∃ t, x.pos = t.pos ∧ (t ∈ X ∨ (t = nl ∧ lastNL true X = false))

theorem ErrZone.weaken {X nl new} (h : ErrZone X nl new) : ∀ x ∈ new, ∃ t ∈ X ++ [nl], x.pos = t.pos := by
  intro x hx
  obtain ⟨t, hp, ht⟩ := h x hx
  refine ⟨t, ?_, hp⟩
  rcases ht with h | h
  · simp [h]
  · simp [h.1]

theorem okSites_before_nl {C : List Token} {nl t : Token} (hC : C ≠ []) (ht : t ∈ okSites (C ++ [nl])) :
    t ∈ C ∨ (t = nl ∧ lastNL true C = false) := by
  unfold okSites at ht
  rw [okSitesAux_append] at ht
  simp only [List.mem_append] at ht
  rcases ht with h | h
  · exact Or.inl (okSitesAux_sub _ _ t h)
  · right
    rw [lastNL_seed (p := true) (q := false) hC]
    cases hl : lastNL false C with
    | true => rw [hl] at h; simp [okSitesAux] at h
    | false => rw [hl] at h; simp [okSitesAux] at h; exact ⟨h, rfl⟩

theorem okSites_after_nl {X : List Token} {nl y0 t : Token} (h1 : nl.ty = .newline) (hX : X ≠ [])
    (ht : t ∈ okSites (X ++ [nl] ++ [y0])) : t ∈ X ∨ (t = nl ∧ lastNL true X = false) := by
  -- `y0` follows a Newline, so it is no error site
  have hl : lastNL false (X ++ [nl]) = true := by rw [lastNL_append]; simp [lastNL, h1]
  unfold okSites at ht
  rw [okSitesAux_append, hl] at ht
  exact okSites_before_nl hX (by simpa [okSites, okSitesAux] using ht)

theorem ErrZone.step {C a' S R : List Token} {nl cur : Token} {new1 new2 : List ParseError} (hC : C ≠ [])
    (hcur : cur :: S = a' ++ nl :: R) (h1 : ∀ x ∈ new1, ∃ t ∈ okSites (C ++ [cur]), x.pos = t.pos)
    (h2 : ErrZone a' nl new2) : ErrZone (C ++ a') nl (new1 ++ new2) := by
  intro x hx
  rcases List.mem_append.1 hx with hx | hx
  · obtain ⟨t, ht, hp⟩ := h1 x hx
    refine ⟨t, hp, ?_⟩
    cases a' with
    | nil =>
      obtain rfl : cur = nl := (List.cons.inj hcur).1
      simpa using okSites_before_nl hC ht
    | cons z zs =>
      obtain rfl : cur = z := (List.cons.inj hcur).1
      have := okSitesAux_sub _ _ t ht
      simp only [List.mem_append, List.mem_singleton] at this
      rcases this with h | h <;> simp [h]
  · obtain ⟨t, hp, ht⟩ := h2 x hx
    refine ⟨t, hp, ?_⟩
    rcases ht with h | h
    · exact Or.inl (by simp [h])
    · have hne' : a' ≠ [] := by rintro rfl; simp [lastNL] at h
      exact Or.inr ⟨h.1, by rw [lastNL_append, lastNL_seed (q := true) hne']; exact h.2⟩

/-- From `st` the journal loop comes to `t`, having pushed `items`, on every sufficient fuel. -/
def Runs (st : PState (List Token)) (items : List Item) (t : PState (List Token)) : Prop :=
  ∀ n m, measure (listEnv num cls) st ≤ n → measure (listEnv num cls) t ≤ m →
    parseJournalF (listEnv num cls) n st =
      (pushAll items (parseJournalF (listEnv num cls) m t).1, (parseJournalF (listEnv num cls) m t).2)

theorem Runs.refl (t : PState (List Token)) : Runs num cls t [] t := fun n m hn hm => by
  rw [parseJournalF_fuel _ (listEnv_decr num cls) n m t hn hm]; rfl

theorem Runs.step {st t : PState (List Token)} {items} (hne : st.current.ty ≠ .eof)
    (h : Runs num cls (journalStep (listEnv num cls) st).2 items t) :
    Runs num cls st ((journalStep (listEnv num cls) st).1 :: items) t := by
  intro n m hn hm
  have := measure_pos (listEnv num cls) hne
  have := journalStep_lt (listEnv num cls) (listEnv_decr num cls) st hne
  obtain ⟨n1, rfl⟩ : ∃ n1, n = n1 + 1 := ⟨n - 1, by omega⟩
  rw [parseJournalF_step _ hne, h n1 m (by omega) hm]
  rfl

theorem Runs.parseJournal {st t : PState (List Token)} {items} (h : Runs num cls st items t) :
    parseJournal (listEnv num cls) st =
      (pushAll items (parseJournal (listEnv num cls) t).1, (parseJournal (listEnv num cls) t).2) :=
  h _ _ (measure_le_fuelOf _ st) (measure_le_fuelOf _ t)

theorem sync (y0 : Token) (Y' : List Token) (nl : Token) (h1 : nl.ty = .newline)
    (hy : y0.ty ≠ .indent) (hy' : y0.ty ≠ .newline) (hE : ∃ t ∈ y0 :: Y', t.ty = .eof)
    (X : List Token) (st : PState (List Token)) (hX : ∀ t ∈ X, t.ty ≠ .eof)
    (hs : strm st = X ++ nl :: y0 :: Y') :
    ∃ items new dy, ErrZone X nl new ∧ ((∀ t ∈ X, t.ty ≠ .directive) → dy = st.defaultYear) ∧
      Runs num cls st items ⟨Y', y0, st.errors ++ new, dy⟩ := by
  obtain ⟨e, hm, he⟩ := hE
  obtain ⟨Y1, Q, hY⟩ := List.append_of_mem hm
  generalize hk : X.length = k
  induction k using Nat.strongRecOn generalizing X st with
  | ind k ih =>
  cases X with
  | nil =>
    -- the Newline in front of `y0`: one iteration
    obtain ⟨hc1, hsrc⟩ := List.cons.inj hs
    have hne : st.current.ty ≠ .eof := by rw [hc1, h1]; decide
    have := Runs.step num cls hne (Runs.refl num cls _)
    rw [journalStep_newline _ st (hc1 ▸ h1)] at this
    refine ⟨[.nothing], [], st.defaultYear, by simp [ErrZone], fun _ => rfl, ?_⟩
    simpa [advance, listEnv, listSrc, show st.src = y0 :: Y' from hsrc] using this
  | cons x X' =>
    obtain ⟨hc1, _⟩ := List.cons.inj hs
    have hne : st.current.ty ≠ .eof := hc1 ▸ hX x (by simp)
    have hs' : strm st = (x :: X' ++ nl :: Y1) ++ e :: Q := by rw [hs, hY]; simp
    obtain ⟨C, P', new1, hCne, hP', hstrm1, hnc, herr1, hpos1⟩ :=
      step_stream num cls st _ e Q hs' he hne
    have hdy1 : (∀ t ∈ x :: X', t.ty ≠ .directive) →
        (journalStep (listEnv num cls) st).2.defaultYear = st.defaultYear :=
      fun hnd => journalStep_dy _ _ (hc1 ▸ hnd x (by simp))
    have hstep := fun items t => Runs.step num cls (items := items) (t := t) hne
    generalize (journalStep (listEnv num cls) st).2 = st1 at *
    generalize (journalStep (listEnv num cls) st).1 = item at *
    -- the iteration stopped inside `X` or at its end: go on from there
    have hcont : ∀ a', x :: X' = C ++ a' → strm st1 = a' ++ nl :: y0 :: Y' →
        ∃ items new dy, ErrZone (x :: X') nl new ∧
          ((∀ t ∈ x :: X', t.ty ≠ .directive) → dy = st.defaultYear) ∧
          Runs num cls st items ⟨Y', y0, st.errors ++ new, dy⟩ := by
      intro a' hXa hs1
      have hlen : a'.length < k := by
        have := congrArg List.length hXa
        have := List.length_pos_iff.2 hCne
        simp at *; omega
      obtain ⟨items, new2, dy, z2, hdy2, hrun⟩ :=
        ih _ hlen a' st1 (fun t ht => hX t (by rw [hXa]; simp [ht])) hs1 rfl
      rw [herr1, List.append_assoc] at hrun
      exact ⟨item :: items, new1 ++ new2, dy, hXa ▸ ErrZone.step hCne hs1 hpos1 z2,
        fun hnd => (hdy2 fun t ht => hnd t (by rw [hXa]; simp [ht])).trans (hdy1 hnd), hstep _ _ hrun⟩
    rcases List.append_eq_append_iff.1 hP' with ⟨c', hCX, hrest⟩ | ⟨a', hXa, hrest⟩
    · match c', hrest with
      | [], hrest =>
        exact hcont [] (by simpa using hCX.symm)
          (by rw [hstrm1, show P' = nl :: Y1 by simpa using hrest.symm, hY]; simp)
      | [t1], hrest =>
        -- consumed `X ++ [nl]`: the loop is at its head in front of `y0`
        obtain ⟨rfl, rfl⟩ : nl = t1 ∧ Y1 = P' := by simpa using hrest
        have hs1 : strm st1 = y0 :: Y' := by rw [hstrm1, hY]
        refine ⟨[item], new1, st1.defaultYear, ?_, hdy1, ?_⟩
        · intro z hz
          obtain ⟨t, htm, hp⟩ := hpos1 z hz
          rw [hCX, (List.cons.inj hs1).1] at htm
          exact ⟨t, hp, okSites_after_nl h1 (by simp) htm⟩
        · have := hstep _ _ (Runs.refl num cls st1)
          rwa [strm_eq_cons hs1, herr1] at this
      | t1 :: t2 :: r, hrest =>
        -- impossible: after a Newline the iteration continues only with a Newline or an Indent
        exfalso
        obtain ⟨rfl, hY1⟩ : nl = t1 ∧ Y1 = t2 :: (r ++ P') := by simpa using hrest
        obtain rfl : y0 = t2 := by rw [hY1] at hY; exact (List.cons.inj hY).1
        rw [hCX, nc_cross 0 (x :: X') r nl y0 h1 hy hy'] at hnc
        simp at hnc
    · exact hcont a' hXa (by rw [hstrm1, hrest, hY]; simp)

end HL.Parser
