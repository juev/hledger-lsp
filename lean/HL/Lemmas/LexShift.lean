import HL.Lemmas.Lexer
/-!
  Shift invariance of the lexer (half of line-locality): the lexer looks at consumed input only
  through `followsAmountNumber`, which walks back over blanks and stops at the first other
  byte.  Lexing the rest of a document after a line feed therefore equals lexing that rest as
  a document of its own, with line numbers and offsets shifted.
-/
namespace HL.Lex
open HL HL.Utf8

/-- the same state with `pre` (reversed) underneath the consumed input and `k` more lines -/
def Z.shift (k : Nat) (pre : Bytes) (z : Z) : Z :=
  { z with before := z.before ++ pre, line := z.line + k }

def shiftR (k : Nat) (pre : Bytes) (r : Token × Z) : Token × Z :=
  (shiftTok k pre.length r.1, r.2.shift k pre)

variable (k : Nat) (pre : Bytes)

@[simp] theorem shift_after (z : Z) : (z.shift k pre).after = z.after := rfl
@[simp] theorem shift_col (z : Z) : (z.shift k pre).col = z.col := rfl
@[simp] theorem shift_atStart (z : Z) : (z.shift k pre).atStart = z.atStart := rfl
@[simp] theorem shift_before (z : Z) : (z.shift k pre).before = z.before ++ pre := rfl
@[simp] theorem shift_line (z : Z) : (z.shift k pre).line = z.line + k := rfl
@[simp] theorem peek_shift (z : Z) : peek (z.shift k pre) = peek z := rfl
@[simp] theorem peekRune_shift (z : Z) : peekRune (z.shift k pre) = peekRune z := rfl

@[simp] theorem bump_shift (z : Z) (w : Nat) : (z.shift k pre).bump w = (z.bump w).shift k pre := by
  simp [Z.bump, Z.shift]

@[simp] theorem advance_shift (z : Z) : advance (z.shift k pre) = (advance z).shift k pre := by
  unfold advance
  simp only [shift_after]
  split
  · rfl
  · simp

@[simp] theorem position_shift (z : Z) :
    (z.shift k pre).position = shiftPos k pre.length z.position := by
  simp [Z.position, Z.shift, shiftPos]

@[simp] theorem between_shift (s e : Z) : between (s.shift k pre) (e.shift k pre) = between s e := by
  simp only [between, shift_before, List.length_append]
  rw [Nat.add_sub_add_right, List.take_append_of_le_length (by omega)]

@[simp] theorem mkTok_shift (ty : TokType) (v : Bytes) (s e : Z) :
    mkTok ty v (s.shift k pre) (e.shift k pre) = shiftR k pre (mkTok ty v s e) := by
  simp [mkTok, shiftR, shiftTok]

@[simp] theorem mkTokAt_shift (ty : TokType) (v : Bytes) (s e : Z) (stop : Pos) :
    mkTokAt ty v (s.shift k pre) (shiftPos k pre.length stop) (e.shift k pre) =
      shiftR k pre (mkTokAt ty v s stop e) := by
  simp [mkTokAt, shiftR, shiftTok]

@[simp] theorem textStop_shift (z e : Z) :
    textStop (z.shift k pre) (e.shift k pre) = shiftPos k pre.length (textStop z e) := by
  simp only [textStop, between_shift]
  split
  · exact position_shift k pre e
  · simp only [shiftPos, shift_line, shift_col, shift_before, List.length_append, Pos.mk.injEq, true_and]
    omega

theorem advF_shift (q : Bytes → Bool) (n : Nat) (z : Z) :
    advF q n (z.shift k pre) = (advF q n z).shift k pre := by
  refine loopF_map (Z.shift k pre) (fun s => ?_) n z
  unfold advStep
  rw [shift_after]
  cases s.after with
  | nil => rfl
  | cons b t => dsimp only; split <;> simp only [advance_shift, Option.map_some, Option.map_none]

@[simp] theorem advWhile_shift (p : UInt8 → Bool) (z : Z) :
    advWhile p (z.shift k pre) = (advWhile p z).shift k pre := by
  rw [advWhile_eq, advWhile_eq]; exact advF_shift k pre _ _ z

@[simp] theorem advLine_shift (p : UInt8 → Bool) (z : Z) :
    advLine p (z.shift k pre) = (advLine p z).shift k pre := by
  rw [advLine_eq, advLine_eq]; exact advF_shift k pre _ _ z

@[simp] theorem skipSpaces_shift (z : Z) : skipSpaces (z.shift k pre) = (skipSpaces z).shift k pre :=
  advWhile_shift k pre isBlank z

@[simp] theorem advIf_shift (p : UInt8 → Bool) (z : Z) :
    advIf p (z.shift k pre) = (advIf p z).shift k pre := by
  rw [advIf_eq, advIf_eq]; exact advF_shift k pre _ 1 z

theorem scanAccountF_shift (n : Nat) (z l : Z) :
    scanAccountF n (z.shift k pre) (l.shift k pre) =
      ((scanAccountF n z l).1.shift k pre, (scanAccountF n z l).2.shift k pre) := by
  rw [scanAccountF_eq, scanAccountF_eq]
  refine loopF_map (fun s : Z × Z => (s.1.shift k pre, s.2.shift k pre)) (fun s => ?_) n (z, l)
  unfold acctStep
  dsimp only [shift_after]
  cases acctAct s.1.after with
  | none => rfl
  | some blank => cases blank <;> simp only [advance_shift, Option.map_some] <;> rfl

@[simp] theorem scanNumberF_shift (n : Nat) (z : Z) (hd : Bool) :
    scanNumberF n (z.shift k pre) hd = (scanNumberF n z hd).shift k pre := by
  rw [scanNumberF_eq, scanNumberF_eq]
  refine congrArg Prod.fst (loopF_map (fun s : Z × Bool => (s.1.shift k pre, s.2)) (fun s => ?_) n (z, hd))
  unfold numStep
  dsimp only [shift_after]
  cases numAct s.1.after s.2 with
  | none => rfl
  | some v =>
    obtain ⟨sign, hd'⟩ := v
    cases sign <;> simp only [advance_shift, advIf_shift, Option.map_some] <;> rfl

/-- Look-behind: walking back over blanks from a position at or behind a line feed never
    reaches a digit of an earlier line. -/
theorem followsAmountNumber_shift (pre' : Bytes) (z : Z) :
    followsAmountNumber (z.shift k (0x0A :: pre')) = followsAmountNumber z := by
  unfold followsAmountNumber
  simp only [shift_before]
  generalize z.before = l
  induction l with
  | nil => simp [List.dropWhile, isDigit]
  | cons c t ih =>
    simp only [List.cons_append, List.dropWhile_cons]
    by_cases hc : (c == 32) = true
    · simpa [hc] using ih
    · simp [hc]

@[simp] theorem scanText_shift (z : Z) : scanText (z.shift k pre) = shiftR k pre (scanText z) := by
  simp [scanText]

@[simp] theorem scanNewline_shift (z : Z) : scanNewline (z.shift k pre) = shiftR k pre (scanNewline z) := by
  simp only [scanNewline, advIf_shift, advance_shift]
  generalize advance (advIf (· == 0x0D) z) = z1
  have : ({ z1.shift k pre with line := (z1.shift k pre).line + 1, col := 1, atStart := true } : Z)
      = ({ z1 with line := z1.line + 1, col := 1, atStart := true } : Z).shift k pre := by
    simp [Z.shift]; omega
  rw [this, mkTok_shift]

@[simp] theorem scanAt_shift (z : Z) : scanAt (z.shift k pre) = shiftR k pre (scanAt z) := by
  simp only [scanAt, advance_shift, shift_after]
  split <;> simp

@[simp] theorem scanEquals_shift (z : Z) : scanEquals (z.shift k pre) = shiftR k pre (scanEquals z) := by
  simp only [scanEquals, advance_shift, shift_after]
  split <;> simp

@[simp] theorem scanAccount_shift (z : Z) : scanAccount (z.shift k pre) = shiftR k pre (scanAccount z) := by
  simp only [scanAccount, shift_after, scanAccountF_shift, between_shift, position_shift, mkTokAt_shift]

@[simp] theorem scanDirectiveOrAccount_shift (z : Z) :
    scanDirectiveOrAccount (z.shift k pre) = shiftR k pre (scanDirectiveOrAccount z) := by
  simp only [scanDirectiveOrAccount, advWhile_shift, between_shift, shift_after, scanAccount_shift,
    scanText_shift, mkTok_shift, apply_ite (shiftR k pre)]

theorem scanCommodityOrText_shift (C : Classes) (pre' : Bytes) (z : Z) :
    scanCommodityOrText C (z.shift k (0x0A :: pre')) = shiftR k (0x0A :: pre') (scanCommodityOrText C z) := by
  simp only [scanCommodityOrText, advWhile_shift, between_shift, shift_after, followsAmountNumber_shift,
    shift_before, List.length_append, Nat.add_lt_add_iff_right, scanText_shift, mkTok_shift,
    apply_ite (shiftR k (0x0A :: pre'))]

theorem scanInLine_shift (C : Classes) (pre' : Bytes) (z : Z) :
    scanInLine C (z.shift k (0x0A :: pre')) = shiftR k (0x0A :: pre') (scanInLine C z) := by
  simp only [scanInLine, scanInLineAt, skipSpaces_shift, shift_after, peekRune_shift]
  cases (skipSpaces z).after with
  | nil => simp
  | cons ch t =>
    simp only [scanNewline_shift, scanComment, punct, scanCode, scanAt_shift, scanEquals_shift, scanStatus,
      scanCurrencySymbol, scanQuotedCommodity, scanSign, scanText_shift, scanDate, scanNumber, scanAccount_shift,
      scanCommodityOrText_shift, advance_shift, advLine_shift, advWhile_shift, advIf_shift, scanNumberF_shift,
      bump_shift, between_shift, peek_shift, shift_after, mkTok_shift, apply_ite (shiftR k (0x0A :: pre'))]

theorem scanLineStart_shift (C : Classes) (pre' : Bytes) (z : Z) :
    scanLineStart C (z.shift k (0x0A :: pre')) = shiftR k (0x0A :: pre') (scanLineStart C z) := by
  have : ({ z.shift k (0x0A :: pre') with atStart := false } : Z)
      = ({ z with atStart := false } : Z).shift k (0x0A :: pre') := rfl
  simp only [scanLineStart, this]
  generalize ({ z with atStart := false } : Z) = z1
  simp only [scanLineStartAt, peek_shift, shift_after, scanComment, scanIndent, scanDate, advance_shift,
    advLine_shift, advWhile_shift, between_shift, mkTok_shift, scanDirectiveOrAccount_shift, scanInLine_shift,
    apply_ite (shiftR k (0x0A :: pre'))]

/-- `Next` on the rest of a document behind a line feed = `Next` on that rest alone, shifted. -/
theorem next_shift (C : Classes) (pre' : Bytes) (z : Z) :
    next C (z.shift k (0x0A :: pre')) = shiftR k (0x0A :: pre') (next C z) := by
  simp only [next, shift_after, shift_atStart, shift_col]
  cases z.after with
  | nil => simp
  | cons b t =>
    simp only [scanLineStart_shift, scanInLine_shift, apply_ite (shiftR k (0x0A :: pre'))]

theorem lexF_shift (C : Classes) (pre' : Bytes) (n : Nat) (z : Z) :
    lexF C n (z.shift k (0x0A :: pre')) = (lexF C n z).map (shiftTok k (pre'.length + 1)) := by
  induction n generalizing z with
  | zero => rfl
  | succ n ih =>
    unfold lexF
    simp only [next_shift]
    have hty : (shiftR k (0x0A :: pre') (next C z)).1.ty = (next C z).1.ty := rfl
    rw [hty]
    split
    · simp [shiftR]
    · simp only [List.map_cons]
      congr 1
      exact ih _

end HL.Lex
