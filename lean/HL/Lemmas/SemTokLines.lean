/-
  Helper lemmas for C17, lines: the line of the text on which an offset lies (`splitOn_line`),
  the cursor's column never exceeds the UTF-16 length of that line as the client counts it
  (`colAt_le_lineLen`), and from the lexer's contract every piece of text that becomes a token
  ends inside its line unless it is a comment that swallows the CR of a CRLF line end
  (`inlineB_of_contract`).
-/
import HL.Lemmas.SemTokPlace
namespace HL.Lemmas.SemTok
open HL HL.SemTok HL.SemTokSpec

theorem lastPiece_append_noLf (x z : Bytes) (hz : lfB ∉ z) : lastPiece (x ++ z) = lastPiece x ++ z := by
  simp only [lastPiece, splitOn_append, splitOn_noSep lfB z hz, List.head?_cons, List.tail_cons,
    List.getLast?_concat, Option.getD_some]

/-- The line of `x ++ y` on which `x` ends: what follows the last line feed of `x`, continued
    up to the first line feed of `y`. -/
theorem splitOn_line (x y : Bytes) :
    (splitOn lfB (x ++ y))[(splitOn lfB x).length - 1]? = some (lastPiece x ++ y.takeWhile (· != lfB)) := by
  rw [splitOn_append, List.getElem?_append_right (by rw [List.length_dropLast]; exact Nat.le_refl _),
    List.length_dropLast, Nat.sub_self, List.getElem?_cons_zero, List.head?_eq_getElem?, splitOn_head]
  rfl

/-- The byte before offset `E` exists and is neither a CR nor a line feed. -/
def EndsOk (text : Bytes) (E : Nat) : Prop :=
  ∃ x, 1 ≤ E ∧ text[E - 1]? = some x ∧ x ≠ cr ∧ x ≠ lfB

theorem stripCR_append (P F : Bytes) (hP : P.getLast? ≠ some cr) :
    stripCR (P ++ F) = P ++ stripCR F := by
  by_cases hF : F = []
  · rw [hF, List.append_nil, stripCR, if_neg hP]; exact (List.append_nil P).symm
  · simp only [stripCR, getLast?_append_of_ne_nil P hF]
    split
    · rw [List.dropLast_append_of_ne_nil hF]
    · rfl

/-- A line without the CR of its line end stops in front of a CR or a line feed, or at the end
    of the text. -/
theorem stripCR_takeWhile_stop (l : Bytes) :
    stripCR (l.takeWhile (· != lfB)) = l.take (stripCR (l.takeWhile (· != lfB))).length ∧
    lfB ∉ stripCR (l.takeWhile (· != lfB)) ∧
    (l[(stripCR (l.takeWhile (· != lfB))).length]? = none ∨
      ∃ x, l[(stripCR (l.takeWhile (· != lfB))).length]? = some x ∧ x.toNat < 128) := by
  have hsplit := List.takeWhile_append_dropWhile (p := (· != lfB)) (l := l)
  have hnoLf : lfB ∉ l.takeWhile (· != lfB) := fun h => by
    have := List.all_eq_true.mp (List.all_takeWhile (p := (· != lfB)) (l := l)) lfB h
    simp at this
  generalize l.takeWhile (· != lfB) = F at hsplit hnoLf
  rw [stripCR]
  split
  · -- a CR in front of the line feed
    rename_i hcr
    have hne : F ≠ [] := fun e => by rw [e] at hcr; cases hcr
    have hlen : F.dropLast.length < F.length := by
      rw [List.length_dropLast]; exact Nat.sub_lt (List.length_pos_iff.mpr hne) Nat.one_pos
    refine ⟨?_, fun h => hnoLf ((List.dropLast_prefix F).subset h), Or.inr ⟨cr, ?_, by decide⟩⟩
    · exact List.prefix_iff_eq_take.mp ((List.dropLast_prefix F).trans ⟨_, hsplit⟩)
    · rw [← hsplit, List.getElem?_append_left hlen, List.length_dropLast, ← List.getLast?_eq_getElem?, hcr]
  · refine ⟨List.prefix_iff_eq_take.mp ⟨_, hsplit⟩, hnoLf, ?_⟩
    rw [← hsplit, List.getElem?_append_right (Nat.le_refl _), Nat.sub_self]
    cases hd : l.dropWhile (· != lfB) with
    | nil => exact Or.inl rfl
    | cons y ys =>
      have := List.head_dropWhile_not (· != lfB) (l := l) (by rw [hd]; exact List.cons_ne_nil _ _)
      simp only [hd, List.head_cons, bne_eq_false_iff_eq] at this
      exact Or.inr ⟨y, rfl, by rw [this]; decide⟩

/-- **Inside the line.**  At an offset `E` that follows a byte which is neither CR nor LF, the
    cursor's column is at most the UTF-16 length of the line (without its CRLF / LF line end)
    as the client counts it. -/
theorem colAt_le_lineLen (text : Bytes) (E : Nat) (hend : EndsOk text E) :
    ∃ n, (lineLens16 text)[(posOfOffset text E).1]? = some n ∧ colAt text E ≤ n := by
  obtain ⟨x, hE1, hx, hxcr, hxlf⟩ := hend
  have hEle : E ≤ text.length := by have := (List.getElem?_eq_some_iff.mp hx).1; omega
  -- the line on which `E` lies
  have hline := splitOn_line (text.take E) (text.drop E)
  rw [List.take_append_drop] at hline
  refine ⟨_, by simp only [lineLens16, lineRunes, lineBytes, List.getElem?_map, posOfOffset]; rw [show lf = lfB from rfl, hline]; rfl, ?_⟩
  -- it does not end with a CR in front of `E`
  have hP : (lastPiece (text.take E)).getLast? ≠ some cr := by
    have htk : text.take E = text.take (E - 1) ++ [x] := by
      rw [take_eq_take_append_slice text (E - 1) E (by omega), sliceB, show E - (E - 1) = 1 by omega,
        List.take_one, List.head?_drop, hx]; rfl
    rw [htk, lastPiece_append_noLf _ _ (by simpa using fun e => hxlf e.symm),
      getLast?_append_of_ne_nil _ (List.cons_ne_nil _ _)]
    exact fun e => hxcr (Option.some.inj e)
  show colAt text E ≤ u16lenB (stripCR _)
  rw [stripCR_append _ _ hP]
  -- where the stripped line ends
  obtain ⟨hpre, hnoLf, hstop⟩ := stripCR_takeWhile_stop (text.drop E)
  generalize stripCR ((text.drop E).takeWhile (· != lfB)) = F' at hpre hnoLf hstop
  have hcut : Cut text (E + F'.length) := by
    rw [List.getElem?_drop] at hstop
    rcases hstop with h | ⟨y, hy, ha⟩
    · have hlen := congrArg List.length hpre
      rw [List.length_take, List.length_drop] at hlen
      rw [show E + F'.length = text.length by have := List.getElem?_eq_none_iff.mp h; omega]
      exact cut_length _
    · exact (cut_ascii text _ y hy ha).1
  have hsl : sliceB text E (E + F'.length) = F' := by rw [sliceB, Nat.add_sub_cancel_left, ← hpre]
  calc colAt text E
      ≤ colAt text (E + F'.length) :=
        colAt_mono text E _ (Nat.le_add_right _ _) (noLfP_of_slice _ _ _ (hsl.symm ▸ hnoLf))
    _ = u16lenB (lastPiece (text.take E) ++ F') := by
        rw [colAt_lastPiece hcut, take_eq_take_append_slice text E _ (Nat.le_add_right _ _), hsl,
          lastPiece_append_noLf _ _ hnoLf]

theorem Piece.endsOk {text body : Bytes} {a : Nat} (h : Piece text a body) (hne : body ≠ [])
    (hlast : ∀ x, body.getLast? = some x → x ≠ cr) (hnolf : NoLfP text a (a + body.length)) :
    EndsOk text (a + body.length) := by
  have hpos : 0 < body.length := List.length_pos_iff.mpr hne
  cases hx : body.getLast? with
  | none => exact absurd (List.getLast?_eq_none_iff.mp hx) hne
  | some x =>
    have he : a + body.length - 1 = a + (body.length - 1) := Nat.add_sub_assoc hpos a
    have hget : text[a + body.length - 1]? = some x := by
      have := congrArg (·[body.length - 1]?) h.eq
      simp only [List.getElem?_take_of_lt (Nat.sub_lt hpos Nat.one_pos), List.getElem?_drop,
        ← List.getLast?_eq_getElem?, hx] at this
      rw [he, this]
    have hE : 0 < a + body.length := Nat.lt_of_lt_of_le hpos (Nat.le_add_left _ _)
    exact ⟨x, hE, hget, hlast x hx, fun e =>
      hnolf _ (he ▸ Nat.le_add_right _ _) (Nat.sub_lt hE Nat.one_pos) (e ▸ hget)⟩

theorem inlineB_of_contract (cls : Classes) (text : Bytes) (toks : List Token)
    (hx : (mappedBody toks).all (extentOk text) = true) (hc : cutsB text toks = true)
    (hl : (mappedBody toks).all (fun t => lineOk text t && !devCrComment t) = true) :
    inlineB (lineLens16 text) cls text toks = true := by
  simp only [inlineB, List.all_eq_true]
  intro t ht sp hsp
  have he := extentP_of text t ((List.all_eq_true.mp hx) t ht)
  have hct := (List.all_eq_true.mp hc) t ht
  have hlt := (List.all_eq_true.mp hl) t ht
  simp only [cutOk, Bool.and_eq_true, Bool.not_eq_true'] at hct hlt
  obtain ⟨body, h, hne, hlast⟩ := emitted_piece cls text t he (cut_of_isCut hct.1) (cut_of_isCut hct.2) sp hsp
  have hin := emitted_inside cls text t he sp hsp
  have hend := h.piece.endsOk hne (hlast hlt.2) (h.len ▸ noLfP_sub he.oneLine hin.1 hin.2)
  rw [← h.len] at hend
  obtain ⟨n, hn, hle⟩ := colAt_le_lineLen text _ hend
  rw [posOfOffset_in_extent he hlt.1 h.hi (by omega) hin.2] at hn
  rw [hn]
  simpa using hle

end HL.Lemmas.SemTok
