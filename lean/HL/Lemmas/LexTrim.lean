import HL.Lemmas.LexMisc
/-!
  White space behind a text token: `strings.TrimRightFunc(s, unicode.IsSpace)` as transcribed in
  HL/Model/Lexer.lean (`trimRightFunc`: backwards, with `utf8.DecodeLastRuneInString`) cuts off
  a run of white-space runes as `utf8.DecodeRuneInString` reads them from left to right
  (`wsOnly`, the oracle of HL/Spec/LexSpec.lean) — for every byte string, valid UTF-8 or not.
-/
namespace HL.Lex
open HL HL.Utf8 HL.Spec.LexSpec

theorem isSpaceRune_ne_err {r : Nat} (h : isSpaceRune r = true) : r ≠ runeError := by
  intro e; subst e; revert h; decide

theorem wsOnlyF_fuel (n m : Nat) (s : Bytes) (hn : s.length ≤ n) (hm : s.length ≤ m) :
    wsOnlyF n s = wsOnlyF m s := by
  refine fuel_indep wsOnlyF (fun n m => by cases n <;> cases m <;> rfl) (fun n m b t ih => ?_) n m s hn hm
  simp only [wsOnlyF, ih _ (drop_width_le b t)]

theorem wsOnly_nil : wsOnly [] = true := by simp [wsOnly, wsOnlyF]

theorem wsOnly_cons (b : UInt8) (t : Bytes) :
    wsOnly (b :: t) = (isSpaceRune (decodeRune (b :: t)).1 && wsOnly ((b :: t).drop (decodeRune (b :: t)).2)) := by
  have hw := decodeRune_width_pos b t
  simp only [wsOnly, List.length_cons, wsOnlyF]
  rw [wsOnlyF_fuel t.length ((b :: t).drop (decodeRune (b :: t)).2).length _
    (by simp only [List.length_drop, List.length_cons]; omega) (Nat.le_refl _)]

theorem wsOnly_single (w : Bytes) (hw : w ≠ []) (h : (decodeRune w).2 = w.length)
    (hs : isSpaceRune (decodeRune w).1 = true) : wsOnly w = true := by
  cases w with
  | nil => exact absurd rfl hw
  | cons b t =>
    rw [wsOnly_cons, hs, h]
    simp [wsOnly_nil]

theorem wsOnly_append (a b : Bytes) (ha : wsOnly a = true) (hb : wsOnly b = true) :
    wsOnly (a ++ b) = true := by
  induction hn : a.length using Nat.strongRecOn generalizing a with
  | _ n ih =>
    cases a with
    | nil => simpa using hb
    | cons c t =>
      rw [wsOnly_cons] at ha
      simp only [Bool.and_eq_true] at ha
      -- a white-space rune is not U+FFFD, so it was read from exactly its own bytes
      have hext := decodeRune_append_of_ne_bad (c :: t) b (fun e => isSpaceRune_ne_err ha.1 (by rw [e])) (by simp)
      have hw := decodeRune_width_pos c t
      have hle := decodeRune_width_le_length c t
      rw [List.cons_append, wsOnly_cons, ← List.cons_append, hext, ha.1, Bool.true_and,
        List.drop_append_of_le_length hle]
      exact ih _ (by simp only [← hn, List.length_drop, List.length_cons]; omega) _ ha.2 rfl

theorem wsOnly_blanks (sp : Bytes) (h : ∀ c ∈ sp, isBlank c = true) : wsOnly sp = true := by
  induction sp with
  | nil => exact wsOnly_nil
  | cons c t ih =>
    have hc : c < 0x80 ∧ isSpaceRune c.toNat = true := by
      have := h c (by simp)
      simp only [isBlank, Bool.or_eq_true, beq_iff_eq] at this
      rcases this with rfl | rfl <;> decide
    rw [wsOnly_cons, decodeRune_of_lt hc.1 t]
    simp only [hc.2, Bool.true_and, List.drop_succ_cons, List.drop_zero]
    exact ih (fun c hc => h c (List.mem_cons_of_mem _ hc))

theorem wsOnly_head (d : UInt8) (t : Bytes) (h : wsOnly (d :: t) = true) : isCont d = false := by
  rw [wsOnly_cons] at h
  simp only [Bool.and_eq_true] at h
  cases hc : isCont d with
  | false => rfl
  | true => exact absurd (congrArg Prod.fst (decodeRune_cont d t hc)) (isSpaceRune_ne_err h.1)

/-- What `lastIndexFunc(s, unicode.IsSpace, false)` finds, `rs` being the string reversed:
    nothing — the whole string is a run of white space; or the offset `i` of the last rune `w`
    that is not white space, behind which a run of white space follows. -/
theorem lastIndexNotSpaceF_spec (n : Nat) (rs : Bytes) (hn : rs.length ≤ n) :
    (lastIndexNotSpaceF n rs = none → wsOnly rs.reverse = true) ∧
    (∀ i, lastIndexNotSpaceF n rs = some i → ∃ hd w tl, rs.reverse = hd ++ w ++ tl ∧ hd.length = i ∧
        w ≠ [] ∧ (decodeRune w).2 = w.length ∧ isSpaceRune (decodeRune w).1 = false ∧ wsOnly tl = true) := by
  induction n generalizing rs with
  | zero =>
    have h0 : rs = [] := List.eq_nil_of_length_eq_zero (by omega)
    subst h0
    simp [lastIndexNotSpaceF, wsOnly_nil]
  | succ n ih =>
    cases rs with
    | nil => simp [lastIndexNotSpaceF, wsOnly_nil]
    | cons b t =>
      obtain ⟨hpos, hle, hfwd⟩ := decodeLastRuneRev_spec b t
      generalize hsz : (decodeLastRuneRev (b :: t)).2 = size at *
      generalize hr : (decodeLastRuneRev (b :: t)).1 = r at *
      have hdl : decodeLastRuneRev (b :: t) = (r, size) := by rw [← hr, ← hsz]
      have hw : (decodeRune ((b :: t).take size).reverse) = (r, size) := by rw [hfwd, hdl]
      have hwl : ((b :: t).take size).reverse.length = size := by
        rw [List.length_reverse, List.length_take]; omega
      have hwne : ((b :: t).take size).reverse ≠ [] := by
        intro e; rw [e] at hwl; simp at hwl; omega
      have hsplit : (b :: t).reverse = ((b :: t).drop size).reverse ++ ((b :: t).take size).reverse := by
        rw [← List.reverse_append, List.take_append_drop]
      have hrest : ((b :: t).drop size).length ≤ n := by
        simp only [List.length_drop, List.length_cons] at hn ⊢; omega
      simp only [lastIndexNotSpaceF, hdl]
      by_cases hsp : isSpaceRune r = true
      · simp only [hsp, Bool.not_true, Bool.false_eq_true, if_false]
        obtain ⟨ih1, ih2⟩ := ih ((b :: t).drop size) hrest
        have hws : wsOnly ((b :: t).take size).reverse = true :=
          wsOnly_single _ hwne (by rw [hw, hwl]) (by rw [hw]; exact hsp)
        constructor
        · intro hnone
          rw [hsplit]
          exact wsOnly_append _ _ (ih1 hnone) hws
        · intro i hsome
          obtain ⟨hd, w, tl, e1, e2, e3, e4, e5, e6⟩ := ih2 i hsome
          refine ⟨hd, w, tl ++ ((b :: t).take size).reverse, ?_, e2, e3, e4, e5, wsOnly_append _ _ e6 hws⟩
          rw [hsplit, e1]; simp
      · have hsp' : isSpaceRune r = false := by simpa using hsp
        simp only [hsp', Bool.not_false, if_true]
        constructor
        · intro h; simp at h
        · intro i hi
          simp only [Option.some.injEq] at hi
          refine ⟨((b :: t).drop size).reverse, ((b :: t).take size).reverse, [], by rw [hsplit]; simp,
            by rw [List.length_reverse]; exact hi, hwne, by rw [hw, hwl], by rw [hw]; exact hsp', wsOnly_nil⟩

/-- the last step of `TrimRightFunc`: from the offset `i = |hd|` of the last rune `w` that is not
    white space to the end of that rune, whatever white space follows -/
theorem trimRight_take (s hd w tl : Bytes) (e1 : s = hd ++ w ++ tl) (e3 : w ≠ [])
    (e4 : (decodeRune w).2 = w.length) (e6 : wsOnly tl = true) :
    (if s.getD hd.length 0 ≥ 0x80 then s.take (hd.length + (decodeRune (s.drop hd.length)).2)
      else s.take (hd.length + 1)) = hd ++ w := by
  cases w with
  | nil => exact absurd rfl e3
  | cons c w' =>
    have hget : s.getD hd.length 0 = c := by
      rw [e1]
      simp [List.getD]
    have hdrop : s.drop hd.length = (c :: w') ++ tl := by
      rw [e1, List.append_assoc, List.drop_left]
    have hkeep : ∀ k, k = (c :: w').length → s.take (hd.length + k) = hd ++ (c :: w') := by
      intro k hk
      rw [e1, hk, List.append_assoc, List.take_append, List.take_of_length_le (by omega)]
      simp
    simp only [hget]
    by_cases hc : c ≥ 0x80
    · simp only [hc, if_true, hdrop]
      have hnl : ¬ c < 0x80 := by simpa [UInt8.not_lt] using hc
      have hwid : (decodeRune ((c :: w') ++ tl)).2 = (c :: w').length := by
        cases w' with
        | nil =>
          -- `c` alone is U+FFFD of width 1, and the white space behind it cannot continue a sequence
          cases tl with
          | nil => rw [List.append_nil, decodeRune_single_high c hnl]; rfl
          | cons d t =>
            rw [decodeRune_append_stop [c] (by simp) (wsOnly_head d t e6) t, decodeRune_single_high c hnl]; rfl
        | cons _ _ =>
          rw [decodeRune_append_of_ne_bad _ _ (fun e => by rw [e] at e4; simp at e4) (by simp), e4]
      exact hkeep _ hwid
    · simp only [hc, if_false]
      have hlt : c < 0x80 := by simpa [UInt8.not_le] using hc
      have hw0 : w' = [] := by
        rw [decodeRune_of_lt hlt w'] at e4
        cases w' with
        | nil => rfl
        | cons _ _ => simp at e4
      subst hw0
      exact hkeep 1 rfl

/-- **`TrimRightFunc` cuts off white space.**  The string is what `trimRightFunc` keeps followed
    by a run of white-space runes; what it keeps is empty or ends with a rune — read from
    exactly its own bytes — that is not white space. -/
theorem trimRightFunc_spec (s : Bytes) :
    ∃ tl, s = trimRightFunc s ++ tl ∧ wsOnly tl = true ∧
      (trimRightFunc s = [] ∨ ∃ hd w, trimRightFunc s = hd ++ w ∧ w ≠ [] ∧
        (decodeRune w).2 = w.length ∧ isSpaceRune (decodeRune w).1 = false) := by
  obtain ⟨h1, h2⟩ := lastIndexNotSpaceF_spec s.length s.reverse (by simp)
  unfold trimRightFunc
  cases h : lastIndexNotSpaceF s.length s.reverse with
  | none =>
    have := h1 h
    rw [List.reverse_reverse] at this
    exact ⟨s, by simp, this, Or.inl (by simp)⟩
  | some i =>
    obtain ⟨hd, w, tl, e1, e2, e3, e4, e5, e6⟩ := h2 i h
    rw [List.reverse_reverse] at e1
    simp only []
    rw [← e2, trimRight_take s hd w tl e1 e3 e4 e6]
    exact ⟨tl, e1, e6, Or.inr ⟨hd, w, rfl, e3, e4, e5⟩⟩

theorem trimRightFunc_snoc_space (s : Bytes) (d : UInt8) (hd : d < 0x80) (hsp : isSpaceRune d.toNat = true) :
    trimRightFunc (s ++ [d]) = trimRightFunc s := by
  obtain ⟨h1, h2⟩ := lastIndexNotSpaceF_spec s.length s.reverse (by simp)
  have hidx : lastIndexNotSpaceF (s ++ [d]).length (s ++ [d]).reverse = lastIndexNotSpaceF s.length s.reverse := by
    have hrev : (s ++ [d]).reverse = d :: s.reverse := by simp
    have hl : (s ++ [d]).length = s.length + 1 := by simp
    rw [hrev, hl]
    simp only [lastIndexNotSpaceF, decodeLastRuneRev, hd, if_true, hsp, Bool.not_true, Bool.false_eq_true, if_false,
      List.drop_succ_cons, List.drop_zero]
  unfold trimRightFunc
  rw [hidx]
  cases h : lastIndexNotSpaceF s.length s.reverse with
  | none => simp
  | some i =>
    obtain ⟨hdd, w, tl, e1, e2, e3, e4, e5, e6⟩ := h2 i h
    rw [List.reverse_reverse] at e1
    have hwsd : wsOnly [d] = true :=
      wsOnly_single [d] (by simp) (by rw [decodeRune_of_lt hd []]; rfl) (by rw [decodeRune_of_lt hd []]; exact hsp)
    simp only []
    rw [← e2, trimRight_take s hdd w tl e1 e3 e4 e6,
      trimRight_take (s ++ [d]) hdd w (tl ++ [d]) (by rw [e1]; simp) e3 e4 (wsOnly_append _ _ e6 hwsd)]

theorem between_eq_of_before {s e : Z} {pre : Bytes} (h : e.before = pre.reverse ++ s.before) :
    between s e = pre := by
  simp [between, h]

/-- Behind the state `l` at `lastNonSpace` the loop of `scanAccount` has consumed nothing, or
    one blank (which is then followed by a terminator or the end of the input). -/
theorem scanAccountF_tail (n : Nat) (z l : Z) (pre : Bytes) (hpre : z.before = pre.reverse ++ l.before)
    (hinv : pre = [] ∨ (pre = [0x20] ∧ headIs 0x20 z.after = false)) :
    between (scanAccountF n z l).2 (scanAccountF n z l).1 = [] ∨
      between (scanAccountF n z l).2 (scanAccountF n z l).1 = [0x20] := by
  induction n generalizing z l pre with
  | zero =>
    simp only [scanAccountF, between_eq_of_before hpre]
    rcases hinv with h | h
    · exact Or.inl h
    · exact Or.inr h.1
  | succ n ih =>
    have hfin : between l z = [] ∨ between l z = [0x20] := by
      rw [between_eq_of_before hpre]
      rcases hinv with h | h
      · exact Or.inl h
      · exact Or.inr h.1
    unfold scanAccountF
    split
    · exact hfin
    · rename_i b t hz
      simp only []
      split
      · rename_i hsp
        -- the rune U+0020 is read only from the byte 0x20
        have hsp : (decodeRune (b :: t)).1 = 0x20 := by simpa using hsp
        have hb : b = 0x20 := UInt8.toNat_inj.mp ((toNat_of_rune_lt b t (by rw [hsp]; decide)).trans hsp)
        subst hb
        have hd : decodeRune (0x20 :: t) = (0x20, 1) := decodeRune_of_lt (by decide) t
        split
        · exact hfin
        · rename_i h2
          -- a second blank in a row would have stopped the loop: nothing was pending
          have hp0 : pre = [] := by
            rcases hinv with h | h
            · exact h
            · rw [hz] at h; simp [headIs] at h
          subst hp0
          refine ih (z.bump (decodeRune (0x20 :: t)).2) l [0x20] ?_ (Or.inr ⟨rfl, ?_⟩)
          · rw [hd]; simp [Z.bump, hz, hpre]
          · rw [hd]; simpa [Z.bump, hz] using h2
      · split
        · exact hfin
        · exact ih _ _ [] (by simp) (Or.inl rfl)

end HL.Lex
