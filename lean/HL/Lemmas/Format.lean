/-
  Lemmas for C04/C05.  First the byte-string and `uint32` facts the formatter's edits rest on (UTF-16
  length against byte length, rune boundaries, `splitLines`, `trimRight`, `u32`); then `LineEditOK`, the
  generic "single-line edits on distinct lines are well-formed" argument, and the edits of the model
  (`postingEdit`, `trimEdit`, `trimLoop`).
-/
import HL.Lemmas.FmtText
import HL.Spec.EditSpec
namespace HL.Lemmas.Format
open HL HL.Ast HL.FmtText HL.Fmt HL.EditSpec HL.Lemmas.FmtText

theorem decodeRune_u16w (b0 : UInt8) (r : Bytes) :
    u16w (decodeRune (b0 :: r)).1 ≤ (decodeRune (b0 :: r)).2 := by
  rw [decodeRune_eq]
  have h1 := Utf8.decodeRune_width_pos b0 r
  have h2 := Utf8.rune_lt_of_width_lt (b0 :: r)
  unfold u16w
  split <;> omega

theorem u16sum_runesAux_le (s : Bytes) : ∀ k, k ≤ s.length → u16sum (runesAux k s) + k ≤ s.length := by
  induction s with
  | nil => intro k hk; have : k = 0 := by simpa using hk
           subst this; simp [runesAux, u16sum]
  | cons x s ih =>
    intro k hk
    cases k with
    | zero =>
      have hs := decodeRune_size x s
      have hw := decodeRune_u16w x s
      simp only [List.length_cons] at hs
      have := ih ((decodeRune (x :: s)).2 - 1) (by omega)
      simp only [runesAux, u16sum, List.length_cons]
      omega
    | succ k =>
      simp only [List.length_cons] at hk
      have := ih k (by omega)
      simp only [runesAux, List.length_cons]
      omega

theorem u16len_le_length (s : Bytes) : u16len s ≤ s.length := by
  have := u16sum_runesAux_le s 0 (Nat.zero_le _)
  rw [u16len_eq]; simpa [runes] using this

theorem onBoundary_zero (rs : List (Nat × Nat)) : onBoundary rs 0 = true := by
  cases rs with
  | nil => rfl
  | cons x rs => obtain ⟨r, s⟩ := x; simp [onBoundary]

theorem onBoundary_prefix (a b : List (Nat × Nat)) : onBoundary (a ++ b) (u16sum a) = true := by
  induction a with
  | nil => exact onBoundary_zero b
  | cons x a ih =>
    obtain ⟨r, s⟩ := x
    simp only [List.cons_append, onBoundary, u16sum, Nat.le_add_right, decide_true, Bool.true_and,
      Nat.add_sub_cancel_left, ih, Bool.or_true]

theorem onBoundary_all (a : List (Nat × Nat)) : onBoundary a (u16sum a) = true := by
  have := onBoundary_prefix a []
  simpa using this

theorem splitLines_ne_nil (doc : Bytes) : splitLines doc ≠ [] := by
  induction doc with
  | nil => simp [splitLines]
  | cons b bs ih =>
    simp only [splitLines]
    split
    · simp
    · split <;> simp

theorem splitLines_length_le (doc : Bytes) : (splitLines doc).length ≤ doc.length + 1 := by
  induction doc with
  | nil => simp [splitLines]
  | cons b bs ih =>
    simp only [splitLines]
    split
    · simp only [List.length_cons]; omega
    · split
      · rename_i l ls h; rw [h] at ih; simp only [List.length_cons] at *; omega
      · simp

theorem splitLines_line_length (doc : Bytes) : ∀ l ∈ splitLines doc, l.length ≤ doc.length := by
  induction doc with
  | nil => intro l hl; simp [splitLines] at hl; simp [hl]
  | cons b bs ih =>
    intro l hl
    simp only [splitLines] at hl
    split at hl
    · rcases List.mem_cons.mp hl with rfl | hl
      · simp
      · have := ih l hl; simp only [List.length_cons]; omega
    · split at hl
      · rename_i l0 ls h
        rw [h] at ih
        rcases List.mem_cons.mp hl with rfl | hl
        · have := ih l0 (by simp); simp only [List.length_cons]; omega
        · have := ih l (by simp [hl]); simp only [List.length_cons]; omega
      · simp only [List.mem_singleton] at hl
        subst hl; simp

theorem trimRight_spec (l : Bytes) : ∃ bl, l = trimRight l ++ bl ∧ (∀ x ∈ bl, isBlank x = true) := by
  induction l with
  | nil => exact ⟨[], rfl, by simp⟩
  | cons b bs ih =>
    obtain ⟨bl, h1, h2⟩ := ih
    simp only [trimRight]
    split
    · rename_i h
      simp only [Bool.and_eq_true, List.isEmpty_iff] at h
      refine ⟨b :: bs, by simp, ?_⟩
      intro x hx
      rw [h.1] at h1
      simp only [List.nil_append] at h1
      rcases List.mem_cons.mp hx with rfl | hx
      · exact h.2
      · rw [h1] at hx; exact h2 x hx
    · exact ⟨bl, by rw [List.cons_append, ← h1], h2⟩

theorem isBlank_lt (x : UInt8) (h : isBlank x = true) : x < 0x80 := by
  simp only [isBlank, Bool.or_eq_true, beq_iff_eq] at h
  rcases h with rfl | rfl <;> decide

theorem isBlank_ne_cr (x : UInt8) (h : isBlank x = true) : x ≠ 13 := by
  simp only [isBlank, Bool.or_eq_true, beq_iff_eq] at h
  rcases h with rfl | rfl <;> decide

/-- A line that `trimRight` shortens ends in a blank, so it has no CR to strip. -/
theorem content_of_trimmed (l : Bytes) (h : (trimRight l).length ≠ l.length) : content l = l := by
  obtain ⟨bl, h1, h2⟩ := trimRight_spec l
  have hne : bl ≠ [] := by
    intro e; rw [e, List.append_nil] at h1; rw [← h1] at h; exact h rfl
  have hlast : ∃ x, l.getLast? = some x ∧ isBlank x = true := by
    obtain ⟨x, hx⟩ : ∃ x, bl.getLast? = some x := by
      cases hb : bl.getLast? with
      | none => exact absurd (List.getLast?_eq_none_iff.mp hb) hne
      | some x => exact ⟨x, rfl⟩
    refine ⟨x, ?_, h2 x (List.mem_of_getLast? hx)⟩
    rw [h1, List.getLast?_append, hx]; rfl
  obtain ⟨x, hx1, hx2⟩ := hlast
  unfold content
  rw [hx1]
  have := isBlank_ne_cr x hx2
  simp [this]

theorem u32_toNat (i : Int) (h0 : 0 ≤ i) (h1 : i < 4294967296) : (u32 i).toNat = i.toNat := by
  unfold u32
  rw [Int.emod_eq_of_lt h0 h1]
  apply UInt32.toNat_ofNat_of_lt'
  show i.toNat < 4294967296
  omega

theorem ofNat_toNat (n : Nat) (h : n < 4294967296) : (UInt32.ofNat n).toNat = n :=
  UInt32.toNat_ofNat_of_lt' h

/-- An edit that stays on one existing line, between two rune boundaries of its content. -/
structure LineEditOK (lines : List Bytes) (e : Edit) : Prop where
  sameLine : e.sl = e.el
  lineLt : e.sl.toNat < lines.length
  startOK : onBoundary (runes (content (lines.getD e.sl.toNat []))) e.sc.toNat = true
  endOK : onBoundary (runes (content (lines.getD e.sl.toNat []))) e.ec.toNat = true
  le : e.sc.toNat ≤ e.ec.toNat

theorem editInside_of_ok (lines : List Bytes) (e : Edit) (h : LineEditOK lines e) : editInside lines e = true := by
  have hl := h.lineLt
  have hget : lines[e.sl.toNat]? = some (lines.getD e.sl.toNat []) := by
    rw [List.getD_eq_getElem?_getD, List.getElem?_eq_getElem hl]; rfl
  simp only [editInside, posInside, ← h.sameLine, hget, h.startOK, h.endOK, posLe, Bool.true_and,
    Bool.and_true, Bool.or_eq_true, decide_eq_true_eq, beq_self_eq_true]
  right; exact h.le

theorem disjoint_of_lines_ne (a b : Edit) (ha : a.sl = a.el) (hb : b.sl = b.el)
    (hne : a.sl.toNat ≠ b.sl.toNat) : disjoint a b = true := by
  simp only [disjoint, posLe, ← ha, ← hb, Bool.or_eq_true, decide_eq_true_eq]
  rcases Nat.lt_or_gt_of_ne hne with h | h
  · left; left; exact h
  · right; left; exact h

theorem pairwiseDisjoint_of_nodup (es : List Edit) (hs : ∀ e ∈ es, e.sl = e.el)
    (hn : (es.map (·.sl.toNat)).Nodup) : pairwiseDisjoint es = true := by
  induction es with
  | nil => rfl
  | cons e es ih =>
    simp only [List.map_cons, List.nodup_cons, List.mem_map, not_exists, not_and] at hn
    simp only [pairwiseDisjoint, Bool.and_eq_true, List.all_eq_true]
    refine ⟨?_, ih (fun x hx => hs x (by simp [hx])) hn.2⟩
    intro x hx
    apply disjoint_of_lines_ne e x (hs e (by simp)) (hs x (by simp [hx]))
    intro heq
    exact hn.1 x hx heq.symm

theorem editsWellFormed_of_lineEdits (doc : Bytes) (es : List Edit)
    (hok : ∀ e ∈ es, LineEditOK (splitLines doc) e) (hn : (es.map (·.sl.toNat)).Nodup) :
    editsWellFormed doc es = true := by
  simp only [editsWellFormed, Bool.and_eq_true, List.all_eq_true]
  exact ⟨fun e he => editInside_of_ok _ e (hok e he),
    pairwiseDisjoint_of_nodup es (fun e he => (hok e he).sameLine) hn⟩

/-- The document is small enough for `uint32` positions. -/
structure SmallLines (all : List Bytes) : Prop where
  count : all.length ≤ 4294967296
  width : ∀ l ∈ all, l.length < 4294967296

theorem smallLines_of_doc (doc : Bytes) (h : doc.length < 4294967296) : SmallLines (splitLines doc) :=
  ⟨by have := splitLines_length_le doc; omega,
   fun l hl => by have := splitLines_line_length doc l hl; omega⟩

theorem trimCR_eq_content (l : Bytes) : trimCR l = content l := rfl

theorem content_length_le (l : Bytes) : (content l).length ≤ l.length := by
  unfold content; split <;> simp

theorem getD_mem (all : List Bytes) (n : Nat) (h : n < all.length) : all.getD n [] ∈ all := by
  rw [List.getD_eq_getElem?_getD, List.getElem?_eq_getElem h]; exact List.getElem_mem h

theorem lineU16_eq (all : List Bytes) (n : Nat) (h : n < all.length) :
    lineU16 all (n : Int) = u16len (content (all.getD n [])) := by
  unfold lineU16
  have h1 : ¬ ((n : Int) < 0) := by omega
  have h2 : ¬ ((n : Int) ≥ (all.length : Int)) := by omega
  simp only [h1, h2, decide_false, Bool.or_self, Bool.false_eq_true, if_false, Int.toNat_natCast,
    trimCR_eq_content]

theorem postingEdit_ok (all : List Bytes) (hs : SmallLines all) (p : Posting) (text : Bytes)
    (h1 : 1 ≤ p.range.start.line) (h2 : p.range.start.line ≤ all.length) :
    LineEditOK all (postingEdit all p text) ∧
      (postingEdit all p text).sl.toNat = p.range.start.line - 1 := by
  have hc := hs.count
  have hline : postingLine p = ((p.range.start.line - 1 : Nat) : Int) := by unfold postingLine; omega
  have hlt : p.range.start.line - 1 < all.length := by omega
  have hu : (u32 (postingLine p)).toNat = p.range.start.line - 1 := by
    rw [u32_toNat _ (by rw [hline]; omega) (by rw [hline]; omega), hline]; simp
  have hw : u16len (content (all.getD (p.range.start.line - 1) [])) < 4294967296 := by
    have := u16len_le_length (content (all.getD (p.range.start.line - 1) []))
    have := content_length_le (all.getD (p.range.start.line - 1) [])
    have := hs.width _ (getD_mem all _ hlt)
    omega
  refine ⟨⟨rfl, ?_, ?_, ?_, ?_⟩, hu⟩
  · simp only [postingEdit, hu]; exact hlt
  · simp only [postingEdit, hu]; exact onBoundary_zero _
  · show onBoundary (runes (content (all.getD (u32 (postingLine p)).toNat [])))
      (UInt32.ofNat (lineU16 all (postingLine p))).toNat = true
    rw [hu, hline, lineU16_eq all _ hlt, ofNat_toNat _ hw, u16len_eq]
    exact onBoundary_all _
  · simp only [postingEdit]; exact Nat.zero_le _

theorem trimEdit_ok (all : List Bytes) (hs : SmallLines all) (n : Nat) (hn : n < all.length) (e : Edit)
    (h : trimEdit all n (all.getD n []) = some e) :
    LineEditOK all e ∧ e.sl.toNat = n ∧ isTrailingBlankRemoval all e = true := by
  have hc := hs.count
  have hwl := hs.width _ (getD_mem all n hn)
  have hget : all[n]? = some (all.getD n []) := by
    rw [List.getD_eq_getElem?_getD, List.getElem?_eq_getElem hn]; rfl
  simp only [trimEdit, lineU16_eq all n hn] at h
  generalize hl : all.getD n [] = l at *
  -- `l = trimRight l ++ bl` with `bl` blanks, so `bl` does not start with a continuation byte: the runes and
  -- UTF-16 lengths of `l` are those of the two parts, and both ends of the edit are rune boundaries of `l`
  split at h
  · cases h
  · rename_i hne
    simp only [beq_iff_eq] at hne
    obtain ⟨bl, hb1, hb2⟩ := trimRight_spec l
    have hblne : bl ≠ [] := by
      intro e0; rw [e0, List.append_nil] at hb1; rw [← hb1] at hne; exact hne rfl
    have hnc : NonCont bl := by
      cases bl with
      | nil => exact absurd rfl hblne
      | cons x bl => exact nonCont_ascii x bl (isBlank_lt x (hb2 x (by simp)))
    have hn32 : n < 4294967296 := by omega
    have hlen : u16len l = u16len (trimRight l) + u16len bl := by
      conv => lhs; rw [hb1]
      exact u16len_append _ _ hnc
    have hw1 := u16len_le_length l
    have hw2 : u16len (trimRight l) < 4294967296 := by omega
    have hw3 : u16len l < 4294967296 := by omega
    have hlt : (trimRight l).length < l.length := by
      have : l.length = (trimRight l).length + bl.length := by
        conv => lhs; rw [hb1]
        simp
      have : bl.length ≠ 0 := by simpa using hblne
      omega
    injection h with h
    subst h
    simp only [content_of_trimmed _ hne]
    refine ⟨⟨rfl, ?_, ?_, ?_, ?_⟩, ofNat_toNat n hn32, ?_⟩
    · simp only [ofNat_toNat n hn32]; exact hn
    · simp only [ofNat_toNat n hn32, hl, content_of_trimmed _ hne, ofNat_toNat _ hw2]
      have : runes l = runes (trimRight l) ++ runes bl := by
        conv => lhs; rw [hb1]
        exact runes_append _ _ hnc
      rw [this, u16len_eq]
      exact onBoundary_prefix _ _
    · simp only [ofNat_toNat n hn32, hl, content_of_trimmed _ hne, ofNat_toNat _ hw3]
      rw [u16len_eq]
      exact onBoundary_all _
    · simp only [ofNat_toNat _ hw2, ofNat_toNat _ hw3]; omega
    · simp only [isTrailingBlankRemoval, List.isEmpty_nil, beq_self_eq_true, Bool.true_and,
        ofNat_toNat n hn32, hget, ofNat_toNat _ hw2, ofNat_toNat _ hw3, Bool.and_eq_true,
        decide_eq_true_eq, and_true]
      exact hlt

theorem trimLoop_spec (all : List Bytes) (hs : SmallLines all) (ex : List Int) :
    ∀ (ls : List Bytes) (n : Nat), all.drop n = ls →
      (∀ e ∈ trimLoop all ex ls n, LineEditOK all e ∧ n ≤ e.sl.toNat ∧ ¬ ((e.sl.toNat : Int) ∈ ex) ∧
        isTrailingBlankRemoval all e = true) ∧
      ((trimLoop all ex ls n).map (·.sl.toNat)).Pairwise (· < ·) := by
  intro ls
  -- the loop visits the lines in order with `n` the index of the head of `ls`, so every edit of the tail lies
  -- on a line `> n`: that is what makes the line numbers strictly increasing
  induction ls with
  | nil => intro n _; simp [trimLoop]
  | cons l ls ih =>
    intro n hd
    have hn : n < all.length := by
      apply Nat.lt_of_not_le; intro hge
      rw [List.drop_eq_nil_of_le hge] at hd; cases hd
    have hl : all.getD n [] = l := by
      rw [List.getD_eq_getElem?_getD, ← List.head?_drop, hd]; rfl
    have hd' : all.drop (n + 1) = ls := by
      rw [← List.drop_drop, hd]; rfl
    obtain ⟨ih1, ih2⟩ := ih (n + 1) hd'
    have weaken : ∀ e ∈ trimLoop all ex ls (n + 1), LineEditOK all e ∧ n ≤ e.sl.toNat ∧
        ¬ ((e.sl.toNat : Int) ∈ ex) ∧ isTrailingBlankRemoval all e = true := by
      intro e he; obtain ⟨a, b, c, d⟩ := ih1 e he; exact ⟨a, by omega, c, d⟩
    simp only [trimLoop]
    split
    · exact ⟨weaken, ih2⟩
    · rename_i hex
      split
      · rename_i e he
        rw [← hl] at he
        obtain ⟨ok, hsl, htb⟩ := trimEdit_ok all hs n hn e he
        constructor
        · intro x hx
          rcases List.mem_cons.mp hx with rfl | hx
          · refine ⟨ok, by omega, ?_, htb⟩
            rw [hsl]; simpa using hex
          · exact weaken x hx
        · simp only [List.map_cons, List.pairwise_cons]
          refine ⟨?_, ih2⟩
          intro m hm
          obtain ⟨x, hx, rfl⟩ := List.mem_map.mp hm
          obtain ⟨_, hle, _⟩ := ih1 x hx
          omega
      · exact ⟨weaken, ih2⟩

end HL.Lemmas.Format
