import HL.Lemmas.LexLines
/-!
  What a token covers: for every scan function, every lexer state and every byte string, the
  bytes between the token's `Pos` and its `End` (`extOf`) are the token's lexeme — its value,
  with the delimiters the value leaves out (`;`, parentheses of a code, quotes of a commodity)
  and nothing else: no blank behind an account name, no white space behind a text
  (`Lexeme`, `next_lexeme`).  HL.Props.C06.token_end_is_lexeme_end is the stream-level statement.
-/
namespace HL.Lex
open HL HL.Utf8 HL.Spec.LexSpec Ctl

/-- the bytes between the `Pos` and the `End` of the token a scan returned, read off the
    consumed input of the state it left behind -/
def extOf (r : Token × Z) : Bytes :=
  ((r.2.before.drop (r.2.before.length - r.1.stop.off)).take (r.1.stop.off - r.1.pos.off)).reverse

/-- The lexeme of a text token: `scanned` (what `scanText` ran over) is the extent followed by a
    run of white space, the value is `strings.TrimSpace(scanned)`, the extent is what
    `strings.TrimRightFunc(scanned, unicode.IsSpace)` keeps — it is empty or ends with a rune that
    is not white space — unless nothing is kept (a text of white space only: the token keeps what
    was scanned). -/
def TextLexeme (val ext : Bytes) : Prop :=
  ∃ tail, wsOnly tail = true ∧ val = trimSpace (ext ++ tail) ∧
    ((ext = trimRightFunc (ext ++ tail) ∧ ext ≠ []) ∨ (trimRightFunc (ext ++ tail) = [] ∧ tail = []))

/-- **What the bytes between `Pos` and `End` are, by token type** (`val` the token's value). -/
def Lexeme (ty : TokType) (val ext : Bytes) : Prop :=
  match ty with
  | .comment => ext = 0x3B :: val
  | .code => ext = 0x28 :: val ∨ ext = 0x28 :: (val ++ [0x29])
  | .commodity => ext = val ∨ ext = 0x22 :: val ∨ ext = 0x22 :: (val ++ [0x22])
  | .newline => val = [LF] ∧ (ext = [LF] ∨ ext = [CR, LF])
  | .text => TextLexeme val ext
  | _ => ext = val

theorem extOf_mkTok (ty : TokType) (v : Bytes) (s e : Z) : extOf (mkTok ty v s e) = between s e := by
  simp [extOf, mkTok, Z.position, between]

theorem extOf_mkTokAt_state (ty : TokType) (v : Bytes) {s l e : Z} (h : Adv l e) :
    extOf (mkTokAt ty v s l.position e) = between s l := by
  obtain ⟨p, _, hb⟩ := h
  simp only [extOf, mkTokAt, Z.position, between, hb]
  have : (p.reverse ++ l.before).length - l.before.length = p.reverse.length := by simp
  rw [this, List.drop_left]

theorem extOf_mkTokAt_prefix (ty : TokType) (v : Bytes) {s e : Z} {x y : Bytes} (ln col : Nat)
    (h : e.before = (x ++ y).reverse ++ s.before) :
    extOf (mkTokAt ty v s ⟨ln, col, s.before.length + x.length⟩ e) = x := by
  simp only [extOf, mkTokAt, Z.position, h, List.reverse_append, List.append_assoc, List.length_append,
    List.length_reverse]
  rw [show y.length + (x.length + s.before.length) - (s.before.length + x.length) = y.reverse.length by
      rw [List.length_reverse]; omega, List.drop_left,
    show s.before.length + x.length - s.before.length = x.reverse.length by rw [List.length_reverse]; omega,
    List.take_left, List.reverse_reverse]

theorem between_trans {a b c : Z} (h1 : Adv a b) (h2 : Adv b c) : between a c = between a b ++ between b c := by
  obtain ⟨p, _, hp⟩ := h1
  obtain ⟨q, _, hq⟩ := h2
  have e1 : between a b = p := between_eq_of_before hp
  have e2 : between b c = q := between_eq_of_before hq
  have e3 : between a c = p ++ q := between_eq_of_before (by rw [hq, hp]; simp)
  rw [e1, e2, e3]

theorem between_self (z : Z) : between z z = [] := by simp [between]

theorem between_advance_ascii {z : Z} {c : UInt8} {t : Bytes} (hz : z.after = c :: t) (hc : c < 0x80) :
    between z (advance z) = [c] := by
  rw [advance_ascii hz hc]
  simp [between]

theorem scanDate_lexeme (z : Z) : Lexeme (scanDate z).1.ty (scanDate z).1.val (extOf (scanDate z)) := by
  simp only [scanDate, extOf_mkTok]
  rfl

theorem scanNumber_lexeme (z : Z) : Lexeme (scanNumber z).1.ty (scanNumber z).1.val (extOf (scanNumber z)) := by
  simp only [scanNumber, extOf_mkTok]
  rfl

theorem scanIndent_lexeme (z : Z) : Lexeme (scanIndent z).1.ty (scanIndent z).1.val (extOf (scanIndent z)) := by
  simp only [scanIndent, extOf_mkTok]
  rfl

theorem scanAccount_lexeme (z : Z) :
    Lexeme (scanAccount z).1.ty (scanAccount z).1.val (extOf (scanAccount z)) := by
  have hadv := scanAccountF_adv z.after.length z z (Adv.refl z)
  show Lexeme .account _ (extOf (mkTokAt .account _ z (scanAccountF z.after.length z z).2.position
    (scanAccountF z.after.length z z).1))
  rw [extOf_mkTokAt_state _ _ hadv.2.2]
  rfl

theorem scanStatus_lexeme {z : Z} {c : UInt8} {t : Bytes} (hz : z.after = c :: t) (hc : c < 0x80) :
    Lexeme (scanStatus z).1.ty (scanStatus z).1.val (extOf (scanStatus z)) := by
  simp only [scanStatus, extOf_mkTok, between_advance_ascii hz hc]
  show [c] = encodeRune (peek z).toNat
  simp [peek, hz, (Seq.one hc).encode]

theorem scanSign_lexeme {z : Z} {c : UInt8} {t : Bytes} (hz : z.after = c :: t) (hc : c < 0x80) :
    Lexeme (scanSign z).1.ty (scanSign z).1.val (extOf (scanSign z)) := by
  simp only [scanSign, extOf_mkTok, between_advance_ascii hz hc]
  show [c] = encodeRune (peek z).toNat
  simp [peek, hz, (Seq.one hc).encode]

theorem punct_lexeme (ty : TokType) {z : Z} {c : UInt8} {t : Bytes} (hz : z.after = c :: t) (hc : c < 0x80)
    (hty : ty ≠ .comment ∧ ty ≠ .code ∧ ty ≠ .commodity ∧ ty ≠ .newline ∧ ty ≠ .text) :
    Lexeme (punct ty [c] z).1.ty (punct ty [c] z).1.val (extOf (punct ty [c] z)) := by
  simp only [punct, extOf_mkTok, between_advance_ascii hz hc]
  show Lexeme ty [c] [c]
  unfold Lexeme
  split <;> simp_all

theorem headIs_cons {c : UInt8} {a : Bytes} (h : headIs c a = true) : ∃ t, a = c :: t := by
  cases a with
  | nil => simp [headIs] at h
  | cons x t => simp only [headIs, beq_iff_eq] at h; exact ⟨t, by rw [h]⟩

theorem scanAt_lexeme {z : Z} {t : Bytes} (hz : z.after = 0x40 :: t) :
    Lexeme (scanAt z).1.ty (scanAt z).1.val (extOf (scanAt z)) := by
  have h1 := between_advance_ascii hz (by decide)
  unfold scanAt
  simp only []
  split
  · rename_i h
    obtain ⟨t2, ht2⟩ := headIs_cons h
    rw [extOf_mkTok, between_trans (Adv.advance z) (Adv.advance _), h1, between_advance_ascii ht2 (by decide)]
    rfl
  · rw [extOf_mkTok, h1]; rfl

theorem scanEquals_lexeme {z : Z} {t : Bytes} (hz : z.after = 0x3D :: t) :
    Lexeme (scanEquals z).1.ty (scanEquals z).1.val (extOf (scanEquals z)) := by
  have h1 := between_advance_ascii hz (by decide)
  unfold scanEquals
  simp only []
  split
  · rename_i h
    obtain ⟨t2, ht2⟩ := headIs_cons h
    rw [extOf_mkTok, between_trans (Adv.advance z) (Adv.advance _), h1, between_advance_ascii ht2 (by decide)]
    rfl
  · rw [extOf_mkTok, h1]; rfl

theorem scanComment_lexeme {z : Z} {t : Bytes} (hz : z.after = 0x3B :: t) :
    Lexeme (scanComment z).1.ty (scanComment z).1.val (extOf (scanComment z)) := by
  simp only [scanComment, extOf_mkTok]
  rw [between_trans (Adv.advance z) (advLine_adv _ _), between_advance_ascii hz (by decide)]
  rfl

theorem between_delimited {z : Z} {c : UInt8} {t : Bytes} (hz : z.after = c :: t) (hc : c < 0x80) (q : UInt8)
    (hq : q < 0x80) :
    between z (advIf (· == q) (advLine (fun x => x != q) (advance z))) =
        c :: between (advance z) (advLine (fun x => x != q) (advance z)) ∨
      between z (advIf (· == q) (advLine (fun x => x != q) (advance z))) =
        c :: (between (advance z) (advLine (fun x => x != q) (advance z)) ++ [q]) := by
  have h1 := Adv.advance z
  have h2 := advLine_adv (fun x => x != q) (advance z)
  have h3 := advIf_adv (· == q) (advLine (fun x => x != q) (advance z))
  rw [between_trans h1 (h2.trans h3), between_trans h2 h3, between_advance_ascii hz hc]
  generalize advLine (fun x => x != q) (advance z) = z2
  unfold advIf
  split
  · exact Or.inl (by rw [between_self]; simp)
  · rename_i x t2 hz2
    split
    · rename_i hx
      obtain rfl : x = q := by simpa using hx
      exact Or.inr (by rw [between_advance_ascii hz2 hq]; rfl)
    · exact Or.inl (by rw [between_self]; simp)

theorem scanCode_lexeme {z : Z} {t : Bytes} (hz : z.after = 0x28 :: t) :
    Lexeme (scanCode z).1.ty (scanCode z).1.val (extOf (scanCode z)) := by
  simp only [scanCode, extOf_mkTok]
  show Lexeme .code _ _
  rcases between_delimited hz (by decide) 0x29 (by decide) with h | h
  · rw [h]; exact Or.inl rfl
  · rw [h]; exact Or.inr rfl

theorem scanQuotedCommodity_lexeme {z : Z} {t : Bytes} (hz : z.after = 0x22 :: t) :
    Lexeme (scanQuotedCommodity z).1.ty (scanQuotedCommodity z).1.val (extOf (scanQuotedCommodity z)) := by
  simp only [scanQuotedCommodity, extOf_mkTok]
  show Lexeme .commodity _ _
  rcases between_delimited hz (by decide) 0x22 (by decide) with h | h
  · rw [h]; exact Or.inr (Or.inl rfl)
  · rw [h]; exact Or.inr (Or.inr rfl)

theorem extOf_scanText (z : Z) :
    extOf (scanText z) =
      if trimRightFunc (between z (advLine (fun ch => !(ch == 0x3B || ch == 0x7C)) z)) = []
      then between z (advLine (fun ch => !(ch == 0x3B || ch == 0x7C)) z)
      else trimRightFunc (between z (advLine (fun ch => !(ch == 0x3B || ch == 0x7C)) z)) := by
  obtain ⟨pre, _, hpb⟩ := advLine_adv (fun ch => !(ch == 0x3B || ch == 0x7C)) z
  simp only [scanText, textStop, between_eq_of_before hpb]
  split
  · exact (extOf_mkTok _ _ z _).trans (between_eq_of_before hpb)
  · obtain ⟨tl, h1, _⟩ := trimRightFunc_spec pre
    exact extOf_mkTokAt_prefix _ _ _ _ (y := tl) (by rw [← h1]; exact hpb)

theorem scanText_lexeme (z : Z) : Lexeme (scanText z).1.ty (scanText z).1.val (extOf (scanText z)) := by
  show TextLexeme _ _
  rw [extOf_scanText]
  have hv : (scanText z).1.val = trimSpace (between z (advLine (fun ch => !(ch == 0x3B || ch == 0x7C)) z)) := rfl
  rw [hv]
  generalize between z (advLine (fun ch => !(ch == 0x3B || ch == 0x7C)) z) = scanned
  by_cases hl : trimRightFunc scanned = []
  · rw [if_pos hl]
    exact ⟨[], wsOnly_nil, by simp, Or.inr ⟨by simpa using hl, rfl⟩⟩
  · rw [if_neg hl]
    obtain ⟨tl, h1, h2, _⟩ := trimRightFunc_spec scanned
    exact ⟨tl, h2, by rw [← h1], Or.inl ⟨by rw [← h1], hl⟩⟩

theorem u8_eq_of_toNat {a : UInt8} {n : Nat} (hn : n < 256) (h : a.toNat = n) : a = UInt8.ofNat n :=
  (ofNat_eq h.symm).symm

theorem scanCurrencySymbol_lexeme {z : Z} {b : UInt8} {t : Bytes} (hz : z.after = b :: t)
    (hcur : isCurrencySymbol (peekRune z) = true) :
    Lexeme (scanCurrencySymbol z).1.ty (scanCurrencySymbol z).1.val (extOf (scanCurrencySymbol z)) := by
  have hr : peekRune z = (decodeRune (b :: t)).1 := by simp [peekRune, hz]
  rw [hr] at hcur
  have hbw : between z (z.bump (decodeRune (b :: t)).2) = (b :: t).take (decodeRune (b :: t)).2 :=
    between_eq_of_before (by simp [Z.bump, hz])
  unfold scanCurrencySymbol
  rw [hz]
  simp only [extOf_mkTok, hbw]
  -- a currency symbol is not U+FFFD, so the bytes taken are its encoding
  exact Or.inl (take_width_eq_encodeRune b t (fun e => by rw [e] at hcur; revert hcur; decide))

theorem scanNewline_lexeme {z : Z} (he : atEol z.after = true) :
    Lexeme (scanNewline z).1.ty (scanNewline z).1.val (extOf (scanNewline z)) := by
  unfold scanNewline
  simp only [extOf_mkTok]
  show _ = [LF] ∧ _
  refine ⟨rfl, ?_⟩
  rcases atEol_cases he with ⟨t, hz⟩ | ⟨t, hz⟩
  · have h0 : advIf (· == 0x0D) z = z := by simp [advIf, hz]
    rw [h0]
    left
    exact between_advance_ascii hz (by decide)
  · have h0 : advIf (· == 0x0D) z = advance z := by simp [advIf, hz]
    have h1 : (advance z).after = LF :: t := by rw [advance_ascii hz (by decide)]
    rw [h0]
    right
    have := between_trans (Adv.advance z) (Adv.advance (advance z))
    rw [between_advance_ascii hz (by decide), between_advance_ascii h1 (by decide)] at this
    exact this

/-- the lexeme statement for a result `r` -/
def LexemeOk (r : Token × Z) : Prop := Lexeme r.1.ty r.1.val (extOf r)

theorem eof_lexeme (z : Z) : LexemeOk (mkTok .eof [] z z) := by
  unfold LexemeOk
  rw [extOf_mkTok, between_self]
  rfl

/-- What a dispatcher returns: the result of `scanText` at some state, or a token of another type
    that covers its lexeme. -/
def TextOr (r : Token × Z) : Prop := (∃ z, r = scanText z) ∨ (r.1.ty ≠ .text ∧ LexemeOk r)

theorem TextOr.text (z : Z) : TextOr (scanText z) := .inl ⟨z, rfl⟩

theorem TextOr.other {r : Token × Z} (hty : r.1.ty ≠ .text) (h : LexemeOk r) : TextOr r := .inr ⟨hty, h⟩

theorem TextOr.lexemeOk {r : Token × Z} (h : TextOr r) : LexemeOk r := by
  rcases h with ⟨z, rfl⟩ | h
  · exact scanText_lexeme z
  · exact h.2

theorem scanDirectiveOrAccount_textOr (z : Z) : TextOr (scanDirectiveOrAccount z) := by
  unfold scanDirectiveOrAccount
  simp only []
  refine ite_ind (fun _ => .other nofun (by unfold LexemeOk; rw [extOf_mkTok]; rfl)) fun _ => ?_
  exact ite_ind (fun _ => .other nofun (scanAccount_lexeme z)) fun _ => .text z

theorem scanCommodityOrText_textOr (C : Classes) (z : Z) : TextOr (scanCommodityOrText C z) := by
  unfold scanCommodityOrText
  simp only []
  refine ite_ind (fun _ => .other nofun (by unfold LexemeOk; rw [extOf_mkTok]; exact Or.inl rfl)) fun _ => ?_
  exact ite_ind (fun _ => .other nofun (by unfold LexemeOk; rw [extOf_mkTok]; exact Or.inl rfl)) fun _ => .text z

theorem scanInLineAt_textOr (C : Classes) (z : Z) : TextOr (scanInLineAt C z) := by
  unfold scanInLineAt
  cases hz : z.after with
  | nil => exact .other nofun (eof_lexeme z)
  | cons ch t =>
    simp only []
    have beq : ∀ {k : UInt8}, (ch == k) = true → z.after = k :: t := fun h => by
      rw [hz]; simp only [beq_iff_eq] at h; rw [h]
    have hp : ∀ {k : UInt8} (ty : TokType), (ch == k) = true → k < 0x80 →
        ty ≠ .comment ∧ ty ≠ .code ∧ ty ≠ .commodity ∧ ty ≠ .newline ∧ ty ≠ .text → TextOr (punct ty [k] z) :=
      fun ty h hk h5 => .other h5.2.2.2.2 (punct_lexeme ty (beq h) hk h5)
    refine ite_ind (fun h => .other nofun (scanNewline_lexeme (by rw [hz]; exact h))) fun _ => ?_
    refine ite_ind (fun h => .other nofun (scanComment_lexeme (beq h))) fun _ => ?_
    refine ite_ind (fun h => ite_ind (fun _ => hp _ h (by decide) (by decide))
      fun _ => .other nofun (scanCode_lexeme (beq h))) fun _ => ?_
    refine ite_ind (fun h => hp _ h (by decide) (by decide)) fun _ => ?_
    refine ite_ind (fun h => hp _ h (by decide) (by decide)) fun _ => ?_
    refine ite_ind (fun h => hp _ h (by decide) (by decide)) fun _ => ?_
    refine ite_ind (fun h => hp _ h (by decide) (by decide)) fun _ => ?_
    refine ite_ind (fun h => .other (by unfold scanAt; simp only []; split <;> nofun) (scanAt_lexeme (beq h))) fun _ => ?_
    refine ite_ind (fun h => .other (by unfold scanEquals; simp only []; split <;> nofun) (scanEquals_lexeme (beq h))) fun _ => ?_
    refine ite_ind (fun h => .other nofun (scanStatus_lexeme hz (by
      simp only [Bool.or_eq_true, beq_iff_eq] at h
      rcases h with rfl | rfl <;> decide))) fun _ => ?_
    refine ite_ind (fun h => .other nofun (scanCurrencySymbol_lexeme hz h)) fun _ => ?_
    refine ite_ind (fun h => .other nofun (scanQuotedCommodity_lexeme (beq h))) fun _ => ?_
    refine ite_ind (fun h => ite_ind (fun _ => .other nofun (scanSign_lexeme hz (by
      simp only [Bool.or_eq_true, beq_iff_eq] at h
      rcases h with rfl | rfl <;> decide))) fun _ => .text z) fun _ => ?_
    refine ite_ind (fun _ => ite_ind (fun _ => .other nofun (scanDate_lexeme z))
      fun _ => .other nofun (scanNumber_lexeme z)) fun _ => ?_
    refine ite_ind (fun _ => ite_ind (fun _ => .other nofun (scanAccount_lexeme z))
      fun _ => scanCommodityOrText_textOr C z) fun _ => ?_
    exact .text z

theorem scanLineStartAt_textOr (C : Classes) (z : Z) : TextOr (scanLineStartAt C z) := by
  unfold scanLineStartAt
  simp only []
  refine ite_ind (fun h => ?_) fun _ => ?_
  · cases hz : z.after with
    | nil => simp [peek, hz] at h
    | cons c t =>
      have : c = 0x3B := by simpa [peek, hz] using h
      subst this
      exact .other nofun (scanComment_lexeme hz)
  refine ite_ind (fun _ => .other nofun (scanIndent_lexeme z)) fun _ => ?_
  refine ite_ind (fun _ => .other nofun (scanDate_lexeme z)) fun _ => ?_
  refine ite_ind (fun _ => scanDirectiveOrAccount_textOr z) fun _ => ?_
  exact scanInLineAt_textOr C _

theorem next_textOr (C : Classes) (z : Z) : TextOr (next C z) := by
  unfold next
  split
  · exact .other nofun (eof_lexeme z)
  · exact ite_ind (fun _ => scanLineStartAt_textOr C _) fun _ => scanInLineAt_textOr C _

/-- **Every token `Next` returns covers exactly its lexeme**, for every state, every byte string
    and every classifier. -/
theorem next_lexeme (C : Classes) (z : Z) : LexemeOk (next C z) := (next_textOr C z).lexemeOk

end HL.Lex
