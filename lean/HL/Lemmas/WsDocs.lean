/-
  The workspace follows the buffers (model HL/Model/WsDocs.lean): for histories of
  didOpen / didChange / didSave / didClose on files of the client's view that keep their include
  lists,
  the workspace invariant `WInv` holds with respect to the CLIENT's view (buffers over disk),
  so the tree held for every member file is that of the client's current text.

  Include lists are kept fixed because `UpdateFile` reads files that BECOME reachable from disk
  (`addMissingReachableLocked`): a file that is open with unsaved edits at the moment it becomes
  reachable is indexed in its disk version — not covered here (C12's histories, where every
  edit is saved, cover changing include lists).
-/
import HL.Model.WsDocs
import HL.Lemmas.Init
namespace HL.Lemmas.WsDocs
open HL.Index HL.Workspace HL.WsDocs HL.Lemmas.AList HL.Lemmas.WsInv HL.Lemmas.Update
open HL.Lemmas.Init HL.Spec.Rebuild

theorem updateFile_indep (cfg : Cfg) (fsr fsr' : FS) (w : WS) (p : String) (c : Contrib)
    (h : isWorkspaceFile w p = false ∨ includesOf w p = (mkFileIdx p c).includes) :
    updateFile cfg fsr w p c = updateFile cfg fsr' w p c := by
  rw [updateFile_eq, updateFile_eq]
  rcases h with h | h
  · simp [h]
  · simp [h]

theorem updateFile_sameIncs (cfg : Cfg) (fs0 fsr : FS) (w : WS) (p : String) (c c0 : Contrib)
    (h : WInv cfg fs0 w) (hok : fsOk (fs0.set p c) = true) (h0 : fs0.get p = some c0)
    (hinc : resolveIncl p c.incs = resolveIncl p c0.incs) :
    WInv cfg (fs0.set p c) (updateFile cfg fsr w p c) ∧ (updateFile cfg fsr w p c).root = w.root := by
  have hcond : isWorkspaceFile w p = false ∨ includesOf w p = (mkFileIdx p c).includes := by
    cases hacc : isWorkspaceFile w p with
    | false => exact Or.inl rfl
    | true =>
      right
      have hr := accepted_reach cfg fs0 w h p hacc
      have hidx := (h.closed p).mpr ⟨hr, by rw [h0]; rfl⟩
      obtain ⟨fi, hfi⟩ := Option.isSome_iff_exists.mp hidx
      obtain ⟨c', hc', hfic⟩ := h.pinv.g.fresh p fi hfi
      rw [h0] at hc'
      cases hc'
      rw [includesOf_eq w p fi hfi, hfic]
      simp only [mkFileIdx]
      exact hinc.symm
  rw [updateFile_indep cfg fsr (fs0.set p c) w p c hcond]
  exact updateFile_ok cfg fs0 (fs0.set p c) (fs0.set p c) w p c h hok (get_set_self _ _ _)
    (fun y hy => get_set_ne _ _ _ _ (Ne.symm hy)) (fun _ _ => rfl)

/-- the event touches an existing file of the client's view and keeps its include list -/
def calmEv (s : DS) : Ev → Prop
  | .openDoc p c | .change p c =>
    p ≠ "" ∧ contribOk c = true ∧
      ∃ c0, s.view.get p = some c0 ∧ resolveIncl p c.incs = resolveIncl p c0.incs
  | .save _ => True
  | .close p =>
    p ≠ "" ∧ ∃ c c0, s.disk.get p = some c ∧ contribOk c = true ∧ s.view.get p = some c0 ∧
      resolveIncl p c.incs = resolveIncl p c0.incs

/-- every event of the history is calm in the state it is applied to -/
def calm (cfg : Cfg) : DS → List Ev → Prop
  | _, [] => True
  | s, e :: es => calmEv s e ∧ calm cfg (dstep {} cfg s e) es

structure DInv (cfg : Cfg) (root : String) (s : DS) : Prop where
  winv : WInv cfg s.view s.w
  ok : fsOk s.view = true
  opened : ∀ p c, s.bufs.get p = some c → s.view.get p = some c
  others : ∀ p, s.bufs.get p = none → s.view.get p = s.disk.get p
  root : s.w.root = root

/-- a step that hands the client's text `c` of `p` to `UpdateFile` (read disk `fsr`), whatever it
    does to buffers and disk, as long as the client's view is again buffers over disk -/
theorem dinv_update (cfg : Cfg) (root : String) (s : DS) (h : DInv cfg root s) (p : String)
    (c c0 : Contrib) (fsr disk' : FS) (bufs' : AList Contrib) (hp : p ≠ "") (hcok : contribOk c = true)
    (h0 : s.view.get p = some c0) (hinc : resolveIncl p c.incs = resolveIncl p c0.incs)
    (hbuf : bufs'.get p = some c ∨ bufs'.get p = none ∧ disk'.get p = some c)
    (hbufs : ∀ q, p ≠ q → bufs'.get q = s.bufs.get q) (hdisk : ∀ q, p ≠ q → disk'.get q = s.disk.get q) :
    DInv cfg root { disk := disk', bufs := bufs', view := s.view.set p c,
                    w := updateFile cfg fsr s.w p c } := by
  have hok' := fsOk_set s.view h.ok p c hp hcok
  obtain ⟨hw, hr⟩ := updateFile_sameIncs cfg s.view fsr s.w p c c0 h.winv hok' h0 hinc
  refine ⟨hw, hok', fun q c' hq => ?_, fun q hq => ?_, hr.trans h.root⟩
  · show (s.view.set p c).get q = some c'
    rw [get_set]
    by_cases e : p = q
    · subst e
      rcases hbuf with hb | hb
      · rw [if_pos rfl, ← hb]; exact hq
      · cases hb.1.symm.trans hq
    · rw [if_neg e]; exact h.opened q c' (hbufs q e ▸ hq)
  · show (s.view.set p c).get q = disk'.get q
    rw [get_set]
    by_cases e : p = q
    · subst e
      rcases hbuf with hb | hb
      · cases hb.symm.trans hq
      · rw [if_pos rfl, hb.2]
    · rw [if_neg e, hdisk q e]; exact h.others q (hbufs q e ▸ hq)

theorem inv_step (cfg : Cfg) (root : String) (s : DS) (e : Ev) (h : DInv cfg root s)
    (hc : calmEv s e) : DInv cfg root (dstep {} cfg s e) := by
  cases e with
  | openDoc p c =>
    obtain ⟨hp, hcok, c0, h0, hinc⟩ := hc
    exact dinv_update cfg root s h p c c0 _ _ _ hp hcok h0 hinc (Or.inl (get_set_self _ _ _))
      (fun q e => get_set_ne _ _ _ _ e) fun _ _ => rfl
  | change p c =>
    obtain ⟨hp, hcok, c0, h0, hinc⟩ := hc
    rw [dstep]
    cases hb : s.bufs.get p with
    | none => exact h
    | some _ =>
      exact dinv_update cfg root s h p c c0 _ _ _ hp hcok h0 hinc (Or.inl (get_set_self _ _ _))
        (fun q e => get_set_ne _ _ _ _ e) fun _ _ => rfl
  | save p =>
    rw [dstep]
    cases hb : s.bufs.get p with
    | some c =>
      have h0 := h.opened p c hb
      obtain ⟨hp, hcok⟩ := fsOk_get s.view h.ok p c h0
      exact dinv_update cfg root s h p c c _ _ _ hp hcok h0 rfl (Or.inl hb) (fun _ _ => rfl)
        fun q e => get_set_ne _ _ _ _ e
    | none =>
      cases hd : s.disk.get p with
      | none => exact h
      | some c =>
        have h0 : s.view.get p = some c := by rw [h.others p hb, hd]
        obtain ⟨hp, hcok⟩ := fsOk_get s.view h.ok p c h0
        exact dinv_update cfg root s h p c c _ _ _ hp hcok h0 rfl (Or.inr ⟨hb, hd⟩) (fun _ _ => rfl)
          fun _ _ => rfl
  | close p =>
    obtain ⟨hp, c, c0, hd, hcok, h0, hinc⟩ := hc
    rw [dstep, hd]
    exact dinv_update cfg root s h p c c0 _ _ _ hp hcok h0 hinc (Or.inr ⟨get_erase_self _ _, hd⟩)
      (fun q e => get_erase_ne _ _ _ e) fun _ _ => rfl

theorem inv_start (cfg : Cfg) (fs : FS) (hok : fsOk fs = true) (hne : fs ≠ [])
    (hclean : graphsClean cfg fs) (hlim : fs.length ≤ cfg.limit) :
    DInv cfg (rootSel fs) (dstart cfg fs) := by
  obtain ⟨i1, i2, _⟩ := init_ok cfg fs hok hne hclean hlim
  exact ⟨i1, hok, fun p c h => by simp [dstart] at h, fun _ _ => rfl, i2⟩

theorem inv_run (cfg : Cfg) (root : String) : ∀ (es : List Ev) (s : DS), DInv cfg root s → calm cfg s es →
    DInv cfg root (es.foldl (dstep {} cfg) s) := by
  intro es
  induction es with
  | nil => intro s h _; exact h
  | cons e es ih =>
    intro s h hc
    exact ih _ (inv_step cfg root s e h hc.1) hc.2

theorem held_eq (cfg : Cfg) (fs : FS) (w : WS) (h : WInv cfg fs w) (p : String)
    (hm : (w.idx.files.get p).isSome = true) : held w p = fs.get p := by
  unfold held
  by_cases e : p = w.root
  · rw [if_pos e, h.pinv.r.primary, e]
  · rw [if_neg e, h.pinv.r.rfiles p]
    simp [e, hm]

end HL.Lemmas.WsDocs
