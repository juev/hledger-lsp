/-
  Helper lemmas for C17, byte-string part: `utf8.DecodeRuneInString` as modelled in
  HL/Model/SemTok.lean (`decodeRune`, `chunks`), `strings.TrimSpace` / `leadingSpace`,
  `strings.Split`, and the UTF-16 column cursor `colAt`.
-/
import HL.Model.SemTok
import HL.Lemmas.Utf8

namespace HL.Lemmas.SemTok
open HL HL.SemTok

theorem isCont_iff (b : UInt8) : isCont b = true ↔ Utf8.isCont b = true := Iff.rfl
theorem runeError_eq : runeError = Utf8.runeError := rfl

/-- The tests of the first byte — the first range that fits — in the form of HL/Model/Utf8.lean: a
    chain of thresholds. -/
theorem lead_chain {α} (b : UInt8) (A B C D : α) :
    (if (0xC2 ≤ b && b ≤ 0xDF) = true then A else if (0xE0 ≤ b && b ≤ 0xEF) = true then B
      else if (0xF0 ≤ b && b ≤ 0xF4) = true then C else D) =
    if b < 0xC2 then D else if b < 0xE0 then A else if b < 0xF0 then B else if b < 0xF5 then C else D := by
  simp only [Bool.and_eq_true, decide_eq_true_eq, UInt8.le_iff_toNat_le, UInt8.lt_iff_toNat_lt, UInt8.reduceToNat]
  by_cases hC2 : b.toNat < 194
  · rw [if_pos hC2, if_neg (by omega), if_neg (by omega), if_neg (by omega)]
  by_cases hE0 : b.toNat < 224
  · rw [if_neg hC2, if_pos hE0, if_pos (by omega)]
  by_cases hF0 : b.toNat < 240
  · rw [if_neg hC2, if_neg hE0, if_pos hF0, if_neg (by omega), if_pos (by omega)]
  by_cases hF5 : b.toNat < 245
  · rw [if_neg hC2, if_neg hE0, if_neg hF0, if_pos hF5, if_neg (by omega), if_neg (by omega), if_pos (by omega)]
  · rw [if_neg hC2, if_neg hE0, if_neg hF0, if_neg hF5, if_neg (by omega), if_neg (by omega), if_neg (by omega)]

theorem ite_band {α} (p q : Bool) (a b : α) :
    (if (p && q) = true then a else b) = if p = true then if q = true then a else b else b := by
  cases p <;> cases q <;> rfl

/-- `decodeRune` is the decoder of HL/Model/Utf8.lean. -/
theorem decodeRune_eq (s : Bytes) : decodeRune s = Utf8.decodeRune s := by
  rcases s with _ | ⟨b0, t⟩
  · rfl
  simp only [decodeRune, Utf8.decodeRune, lead_chain, runeError_eq]
  by_cases h80 : b0 < 0x80
  · simp only [h80, if_true]
  by_cases hC2 : b0 < 0xC2
  · simp only [h80, hC2, if_true, if_false]
  by_cases hE0 : b0 < 0xE0
  · rcases t with _ | ⟨b1, t⟩ <;> simp only [h80, hC2, hE0, if_true, if_false, isCont_iff]
    refine ite_congr rfl (fun h1 => ?_) fun _ => rfl
    rw [Utf8.lead2_payload hC2 hE0, Utf8.cont_payload h1]
  by_cases hF0 : b0 < 0xF0
  · rcases t with _ | ⟨b1, _ | ⟨b2, t⟩⟩ <;> simp only [h80, hC2, hE0, hF0, if_true, if_false]
    -- the same tests in the same order on both sides; where all hold, the runes agree
    have hne : ¬ b0 = 0xF0 ∧ ¬ b0 = 0xF4 := ⟨fun e => absurd (e ▸ hF0) (by decide), fun e => absurd (e ▸ hF0) (by decide)⟩
    have hacc := @Utf8.isCont_of_accept b0 b1
    simp only [Utf8.acceptLo, Utf8.acceptHi, beq_iff_eq, hne, if_false] at hacc ⊢
    simp only [isCont_iff, ite_band]
    refine ite_congr rfl (fun hA => ite_congr rfl (fun hB => ite_congr rfl (fun h2 => ?_) fun _ => rfl)
      fun _ => rfl) fun _ => rfl
    rw [Utf8.lead3_payload hE0 hF0, Utf8.cont_payload (hacc (by rw [hA, hB]; rfl)), Utf8.cont_payload h2]
  by_cases hF5 : b0 < 0xF5
  · rcases t with _ | ⟨b1, _ | ⟨b2, _ | ⟨b3, t⟩⟩⟩ <;> simp only [h80, hC2, hE0, hF0, hF5, if_true, if_false]
    have hne : ¬ b0 = 0xE0 ∧ ¬ b0 = 0xED := ⟨fun e => hF0 (e ▸ by decide), fun e => hF0 (e ▸ by decide)⟩
    have hacc := @Utf8.isCont_of_accept b0 b1
    simp only [Utf8.acceptLo, Utf8.acceptHi, beq_iff_eq, hne, if_false] at hacc ⊢
    simp only [isCont_iff, ite_band]
    refine ite_congr rfl (fun hA => ite_congr rfl (fun hB => ite_congr rfl (fun h2 => ite_congr rfl (fun h3 => ?_)
      fun _ => rfl) fun _ => rfl) fun _ => rfl) fun _ => rfl
    rw [Utf8.lead4_payload hF0 hF5, Utf8.cont_payload (hacc (by rw [hA, hB]; rfl)), Utf8.cont_payload h2,
      Utf8.cont_payload h3]
  · simp only [h80, hC2, hE0, hF0, hF5, if_false]

theorem decodeRune_width_pos (b : UInt8) (t : Bytes) : 1 ≤ (decodeRune (b :: t)).2 := by
  rw [decodeRune_eq]; exact Utf8.decodeRune_width_pos b t

theorem decodeRune_width_le (b : UInt8) (t : Bytes) : (decodeRune (b :: t)).2 ≤ (b :: t).length := by
  rw [decodeRune_eq]; exact Utf8.decodeRune_width_le_length b t

theorem unchunk_append (a b : List (Nat × Bytes)) : unchunk (a ++ b) = unchunk a ++ unchunk b := by
  simp [unchunk]

theorem unchunk_chunksF (f : Nat) (s : Bytes) (h : s.length ≤ f) : unchunk (chunksF f s) = s := by
  induction f generalizing s with
  | zero =>
    have : s = [] := by cases s with | nil => rfl | cons _ _ => simp at h
    subst this; simp [chunksF, unchunk]
  | succ f ih =>
    cases s with
    | nil => simp [chunksF, unchunk]
    | cons b t =>
      have hk1 := decodeRune_width_pos b t
      have hk2 := decodeRune_width_le b t
      have hl : ((b :: t).drop (decodeRune (b :: t)).2).length ≤ f := by
        simp only [List.length_drop, List.length_cons] at h hk2 ⊢; omega
      simp only [chunksF, unchunk, List.flatMap_cons]
      have := ih _ hl
      simp only [unchunk] at this
      rw [this, List.take_append_drop]

theorem unchunk_chunks (s : Bytes) : unchunk (chunks s) = s := unchunk_chunksF _ _ (Nat.le_refl _)

theorem reverse_dropWhile_decomp {α} (p : α → Bool) (x : List α) :
    x = (x.reverse.dropWhile p).reverse ++ (x.reverse.takeWhile p).reverse := by
  have h := List.takeWhile_append_dropWhile (p := p) (l := x.reverse)
  have h2 := congrArg List.reverse h
  simp only [List.reverse_append, List.reverse_reverse] at h2
  exact h2.symm

theorem trim_decomp (s : Bytes) :
    ∃ post, s = s.take (leadWs s) ++ trimSpace s ++ post ∧ leadWs s ≤ s.length := by
  let p : Nat × Bytes → Bool := fun c => isSpaceRune c.1
  have h1 : s = unchunk ((chunks s).takeWhile p) ++ unchunk ((chunks s).dropWhile p) := by
    rw [← unchunk_append, List.takeWhile_append_dropWhile, unchunk_chunks]
  have h2 := reverse_dropWhile_decomp p ((chunks s).dropWhile p)
  have hlw : leadWs s = (unchunk ((chunks s).takeWhile p)).length := rfl
  refine ⟨unchunk ((((chunks s).dropWhile p).reverse.takeWhile p).reverse), ?_, ?_⟩
  · have htr : trimSpace s = unchunk ((((chunks s).dropWhile p).reverse.dropWhile p).reverse) := rfl
    have htake : s.take (leadWs s) = unchunk ((chunks s).takeWhile p) := by
      rw [hlw]
      conv => lhs; arg 2; rw [h1]
      simp
    rw [htake, htr, List.append_assoc, ← unchunk_append, ← h2]
    exact h1
  · rw [hlw]
    conv => rhs; rw [h1]
    simp

theorem leadWs_trim_le (s : Bytes) : leadWs s + (trimSpace s).length ≤ s.length := by
  obtain ⟨post, h, hl⟩ := trim_decomp s
  have := congrArg List.length h
  simp only [List.length_append, List.length_take, Nat.min_eq_left hl] at this
  omega

theorem drop_take_trim (s : Bytes) : (s.drop (leadWs s)).take (trimSpace s).length = trimSpace s := by
  obtain ⟨post, h, hl⟩ := trim_decomp s
  have := congrArg (List.drop (leadWs s)) h
  rw [List.append_assoc, List.drop_left' (by rw [List.length_take, Nat.min_eq_left hl])] at this
  rw [this, List.take_left']
  rfl

theorem u16w_le_two (r : Nat) : u16w r ≤ 2 := by unfold u16w; split <;> omega
theorem u16w_pos (r : Nat) : 1 ≤ u16w r := by unfold u16w; split <;> omega

theorem decodeRune_u16w_le (b0 : UInt8) (t : Bytes) :
    u16w (decodeRune (b0 :: t)).1 ≤ (decodeRune (b0 :: t)).2 := by
  rw [decodeRune_eq]
  have h1 := Utf8.decodeRune_width_pos b0 t
  have h2 := Utf8.rune_lt_of_width_lt (b0 :: t)
  unfold u16w
  split <;> omega

theorem colF_le (f : Nat) (s : Bytes) (pos col off : Nat) : colF f s pos col off ≤ col + s.length := by
  induction f generalizing s pos col with
  | zero => simp [colF]
  | succ f ih =>
    cases s with
    | nil => simp [colF]
    | cons b0 t =>
      simp only [colF]
      split
      · have h1 := decodeRune_u16w_le b0 t
        have h2 := decodeRune_width_le b0 t
        generalize hc : (if ((decodeRune (b0 :: t)).1 == 0x0A) = true then 0
          else col + u16w (decodeRune (b0 :: t)).1) = col'
        have hc' : col' ≤ col + u16w (decodeRune (b0 :: t)).1 := by
          rw [← hc]; split <;> omega
        have := ih ((b0 :: t).drop (decodeRune (b0 :: t)).2) (pos + (decodeRune (b0 :: t)).2) col'
        simp only [List.length_drop] at this
        omega
      · omega

theorem colAt_le (text : Bytes) (off : Nat) : colAt text off ≤ text.length := by
  have := colF_le text.length text 0 0 off
  simpa [colAt] using this

theorem u16sum_chunksF_le (f : Nat) (s : Bytes) : u16sum ((chunksF f s).map (·.1)) ≤ s.length := by
  induction f generalizing s with
  | zero => simp [chunksF, u16sum]
  | succ f ih =>
    cases s with
    | nil => simp [chunksF, u16sum]
    | cons b0 t =>
      have h1 := decodeRune_u16w_le b0 t
      have h2 := decodeRune_width_le b0 t
      have := ih ((b0 :: t).drop (decodeRune (b0 :: t)).2)
      simp only [List.length_drop] at this
      simp only [chunksF, List.map_cons, u16sum]
      omega

theorem u16lenB_le (s : Bytes) : u16lenB s ≤ s.length := u16sum_chunksF_le _ _

theorem u16lenB_cons_ascii (b : UInt8) (s : Bytes) (h : b < 0x80) : u16lenB (b :: s) = 1 + u16lenB s := by
  have hd : decodeRune (b :: s) = (b.toNat, 1) := (decodeRune_eq _).trans (Utf8.decodeRune_of_lt h s)
  have hb : b.toNat < 0x10000 := by have := UInt8.toNat_lt b; omega
  simp only [u16lenB, runes, chunks, List.length_cons, chunksF, hd, List.map_cons, u16sum,
    List.drop_succ_cons, List.drop_zero]
  simp only [u16w]
  rw [if_neg (by omega)]

theorem decodeRune_lf (b0 : UInt8) (t : Bytes) (h : (decodeRune (b0 :: t)).1 = 0x0A) : b0 = 0x0A := by
  rw [decodeRune_eq] at h
  exact UInt8.toNat_inj.mp ((Utf8.toNat_of_rune_lt b0 t (by rw [h]; decide)).trans h)

def lfB : UInt8 := 0x0A

theorem colF_ge (f : Nat) (s : Bytes) (pos col b : Nat)
    (h : ∀ i, pos + i < b → s[i]? ≠ some lfB) : col ≤ colF f s pos col b := by
  induction f generalizing s pos col with
  | zero => simp [colF]
  | succ f ih =>
    cases s with
    | nil => simp [colF]
    | cons b0 t =>
      simp only [colF]
      split
      · rename_i hlt
        have h0 : b0 ≠ lfB := by
          have := h 0 (by simpa using hlt)
          simpa using this
        have hr : (decodeRune (b0 :: t)).1 ≠ 0x0A := fun e => h0 (decodeRune_lf b0 t e)
        have hr' : ((decodeRune (b0 :: t)).1 == 0x0A) = false := by simpa using hr
        simp only [hr', Bool.false_eq_true, if_false]
        refine Nat.le_trans (Nat.le_add_right _ _) (ih _ _ _ ?_)
        intro i hi
        rw [List.getElem?_drop]
        exact h _ (by omega)
      · exact Nat.le_refl _

theorem colF_mono (f : Nat) (s : Bytes) (pos col a b : Nat) (hab : a ≤ b)
    (h : ∀ i, a ≤ pos + i → pos + i < b → s[i]? ≠ some lfB) :
    colF f s pos col a ≤ colF f s pos col b := by
  induction f generalizing s pos col with
  | zero => simp [colF]
  | succ f ih =>
    cases s with
    | nil => simp [colF]
    | cons b0 t =>
      by_cases hlt : pos < a
      · have hlt' : pos < b := by omega
        simp only [colF, hlt, hlt', if_true]
        apply ih
        intro i h1 h2
        rw [List.getElem?_drop]
        exact h _ (by omega) (by omega)
      · have e : colF (f + 1) (b0 :: t) pos col a = col := by simp [colF, hlt]
        rw [e]
        exact colF_ge _ _ _ _ _ (fun i hi => h i (by omega) hi)

/-- No line feed in `text[a:b)`, pointwise. -/
def NoLfP (text : Bytes) (a b : Nat) : Prop := ∀ i, a ≤ i → i < b → text[i]? ≠ some lfB

theorem colAt_mono (text : Bytes) (a b : Nat) (hab : a ≤ b) (h : NoLfP text a b) :
    colAt text a ≤ colAt text b :=
  colF_mono _ _ _ _ _ _ hab (fun i h1 h2 => h i (by simpa using h1) (by simpa using h2))

theorem noLfP_of_slice (text : Bytes) (a b : Nat) (h : lfB ∉ sliceB text a b) : NoLfP text a b := by
  intro i h1 h2 e
  apply h
  have : (sliceB text a b)[i - a]? = some lfB := by
    simp only [sliceB, List.getElem?_take, List.getElem?_drop]
    have : i - a < b - a := by omega
    simp [this, show a + (i - a) = i by omega, e]
  exact List.mem_of_getElem? this

theorem noLfP_sub {text : Bytes} {a b a' b' : Nat} (h : NoLfP text a b) (h1 : a ≤ a') (h2 : b' ≤ b) :
    NoLfP text a' b' := fun i hi hj => h i (by omega) (by omega)

theorem noLfP_append {text : Bytes} {a b c : Nat} (h1 : NoLfP text a b) (h2 : NoLfP text b c) :
    NoLfP text a c := fun i hi hj => by
  by_cases hb : i < b
  · exact h1 i hi hb
  · exact h2 i (by omega) hj

theorem sliceB_length (text : Bytes) (a b : Nat) (h : b ≤ text.length) :
    (sliceB text a b).length = b - a := by
  simp only [sliceB, List.length_take, List.length_drop]; omega

theorem sliceB_sub (text : Bytes) (a b k m : Nat) (h : k + m ≤ b - a) :
    sliceB text (a + k) (a + k + m) = ((sliceB text a b).drop k).take m := by
  simp only [sliceB, List.drop_take, List.drop_drop, List.take_take]
  have e1 : a + k + m - (a + k) = m := by omega
  have e2 : min m (b - a - k) = m := by omega
  rw [e1, e2]

/-- `strings.Join(parts, string(sep))`. -/
def joinParts (sep : UInt8) : List Bytes → Bytes
  | [] => []
  | [p] => p
  | p :: q :: r => p ++ sep :: joinParts sep (q :: r)

theorem joinParts_cons_cons (sep b : UInt8) (p : Bytes) (ps : List Bytes) :
    joinParts sep ((b :: p) :: ps) = b :: joinParts sep (p :: ps) := by
  cases ps <;> simp [joinParts]

theorem splitOn_ne_nil (sep : UInt8) (s : Bytes) : splitOn sep s ≠ [] := by
  induction s with
  | nil => simp [splitOn]
  | cons b bs ih =>
    simp only [splitOn]
    split
    · simp
    · split <;> simp

theorem splitOn_join (sep : UInt8) (s : Bytes) : joinParts sep (splitOn sep s) = s := by
  induction s with
  | nil => simp [splitOn, joinParts]
  | cons b bs ih =>
    simp only [splitOn]
    split
    · rename_i hb
      cases hs : splitOn sep bs with
      | nil => exact absurd hs (splitOn_ne_nil sep bs)
      | cons q r => rw [hs] at ih; simp [joinParts, ih, hb]
    · split
      · rename_i p ps hp
        rw [hp] at ih
        rw [joinParts_cons_cons, ih]
      · rename_i hp
        exact absurd hp (splitOn_ne_nil sep bs)

theorem getLast?_append_of_ne_nil {α} (l : List α) {r : List α} (h : r ≠ []) :
    (l ++ r).getLast? = r.getLast? := by
  rw [List.getLast?_append]
  cases hf : r.getLast? with
  | none => exact absurd (List.getLast?_eq_none_iff.mp hf) h
  | some y => rfl

theorem splitOn_noSep (sep : UInt8) (y : Bytes) (h : sep ∉ y) : splitOn sep y = [y] := by
  induction y with
  | nil => rfl
  | cons b t ih =>
    simp only [List.mem_cons, not_or] at h
    have hb : ¬ b = sep := fun e => h.1 e.symm
    simp only [splitOn, hb, if_false, ih h.2]

theorem splitOn_head (sep : UInt8) (y : Bytes) :
    (splitOn sep y)[0]? = some (y.takeWhile (· != sep)) := by
  induction y with
  | nil => simp [splitOn]
  | cons b t ih =>
    simp only [splitOn]
    split
    · rename_i hb; simp [hb]
    · rename_i hb
      have hb' : (b != sep) = true := by simpa using hb
      split
      · rename_i p ps hp
        rw [hp] at ih
        simp only [List.getElem?_cons_zero, Option.some.injEq] at ih
        simp [hb', ih]
      · rename_i hp; exact absurd hp (splitOn_ne_nil _ _)

/-- Splitting a concatenation: the last piece of `x` and the first piece of `y` are one piece. -/
theorem splitOn_append (sep : UInt8) (x y : Bytes) :
    splitOn sep (x ++ y) = (splitOn sep x).dropLast ++
      (((splitOn sep x).getLast?.getD [] ++ (splitOn sep y).head?.getD []) :: (splitOn sep y).tail) := by
  induction x with
  | nil =>
    cases h : splitOn sep y with
    | nil => exact absurd h (splitOn_ne_nil _ _)
    | cons p ps => simp [splitOn, h]
  | cons b xs ih =>
    rw [List.cons_append, splitOn, splitOn, ih]
    cases hs : splitOn sep xs with
    | nil => exact absurd hs (splitOn_ne_nil _ _)
    | cons q qs => split <;> cases qs <;> rfl

end HL.Lemmas.SemTok
