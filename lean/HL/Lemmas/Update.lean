/-
  `UpdateFile` preserves the full workspace invariant `WInv` (index is the sum of its
  files, graphs exact, indexed = reachable ∩ existing, resolved journal and caches
  coherent), whether the disk already holds the new text (didSave) or still the old one
  (didChange); so do the getters.
-/
import HL.Lemmas.Refresh
namespace HL.Lemmas.Update
open HL.Index HL.Workspace HL.Lemmas.AList HL.Lemmas.ReachIdx HL.Lemmas.Edges HL.Lemmas.Index
open HL.Lemmas.WsInv HL.Lemmas.Refresh HL.Spec.Rebuild

structure WInv (cfg : Cfg) (fs : FS) (w : WS) : Prop where
  pinv : PInv cfg fs w
  closed : Closed fs w
  cache : CacheOk w

theorem cacheOk_of_none (w : WS) (h : CachesNone w) : CacheOk w := by
  obtain ⟨h1, h2, h3⟩ := h
  exact ⟨fun f hf => by rw [h1] at hf; simp at hf, fun f hf => by rw [h2] at hf; simp at hf,
    fun f hf => by rw [h3] at hf; simp at hf⟩

theorem reach_pred {s : String → List String} {root x : String} (h : ReachS s root x)
    (hx : x ≠ root) : ∃ u, u ≠ x ∧ ReachS s root u ∧ x ∈ s u := by
  induction h with
  | base => exact absurd rfl hx
  | @step u v hu hq ih =>
    by_cases e : u = v
    · subst e; exact ih hx
    · exact ⟨u, e, hu, hq⟩

theorem reach_fs_to_G (cfg : Cfg) (fs : FS) (w : WS) (h : WInv cfg fs w) (x : String)
    (hx : Reach fs w.root x) : ReachS (succG w.incG) w.root x := by
  induction hx with
  | base => exact .base
  | @step u v hu hq ih =>
    by_cases e : v = u
    · exact e ▸ ih
    · have hex : (fs.get u).isSome := by
        cases e2 : fs.get u with
        | some _ => rfl
        | none => simp [succs, e2] at hq
      have hiu := (h.closed u).mpr ⟨hu, hex⟩
      obtain ⟨fi, hfi⟩ := Option.isSome_iff_exists.mp hiu
      obtain ⟨c, hc, hfic⟩ := h.pinv.g.fresh u fi hfi
      refine .step ih ?_
      unfold succG
      rw [h.pinv.g.incOk u, includesOf_eq w u fi hfi, hfic]
      exact (mem_resolveIncl u c.incs v).mpr ⟨by simpa [succs, hc] using hq, e⟩

theorem accepted_reach (cfg : Cfg) (fs : FS) (w : WS) (h : WInv cfg fs w) (p : String)
    (hacc : isWorkspaceFile w p = true) : Reach fs w.root p := by
  simp only [isWorkspaceFile, Bool.or_eq_true, decide_eq_true_eq, Bool.not_eq_true',
    List.isEmpty_eq_false_iff] at hacc
  rcases hacc with (hacc | hacc) | hacc
  · exact hacc ▸ .base
  · exact ((h.closed p).mp hacc).1
  · obtain ⟨u, hu⟩ := List.exists_mem_of_ne_nil _ hacc
    have hinc := ((h.pinv.g.revOk p u).mp hu).2
    obtain ⟨c, hfi, hc, hpc, _⟩ := mem_includesOf cfg fs w NoDead h.pinv.g u p hinc
    have hur := ((h.closed u).mp (by rw [hfi]; rfl)).1
    exact .step hur (by simp [succs, hc, hpc])

theorem rejected_unreachable (cfg : Cfg) (fs : FS) (w : WS) (h : WInv cfg fs w) (p : String)
    (hrej : isWorkspaceFile w p = false) : ¬ Reach fs w.root p := by
  simp only [isWorkspaceFile, Bool.or_eq_false_iff, decide_eq_false_iff_not, Bool.not_eq_false',
    List.isEmpty_iff] at hrej
  obtain ⟨⟨h1, _⟩, h3⟩ := hrej
  intro hr
  obtain ⟨u, hne, hur, hpu⟩ := reach_pred hr h1
  have hex : (fs.get u).isSome := by
    cases e2 : fs.get u with
    | some _ => rfl
    | none => simp [succs, e2] at hpu
  have hiu := (h.closed u).mpr ⟨hur, hex⟩
  obtain ⟨fi, hfi⟩ := Option.isSome_iff_exists.mp hiu
  obtain ⟨c, hc, hfic⟩ := h.pinv.g.fresh u fi hfi
  have : p ∈ includesOf w u := by
    rw [includesOf_eq w u fi hfi, hfic]
    exact (mem_resolveIncl u c.incs p).mpr ⟨by simpa [succs, hc] using hpu, fun e => hne e.symm⟩
  have := (h.pinv.g.revOk p u).mpr ⟨by simp [NoDead], this⟩
  rw [h3] at this; simp at this

theorem pinv_clearCaches (cfg : Cfg) (fs : FS) (w : WS) (h : PInv cfg fs w) :
    PInv cfg fs (clearCaches w) :=
  ⟨h.root_ne, h.rootIdx, ⟨h.g.idx, h.g.fresh, h.g.incOk, h.g.revOk⟩,
   ⟨h.r.has, h.r.primary, h.r.rfiles, h.r.order⟩⟩

theorem updateFile_eq (cfg : Cfg) (fs : FS) (w : WS) (path : String) (c : Contrib) :
    updateFile cfg fs w path c =
      if path = "" then w else
      if w.root = "" then w else
      if !isWorkspaceFile w path then w else
      if includesOf w path ≠ (mkFileIdx path c).includes then
        refreshIncludeTree cfg fs
          (clearCaches (updateResolved (putFile cfg w path c (includesOf w path)) path c))
      else clearCaches (updateResolved (putFile cfg w path c (includesOf w path)) path c) := rfl

/-- a rejected path is neither indexed nor reachable, so the invariant does not see its change -/
theorem winv_of_rejected (cfg : Cfg) (fs0 fsd : FS) (w : WS) (p : String) (h : WInv cfg fs0 w)
    (hfsd : ∀ y, y ≠ p → fsd.get y = fs0.get y) (hacc : isWorkspaceFile w p = false) :
    WInv cfg fsd w := by
  have hunr := rejected_unreachable cfg fs0 w h p hacc
  simp only [isWorkspaceFile, Bool.or_eq_false_iff, decide_eq_false_iff_not,
    Option.isSome_eq_false_iff, Option.isNone_iff_eq_none] at hacc
  obtain ⟨⟨hproot, hnidx⟩, _⟩ := hacc
  have hidxne : ∀ y, (w.idx.files.get y).isSome → y ≠ p := fun y hy e => by
    rw [e, hnidx] at hy; cases hy
  have hreach : ∀ x, Reach fsd w.root x ↔ Reach fs0 w.root x := fun x =>
    ⟨fun hx => by
      induction hx with
      | base => exact .base
      | @step u v _ hq ih =>
        refine .step ih ?_
        rwa [succs, hfsd u fun e => hunr (e ▸ ih)] at hq,
     fun hx => reachS_drop_unreachable (t := p) (fun u hu => by rw [succs, succs, hfsd u hu]) hunr hx⟩
  refine ⟨⟨h.pinv.root_ne, h.pinv.rootIdx, ⟨h.pinv.g.idx, fun y fi hy => ?_, h.pinv.g.incOk,
    h.pinv.g.revOk⟩, ⟨h.pinv.r.has, ?_, fun y => ?_, h.pinv.r.order⟩⟩, fun y => ?_, h.cache⟩
  · rw [hfsd y (hidxne y (hy ▸ rfl))]; exact h.pinv.g.fresh y fi hy
  · rw [h.pinv.r.primary, hfsd w.root fun e => hproot e.symm]
  · rw [h.pinv.r.rfiles y]
    by_cases e1 : y = w.root
    · rw [if_pos e1, if_pos e1]
    · rw [if_neg e1, if_neg e1]
      by_cases e2 : (w.idx.files.get y).isSome
      · rw [if_pos e2, if_pos e2, hfsd y (hidxne y e2)]
      · rw [if_neg e2, if_neg e2]
  · rw [h.closed y, hreach y]
    by_cases e : y = p
    · subst e; exact ⟨fun h1 => absurd h1.1 hunr, fun h1 => absurd h1.1 hunr⟩
    · rw [hfsd y e]

/-- the state after `SetFileIndex`, `updateIncludeEdgesLocked`, `updateResolvedLocked` and
    `clearCachesLocked` on an accepted path, before the include tree is refreshed -/
theorem stored_ok (cfg : Cfg) (fs0 fsd : FS) (w : WS) (p : String) (c : Contrib)
    (h : WInv cfg fs0 w) (hpne : p ≠ "") (hcok : contribOk c = true)
    (hp : fsd.get p = some c) (hfsd : ∀ y, y ≠ p → fsd.get y = fs0.get y) :
    let w4 := clearCaches (updateResolved (putFile cfg w p c (includesOf w p)) p c)
    PInv cfg fsd w4 ∧ CachesNone w4 ∧ w4.root = w.root ∧
      (∀ y, w4.idx.files.get y = if p = y then some (mkFileIdx p c) else w.idx.files.get y) ∧
      ∀ u, u ≠ p → succG w.incG u = succG w4.incG u := by
  obtain ⟨f1, f2, f3, _⟩ := updateResolved_fields (putFile cfg w p c (includesOf w p)) p c
  obtain ⟨p1, _, p3, p4, p5, _⟩ := putFile_other cfg w p c (includesOf w p)
  have hfiles := files_putFile cfg w p c (includesOf w p) hpne
  refine ⟨pinv_clearCaches cfg fsd _ ⟨f1.trans p1 ▸ h.pinv.root_ne, ?_,
    updateResolved_ginv cfg fsd _ NoDead p c (putFile_ginv cfg fs0 fsd w p c h.pinv.g hpne hcok hp hfsd),
    updateResolved_rinv fs0 fsd w _ p c h.pinv.r p1 ⟨p3, p4, p5⟩ hfiles hp hfsd⟩,
    ⟨rfl, rfl, rfl⟩, f1.trans p1, fun y => (congrArg (·.files.get y) f2).trans (hfiles y), fun u hu => ?_⟩
  · rw [f2, f1, p1, hfiles]
    by_cases e : p = w.root
    · rw [if_pos e]; rfl
    · rw [if_neg e]; exact h.pinv.rootIdx
  · show _ = succG (updateResolved (putFile cfg w p c (includesOf w p)) p c).incG u
    rw [f3, succG_putFile, if_neg (Ne.symm hu)]

/-- `fs0` is the directory the invariant holds for before the call, `fsd` is `fs0` with the new
    text `c` at `p`, for which it holds afterwards, and `fsr` is the disk the refresh reads: it
    agrees with `fsd` except possibly at `p` (didChange arrives before the file is written). -/
theorem updateFile_ok (cfg : Cfg) (fs0 fsd fsr : FS) (w : WS) (p : String)
    (c : Contrib) (h : WInv cfg fs0 w) (hok : fsOk fsd = true)
    (hp : fsd.get p = some c) (hfsd : ∀ y, y ≠ p → fsd.get y = fs0.get y)
    (hfsr : ∀ y, y ≠ p → fsr.get y = fsd.get y) :
    WInv cfg fsd (updateFile cfg fsr w p c) ∧ (updateFile cfg fsr w p c).root = w.root := by
  obtain ⟨hpne, hcok⟩ := fsOk_get fsd hok p c hp
  rw [updateFile_eq, if_neg hpne, if_neg h.pinv.root_ne]
  cases hacc : isWorkspaceFile w p with
  | false => exact ⟨winv_of_rejected cfg fs0 fsd w p h hfsd hacc, rfl⟩
  | true =>
    rw [if_neg (by simp)]
    obtain ⟨hpinv4, hnone4, hroot4, hfiles, hsucc4⟩ := stored_ok cfg fs0 fsd w p c h hpne hcok hp hfsd
    generalize clearCaches (updateResolved (putFile cfg w p c (includesOf w p)) p c) = w4 at *
    have hpreach0 : Reach fs0 w.root p := accepted_reach cfg fs0 w h p hacc
    by_cases hsame : includesOf w p = (mkFileIdx p c).includes
    · -- include list unchanged: no refresh
      rw [if_neg (not_not_intro hsame)]
      refine ⟨⟨hpinv4, ?_, cacheOk_of_none w4 hnone4⟩, hroot4⟩
      -- the old and the new text of p have the same include targets (up to p itself)
      have hold0 : resolveIncl p (succs fs0 p) = includesOf w p := by
        cases e : w.idx.files.get p with
        | some fi =>
          obtain ⟨c0, hc0, hfi0⟩ := h.pinv.g.fresh p fi e
          rw [includesOf_eq w p fi e, hfi0, succs, hc0]; rfl
        | none =>
          have : fs0.get p = none := by
            cases e2 : fs0.get p with
            | none => rfl
            | some _ => exact absurd ((h.closed p).mpr ⟨hpreach0, e2 ▸ rfl⟩) (by rw [e]; nofun)
          rw [includesOf_none w p e, succs, this]; rfl
      have hedge : ∀ u v, v ≠ u → (v ∈ succs fs0 u ↔ v ∈ succs fsd u) := by
        intro u v hvu
        by_cases e : u = p
        · subst e
          have e3 : resolveIncl u (succs fsd u) = resolveIncl u (succs fs0 u) := by
            rw [hold0, hsame, succs, hp]; rfl
          have e1 := mem_resolveIncl u (succs fs0 u) v
          have e2 := e3 ▸ mem_resolveIncl u (succs fsd u) v
          exact ⟨fun hv => (e2.mp (e1.mpr ⟨hv, hvu⟩)).1, fun hv => (e1.mp (e2.mpr ⟨hv, hvu⟩)).1⟩
        · rw [succs, succs, hfsd u e]
      have hreach : ∀ x, Reach fsd w.root x ↔ Reach fs0 w.root x := fun x =>
        ⟨fun hx => reachS_mod_self (fun u v hvu hv => (hedge u v hvu).mpr hv) hx,
         fun hx => reachS_mod_self (fun u v hvu hv => (hedge u v hvu).mp hv) hx⟩
      intro y
      rw [hroot4, hfiles y, hreach y]
      by_cases e : p = y
      · subst e; rw [if_pos rfl]; exact ⟨fun _ => ⟨hpreach0, hp ▸ rfl⟩, fun _ => rfl⟩
      · rw [if_neg e, h.closed y, hfsd y fun h => e h.symm]
    · -- include list changed: refreshIncludeTreeLocked
      rw [if_pos hsame]
      have hag : Agree fsr fsd w4 := by
        intro q hq
        rw [hfiles q] at hq
        by_cases e : p = q
        · rw [if_pos e] at hq; cases hq
        · exact hfsr q fun h => e h.symm
      have hkeep : Keep fsr fsd w4 := by
        intro q hq
        have hqp : q = p := Classical.byContradiction fun hne => hq (hfsr q hne)
        subst hqp
        rw [hroot4]
        exact reachS_target_indep hsucc4 (reach_fs_to_G cfg fs0 w h q hpreach0)
      have := refresh_ok cfg fsr fsd w4 hok hpinv4 hnone4 hag hkeep
      exact ⟨⟨this.pinv, this.closed, cacheOk_of_none _ this.none⟩, this.root.trans hroot4⟩

def newF (w : WS) : Option (AList String) := match w.cFormats with
  | some f => some f
  | none => if !w.hasResolved then none else some (computeFormats w)
def newC (w : WS) : Option (List String) := match w.cComms with
  | some f => some f
  | none => if !w.hasResolved then none else some (computeComms w)
def newA (w : WS) : Option (List String) := match w.cAccts with
  | some f => some f
  | none => if !w.hasResolved then none else some (computeAccts w)

theorem getFormats_eq (w : WS) : getFormats w = (newF w, { w with cFormats := newF w }) := by
  obtain ⟨root, idx, incG, revG, hasResolved, primary, rfiles, order, cFormats, cComms, cAccts⟩ := w
  cases cFormats <;> cases hasResolved <;> rfl

theorem getComms_eq (w : WS) : getComms w = (newC w, { w with cComms := newC w }) := by
  obtain ⟨root, idx, incG, revG, hasResolved, primary, rfiles, order, cFormats, cComms, cAccts⟩ := w
  cases cComms <;> cases hasResolved <;> rfl

theorem getAccts_eq (w : WS) : getAccts w = (newA w, { w with cAccts := newA w }) := by
  obtain ⟨root, idx, incG, revG, hasResolved, primary, rfiles, order, cFormats, cComms, cAccts⟩ := w
  cases cAccts <;> cases hasResolved <;> rfl

theorem observe_eq (w : WS) : observe w =
    ({ members := isort w.idx.files.keys, idx := w.idx, formats := newF w, comms := newC w, accts := newA w },
     { w with cFormats := newF w, cComms := newC w, cAccts := newA w }) := by
  simp only [observe, getFormats_eq, getComms_eq, getAccts_eq]
  rfl

theorem observe_snd (w : WS) :
    (observe w).2 = { w with cFormats := newF w, cComms := newC w, cAccts := newA w } :=
  congrArg Prod.snd (observe_eq w)

theorem observe_fst (w : WS) :
    (observe w).1 = { members := isort w.idx.files.keys, idx := w.idx, formats := newF w,
                      comms := newC w, accts := newA w } :=
  congrArg Prod.fst (observe_eq w)

theorem newF_some (w : WS) (hres : w.hasResolved = true)
    (hc : ∀ f, w.cFormats = some f → f = computeFormats w) : newF w = some (computeFormats w) := by
  unfold newF
  cases e : w.cFormats with
  | some f => rw [hc f e]
  | none => rw [hres]; rfl

theorem newC_some (w : WS) (hres : w.hasResolved = true)
    (hc : ∀ f, w.cComms = some f → f = computeComms w) : newC w = some (computeComms w) := by
  unfold newC
  cases e : w.cComms with
  | some f => rw [hc f e]
  | none => rw [hres]; rfl

theorem newA_some (w : WS) (hres : w.hasResolved = true)
    (hc : ∀ f, w.cAccts = some f → f = computeAccts w) : newA w = some (computeAccts w) := by
  unfold newA
  cases e : w.cAccts with
  | some f => rw [hc f e]
  | none => rw [hres]; rfl

theorem observe_winv (cfg : Cfg) (fs : FS) (w : WS) (h : WInv cfg fs w) :
    WInv cfg fs (observe w).2 := by
  rw [observe_snd]
  exact ⟨⟨h.pinv.root_ne, h.pinv.rootIdx,
    ⟨h.pinv.g.idx, h.pinv.g.fresh, h.pinv.g.incOk, h.pinv.g.revOk⟩,
    ⟨h.pinv.r.has, h.pinv.r.primary, h.pinv.r.rfiles, h.pinv.r.order⟩⟩, h.closed,
    fun f hf => Option.some.inj (hf.symm.trans (newF_some w h.pinv.r.has h.cache.1)),
    fun f hf => Option.some.inj (hf.symm.trans (newC_some w h.pinv.r.has h.cache.2.1)),
    fun f hf => Option.some.inj (hf.symm.trans (newA_some w h.pinv.r.has h.cache.2.2))⟩

end HL.Lemmas.Update
