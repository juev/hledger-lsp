/-
  Lemmas relating the model of the configuration code (HL.Model.Settings) to the
  statement's rule (HL.Spec.SettingsSpec), for C19.
-/
import HL.Lemmas.Settings

namespace HL.Lemmas.SettingsSpec
open HL.Settings HL.Lemmas.Settings
open HL.SettingsSpec (asciiBlank asciiLower stripBlanks isAscii isDigitC isLetter)

theorem blank_isSpace (c : Char) (h : asciiBlank c = true) : isSpace c = true := by
  unfold asciiBlank at h
  unfold isSpace
  dsimp only
  generalize (decide (9 ≤ c.toNat) && decide (c.toNat ≤ 13)) = a at h ⊢
  generalize (c.toNat == 32) = b at h ⊢
  cases a <;> cases b <;> first | rfl | cases h

theorem isSpace_ascii (c : Char) (h : isAscii c = true) : isSpace c = asciiBlank c := by
  unfold isAscii at h
  simp only [decide_eq_true_eq] at h
  rw [Bool.eq_iff_iff]
  unfold asciiBlank isSpace
  simp only [Bool.or_eq_true, Bool.and_eq_true, beq_iff_eq, decide_eq_true_eq]
  omega

theorem isDigitC_eq (c : Char) : isDigitC c = isDigit c := rfl

theorem dropWhile_congr {α : Type} {p q : α → Bool} (l : List α) (h : ∀ c ∈ l, p c = q c) :
    l.dropWhile p = l.dropWhile q := by
  induction l with
  | nil => rfl
  | cons a l ih =>
    have ha := h a (List.mem_cons_self ..)
    simp only [List.dropWhile_cons, ha]
    split
    · exact ih (fun c hc => h c (List.mem_cons_of_mem _ hc))
    · rfl

theorem dropWhile_all_append {α : Type} {p : α → Bool} (u r : List α) (hu : ∀ c ∈ u, p c = true) :
    (u ++ r).dropWhile p = r.dropWhile p := by
  induction u with
  | nil => rfl
  | cons a u ih =>
    simp only [List.cons_append, List.dropWhile_cons, hu a (List.mem_cons_self ..), if_true]
    exact ih (fun c hc => hu c (List.mem_cons_of_mem _ hc))

theorem trim_decomp (p : Char → Bool) (u y w : List Char) (hu : ∀ c ∈ u, p c = true)
    (hw : ∀ c ∈ w, p c = true) (a b : Char) (ya yb : List Char)
    (hya : y = a :: ya) (hyb : y = yb ++ [b]) (ha : p a = false) (hb : p b = false) :
    dropTrailing p ((u ++ y ++ w).dropWhile p) = y := by
  rw [List.append_assoc, dropWhile_all_append u _ hu]
  have h1 : (y ++ w).dropWhile p = y ++ w := by
    rw [hya]; simp [ha]
  rw [h1]
  unfold dropTrailing
  rw [List.reverse_append, dropWhile_all_append w.reverse _ (fun c hc => hw c (List.mem_reverse.mp hc))]
  rw [hyb]
  simp [hb]

theorem takeWhile_all {α : Type} {p : α → Bool} (l : List α) : ∀ c ∈ l.takeWhile p, p c = true := by
  intro c hc
  induction l with
  | nil => simp at hc
  | cons a l ih =>
    simp only [List.takeWhile_cons] at hc
    split at hc
    · rename_i h
      rcases List.mem_cons.mp hc with rfl | hc
      · exact h
      · exact ih hc
    · simp at hc

theorem strip_decomp (p : Char → Bool) (l : List Char) :
    ∃ u w, l = u ++ dropTrailing p (l.dropWhile p) ++ w ∧ (∀ c ∈ u, p c = true) ∧
      (∀ c ∈ w, p c = true) := by
  refine ⟨l.takeWhile p, ((l.dropWhile p).reverse.takeWhile p).reverse, ?_, takeWhile_all l, ?_⟩
  · unfold dropTrailing
    have h1 : l.takeWhile p ++ l.dropWhile p = l := List.takeWhile_append_dropWhile
    have h2 : (l.dropWhile p).reverse.takeWhile p ++ (l.dropWhile p).reverse.dropWhile p =
        (l.dropWhile p).reverse := List.takeWhile_append_dropWhile
    have h3 : ((l.dropWhile p).reverse.dropWhile p).reverse ++ ((l.dropWhile p).reverse.takeWhile p).reverse
        = l.dropWhile p := by
      rw [← List.reverse_append, h2, List.reverse_reverse]
    rw [List.append_assoc, h3, h1]
  · intro c hc
    exact takeWhile_all _ c (List.mem_reverse.mp hc)

theorem stripBlanks_eq (l : List Char) : stripBlanks l = dropTrailing asciiBlank (l.dropWhile asciiBlank) := rfl

theorem trimSpace_eq (l : List Char) : trimSpace l = dropTrailing isSpace (l.dropWhile isSpace) := rfl

/-- If the ASCII-stripped text starts and ends with characters that are no Unicode white
    space, Go's `TrimSpace` yields exactly that text. -/
theorem trimSpace_of_strip (l y : List Char) (h : stripBlanks l = y) (a b : Char) (ya yb : List Char)
    (hya : y = a :: ya) (hyb : y = yb ++ [b]) (ha : isSpace a = false) (hb : isSpace b = false) :
    trimSpace l = y := by
  obtain ⟨u, w, hl, hu, hw⟩ := strip_decomp asciiBlank l
  rw [← stripBlanks_eq, h] at hl
  rw [trimSpace_eq]
  conv => lhs; rw [hl]
  exact trim_decomp isSpace u y w (fun c hc => blank_isSpace c (hu c hc))
    (fun c hc => blank_isSpace c (hw c hc)) a b ya yb hya hyb ha hb

theorem trimSpace_ascii (l : List Char) (h : ∀ c ∈ l, isAscii c = true) : trimSpace l = stripBlanks l := by
  rw [trimSpace_eq, stripBlanks_eq]
  have h1 : l.dropWhile isSpace = l.dropWhile asciiBlank :=
    dropWhile_congr l (fun c hc => isSpace_ascii c (h c hc))
  rw [h1]
  unfold dropTrailing
  congr 1
  apply dropWhile_congr
  intro c hc
  exact isSpace_ascii c (h c ((List.dropWhile_sublist _).subset (List.mem_reverse.mp hc)))


theorem lowerAscii_ascii (c : Char) (h : isAscii c = true) : isAscii (lowerAscii c) = true := by
  unfold lowerAscii
  split
  · rename_i hc
    simp only [Bool.and_eq_true, decide_eq_true_eq] at hc
    unfold isAscii
    have upper : ∀ n < 91, 65 ≤ n → (Char.ofNat (n + 32)).toNat = n + 32 := by decide
    rw [upper c.toNat (by omega) hc.1]
    simp only [decide_eq_true_eq]; omega
  · exact h

theorem map_lower_eq (l : List Char) : l.map asciiLower = l.map lowerAscii := by
  apply List.map_congr_left
  intro c _
  simp only [asciiLower, lowerAscii, Bool.and_eq_true, decide_eq_true_eq]

theorem true_toList : "true".toList = ['t', 'r', 'u', 'e'] := by decide
theorem false_toList : "false".toList = ['f', 'a', 'l', 's', 'e'] := by decide

open HL.SettingsSpec in
theorem readFlag_good (j : Json) (g : Val) (h : readFlag j = .good g) :
    ∃ b, g = .b b ∧ toBool j = some b := by
  cases j with
  | bool b => simp only [readFlag, Class.good.injEq] at h; exact ⟨b, h.symm, rfl⟩
  | str s =>
    simp only [readFlag] at h
    rw [map_lower_eq] at h
    split at h
    · rename_i ht
      simp only [Class.good.injEq] at h
      refine ⟨true, h.symm, ?_⟩
      have := trimSpace_of_strip _ _ ht 't' 'e' ['r', 'u', 'e'] ['t', 'r', 'u'] rfl rfl (by decide) (by decide)
      simp only [HL.Settings.toBool, this, true_toList, if_true]
    · split at h
      · rename_i hf ht
        simp only [Class.good.injEq] at h
        refine ⟨false, h.symm, ?_⟩
        have := trimSpace_of_strip _ _ ht 'f' 'e' ['a', 'l', 's', 'e'] ['f', 'a', 'l', 's'] rfl rfl (by decide) (by decide)
        simp only [HL.Settings.toBool, this, true_toList, false_toList, if_true]
        simp
      · split at h <;> cases h
  | _ => cases h

open HL.SettingsSpec in
theorem readFlag_bad (j : Json) (h : readFlag j = .bad) : toBool j = none := by
  cases j with
  | bool b => cases h
  | str s =>
    simp only [readFlag] at h
    rw [map_lower_eq] at h
    split at h
    · cases h
    · split at h
      · cases h
      · rename_i hnt hnf
        split at h
        · rename_i hascii
          have hall : ∀ c ∈ s.toList.map lowerAscii, isAscii c = true := by
            intro c hc
            obtain ⟨c0, hc0, rfl⟩ := List.mem_map.mp hc
            exact lowerAscii_ascii c0 (List.all_eq_true.mp hascii c0 hc0)
          have := trimSpace_ascii _ hall
          simp only [HL.Settings.toBool, this, true_toList, false_toList, hnt, hnf, if_false]
        · cases h
  | _ => rfl


theorem toInt64_eq_toInt (j : Json) : toInt64 j = toInt j := by
  cases j <;> rfl

open HL.SettingsSpec in
theorem integral_trunc (m e v : Int) (h : integral m e = some v) : truncNum m e = v := by
  unfold integral at h
  unfold truncNum
  split at h
  · rename_i he
    simp only [Option.some.injEq] at h
    simp only [he, if_true, h]
  · rename_i he
    split at h
    · rename_i hd
      simp only [Option.some.injEq] at h
      simp only [he, if_false]
      rw [Int.tdiv_eq_ediv_of_dvd (Int.dvd_of_emod_eq_zero hd)]
      exact h
    · cases h

/-- inside int64 the conversion is the truncation -/
theorem f64ToInt_of_inInt64 (m e : Int) (h : inInt64 (truncNum m e) = true) :
    f64ToInt m e = truncNum m e := by
  simp only [f64ToInt, h, if_true]

theorem digitsVal_of_all (r : List Char) (acc : Nat) (hne : r ≠ []) (h : r.all isDigit = true) :
    digitsVal r acc = some (r.foldl (fun a c => a * 10 + (c.toNat - 48)) acc) := by
  induction r generalizing acc with
  | nil => exact absurd rfl hne
  | cons c r ih =>
    simp only [List.all_cons, Bool.and_eq_true] at h
    cases r with
    | nil => exact if_pos h.1
    | cons d r =>
      rw [List.foldl_cons]
      exact (if_pos h.1).trans (ih (acc * 10 + (c.toNat - 48)) (List.cons_ne_nil _ _) h.2)

theorem digitsVal_some_all (r : List Char) (acc n : Nat) (h : digitsVal r acc = some n) :
    r.all isDigit = true := by
  induction r generalizing acc with
  | nil => simp [digitsVal] at h
  | cons c r ih =>
    cases r with
    | nil =>
      simp only [digitsVal] at h
      split at h
      · rename_i hc; simp [hc]
      · cases h
    | cons d r =>
      rw [digitsVal] at h
      · split at h
        · rename_i hc
          simp only [List.all_cons, hc, Bool.true_and]
          exact ih _ h
        · cases h
      · simp

open HL.SettingsSpec in
theorem atoi_of_decimalInt (l : List Char) (v : Int) (h : decimalInt l = some v)
    (h1 : -9223372036854775808 < v) (h2 : v < 9223372036854775808) : atoi l = some v := by
  have body : ∀ r : List Char, ∀ n : Nat,
      (if r ≠ [] ∧ r.all isDigitC = true then some (natOfDigits r) else none) = some n →
      digitsVal r 0 = some n := by
    intro r n hb
    split at hb
    · rename_i hr
      simp only [Option.some.injEq] at hb
      rw [digitsVal_of_all r 0 hr.1 hr.2, ← hb]
      rfl
    · cases hb
  have toNat63 : pow63.toNat = 9223372036854775808 := by decide
  -- both read an optional sign and then the digits; only the range test is `atoi`'s own
  unfold decimalInt at h
  unfold atoi
  split at h <;>
    (simp only [Option.map_eq_some_iff] at h
     obtain ⟨n, hn, rfl⟩ := h
     simp only [Int.ofNat_eq_natCast] at h1 h2 ⊢
     rw [body _ n hn]
     simp only [toNat63, Option.bind_some])
  · exact if_pos (by omega)
  · exact if_pos (by omega)
  · exact if_pos (by omega)

theorem letter_not_digit (c : Char) (h : isLetter c = true) : isDigit c = false := by
  unfold isLetter at h
  unfold isDigit
  simp only [Bool.or_eq_true, Bool.and_eq_true, decide_eq_true_eq] at h
  simp only [Bool.and_eq_false_iff, decide_eq_false_iff_not]
  omega

theorem letter_not_blank (c : Char) (h : isLetter c = true) : asciiBlank c = false := by
  unfold isLetter at h
  unfold asciiBlank
  simp only [Bool.or_eq_true, Bool.and_eq_true, decide_eq_true_eq] at h
  simp only [Bool.or_eq_false_iff, beq_eq_false_iff_ne, Bool.and_eq_false_iff, decide_eq_false_iff_not]
  omega

theorem atoi_none_of_letter (l : List Char) (c : Char) (hc : c ∈ l) (hl : isLetter c = true) :
    atoi l = none := by
  have nd : ∀ r : List Char, c ∈ r → digitsVal r 0 = none := by
    intro r hr
    cases hd : digitsVal r 0 with
    | none => rfl
    | some n =>
      have := List.all_eq_true.mp (digitsVal_some_all r 0 n hd) c hr
      rw [letter_not_digit c hl] at this
      cases this
  have notSign : c ≠ '+' ∧ c ≠ '-' := by
    constructor <;> (intro h; subst h; revert hl; decide)
  unfold atoi
  split
  · rename_i r
    rcases List.mem_cons.mp hc with h | h
    · exact absurd h notSign.1
    · simp [nd r h]
  · rename_i r
    rcases List.mem_cons.mp hc with h | h
    · exact absurd h notSign.2
    · simp [nd r h]
  · simp [nd l hc]

theorem mem_strip (p : Char → Bool) (l : List Char) (c : Char) (hc : c ∈ l) (hp : p c = false) :
    c ∈ dropTrailing p (l.dropWhile p) := by
  obtain ⟨u, w, hl, hu, hw⟩ := strip_decomp p l
  rw [hl] at hc
  simp only [List.mem_append] at hc
  rcases hc with (h | h) | h
  · rw [hu c h] at hp; cases hp
  · exact h
  · rw [hw c h] at hp; cases hp


theorem digit_not_space (c : Char) (h : isDigit c = true) : isSpace c = false := by
  unfold isDigit at h
  simp only [Bool.and_eq_true, decide_eq_true_eq] at h
  unfold isSpace
  simp only [Bool.or_eq_false_iff, Bool.and_eq_false_iff, decide_eq_false_iff_not,
    beq_eq_false_iff_ne]
  omega

open HL.SettingsSpec in
theorem decimalInt_shape (y : List Char) (v : Int) (h : decimalInt y = some v) :
    ∃ a ya yb b, y = a :: ya ∧ y = yb ++ [b] ∧ isSpace a = false ∧ isSpace b = false := by
  have last_digit : ∀ r : List Char, (hne : r ≠ []) → r.all isDigitC = true →
      isSpace (r.getLast hne) = false := by
    intro r hne hall
    exact digit_not_space _ (List.all_eq_true.mp hall _ (List.getLast_mem hne))
  have body_some : ∀ r : List Char, ∀ n : Nat,
      (if r ≠ [] ∧ r.all isDigitC = true then some (natOfDigits r) else none) = some n →
      r ≠ [] ∧ r.all isDigitC = true := by
    intro r n hb
    split at hb
    · assumption
    · cases hb
  -- the text is a sign or a digit followed by digits, and no digit or sign is white space
  unfold decimalInt at h
  split at h <;>
    (simp only [Option.map_eq_some_iff] at h
     obtain ⟨n, hn, _⟩ := h
     obtain ⟨hne, hall⟩ := body_some _ n hn)
  · exact ⟨'+', _, '+' :: List.dropLast _, List.getLast _ hne, rfl,
      by rw [List.cons_append, List.dropLast_concat_getLast], by decide, last_digit _ hne hall⟩
  · exact ⟨'-', _, '-' :: List.dropLast _, List.getLast _ hne, rfl,
      by rw [List.cons_append, List.dropLast_concat_getLast], by decide, last_digit _ hne hall⟩
  · cases y with
    | nil => exact absurd rfl hne
    | cons a ya =>
      exact ⟨a, ya, (a :: ya).dropLast, (a :: ya).getLast hne, rfl,
        (List.dropLast_concat_getLast hne).symm,
        digit_not_space a (List.all_eq_true.mp hall a (List.mem_cons_self ..)),
        last_digit _ hne hall⟩

open HL.SettingsSpec in
theorem readInt_good (bound v : Int) (j : Json) (hb : bound ≤ 9223372036854775808)
    (h : readInt bound j = some (some v)) : toInt j = some v ∧ -bound < v ∧ v < bound := by
  cases j with
  | num m e =>
    simp only [readInt] at h
    split at h
    · rename_i v' hi
      split at h
      · rename_i hc
        simp only [Option.some.injEq] at h
        subst h
        refine ⟨?_, hc.1, hc.2.1⟩
        have ht := integral_trunc m e v' hi
        -- exact below 2^53, hence inside int64
        have hin : inInt64 (truncNum m e) = true := by
          rw [ht]
          unfold two53 at hc
          unfold inInt64 minInt64 pow63
          simp only [Bool.and_eq_true, decide_eq_true_eq]
          omega
        simp only [toInt, f64ToInt_of_inInt64 m e hin, ht]
      · cases h
    · cases h
  | str s =>
    simp only [readInt] at h
    split at h
    · rename_i v' hd
      split at h
      · rename_i hc
        simp only [Option.some.injEq] at h
        subst h
        refine ⟨?_, hc.1, hc.2⟩
        obtain ⟨a, ya, yb, b, h1, h2, h3, h4⟩ := decimalInt_shape _ _ hd
        have ht := trimSpace_of_strip s.toList _ rfl a b ya yb h1 h2 h3 h4
        simp only [toInt, ht]
        have hne : (stripBlanks s.toList).isEmpty = false := by rw [h1]; rfl
        simp only [hne, Bool.false_eq_true, if_false]
        exact atoi_of_decimalInt _ _ hd (by omega) (by omega)
      · cases h
    · split at h
      · cases h
      · split at h <;> cases h
  | _ => cases h

open HL.SettingsSpec in
theorem readInt_bad (bound : Int) (j : Json) (h : readInt bound j = none) : toInt j = none := by
  cases j with
  | num m e =>
    simp only [readInt] at h
    split at h
    · split at h <;> cases h
    · cases h
  | str s =>
    simp only [readInt] at h
    split at h
    · split at h <;> cases h
    · split at h
      · cases h
      · rename_i hascii
        split at h
        · rename_i hbad
          simp only [Bool.not_eq_true', Bool.not_eq_false] at hascii
          have ht := trimSpace_ascii s.toList (fun c hc => List.all_eq_true.mp hascii c hc)
          simp only [toInt, ht]
          split
          · rfl
          · rename_i hne
            simp only [Bool.or_eq_true] at hbad
            rcases hbad with hl | he
            · obtain ⟨c, hc, hlc⟩ := List.any_eq_true.mp hl
              exact atoi_none_of_letter _ c (mem_strip asciiBlank _ c hc (letter_not_blank c hlc)) hlc
            · exact absurd he hne
        · cases h
  | _ => rfl


open HL.SettingsSpec in
theorem agree_refl (l : Leaf) (v : Val) : agree l v v = true := by
  simp [agree]

open HL.SettingsSpec in
/-- **Reading one value.**  If the statement calls the value well-typed, the code's coercion
    accepts it and the stored (normalised) value is the validated one; if the statement calls
    it ill-typed, the coercion rejects it. -/
theorem read_vs_coerce (l : Leaf) (j : Json) :
    match readLeaf l j with
    | .good g => ∃ w, coerceLeaf l j = some w ∧ agree l g (normLeaf l w) = true
    | .bad => coerceLeaf l j = none
    | .unspec => True := by
  cases hk : kindOf l with
  | flag =>
    have hc : coerceLeaf l j = (toBool j).map .b := by
      cases l <;> first | rfl | cases hk
    have hn : ∀ w, normLeaf l w = w := by
      intro w; rw [normLeaf_eq]; cases l <;> first | rfl | cases hk
    simp only [readLeaf, hk]
    cases hr : readFlag j with
    | good g =>
      obtain ⟨b, rfl, hb⟩ := readFlag_good j g hr
      exact ⟨.b b, by rw [hc, hb]; rfl, by rw [hn]; exact agree_refl _ _⟩
    | bad => simp only [hc, readFlag_bad j hr, Option.map_none]
    | unspec => trivial
  | text =>
    have hl : l = .xPath := by cases l <;> first | rfl | cases hk
    subst hl
    simp only [readLeaf, kindOf]
    cases j with
    | str s =>
      refine ⟨.s s, rfl, ?_⟩
      rw [normLeaf_eq]
      by_cases hs : s = ""
      · simp [hs, agree, normVal, HL.Settings.get, defaults]
      · simp [hs, agree, normVal]
    | _ => rfl
  | count =>
    by_cases ht : l = .xTimeout
    · subst ht
      simp only [readLeaf, kindOf, if_true]
      have hc : coerceLeaf .xTimeout j = (toInt j).map fun n => .i (wrap64 (n * millisecond)) := rfl
      cases hr : readInt 9223372036854 j with
      | none => simp only [hc, readInt_bad _ j hr, Option.map_none]
      | some o =>
        cases o with
        | none => trivial
        | some v =>
          obtain ⟨hi, h1, h2⟩ := readInt_good _ v j (by omega) hr
          refine ⟨.i (v * 1000000), ?_, ?_⟩
          · rw [hc, hi]
            simp only [Option.map_some, millisecond]
            rw [wrap64_small _ (by omega) (by omega)]
          · rw [normLeaf_eq]
            simp only [validCount, maxOf, normVal, HL.Settings.get, defaults, millisecond]
            by_cases hv : v * 1000000 ≤ 0
            · simp [hv, agree]
            · simp [hv, agree]
    · simp only [readLeaf, hk, ht, if_false]
      have hc : coerceLeaf l j = (toInt j).map .i := by
        cases l <;> cases hk <;> first | rfl | exact absurd rfl ht | exact congrArg _ (toInt64_eq_toInt j)
      cases hr : readInt two63 j with
      | none => simp only [hc, readInt_bad _ j hr, Option.map_none]
      | some o =>
        cases o with
        | none => trivial
        | some v =>
          obtain ⟨hi, _, _⟩ := readInt_good _ v j (by unfold two63; omega) hr
          refine ⟨.i v, by rw [hc, hi]; rfl, ?_⟩
          rw [normLeaf_eq, agree, decide_eq_true_eq]
          unfold validCount
          cases l <;> cases hk <;> first | exact absurd rfl ht |
            simp only [maxOf, normVal, HL.Settings.get, defaults, defaultLimits, apply_ite Val.i,
              Int.reduceMul]
          -- `minAlignmentColumn`: the rule's `≤ 0` and the code's `< 0` differ at 0, where both give 0
          by_cases h0 : v = 0
          · subst h0; rfl
          · simp only [show v ≤ 0 ↔ v < 0 by omega]


theorem find_eq_lookup (k : String) (m : List (String × Json)) :
    HL.SettingsSpec.find k m = lookup k m := by
  induction m with
  | nil => rfl
  | cons a m ih =>
    obtain ⟨a, v⟩ := a
    simp only [HL.SettingsSpec.find, lookup, ih]

/-- every statement of `applySettingsMap` reads a documented key, in its nested or its
    dotted form -/
theorem table_sound :
    (keyTable.all fun e => HL.SettingsSpec.docTree.any fun (sec, name, l) =>
      decide (l = e.leaf) && (decide (e = ⟨some sec, name, l⟩) ||
        decide (e = ⟨none, sec ++ "." ++ name, l⟩))) = true := by
  decide +kernel

/-- every documented key is read, in both forms -/
theorem table_complete :
    (HL.SettingsSpec.docTree.all fun (sec, name, l) =>
      keyTable.contains ⟨some sec, name, l⟩ && keyTable.contains ⟨none, sec ++ "." ++ name, l⟩) = true := by
  decide +kernel

theorem coerce_null (l : Leaf) : coerceLeaf l .null = none := coerceLeaf_none l rfl rfl rfl rfl

open HL.SettingsSpec in
theorem mem_mentionsIn (l : Leaf) (m : List (String × Json)) (c : Class) :
    c ∈ mentionsIn l m ↔ ∃ sec name, (sec, name, l) ∈ docTree ∧
      ((∃ o v, find sec m = some (.obj o) ∧ find name o = some v ∧ c = readLeaf l v) ∨
       (∃ v, find (sec ++ "." ++ name) m = some v ∧ c = readLeaf l v)) := by
  -- the definition, read through its two `match`es
  unfold mentionsIn
  simp only [List.mem_flatMap]
  constructor
  · rintro ⟨⟨sec, name, l'⟩, hmem, hc⟩
    simp only at hc
    split at hc
    · rename_i hl
      subst hl
      refine ⟨sec, name, hmem, ?_⟩
      rcases List.mem_append.mp hc with h | h
      · left
        split at h
        · rename_i o ho
          split at h
          · rename_i v hv
            simp only [List.mem_singleton] at h
            exact ⟨o, v, ho, hv, h⟩
          · simp at h
        · simp at h
      · right
        split at h
        · rename_i v hv
          simp only [List.mem_singleton] at h
          exact ⟨v, hv, h⟩
        · simp at h
    · simp at hc
  · rintro ⟨sec, name, hmem, h⟩
    refine ⟨(sec, name, l), hmem, ?_⟩
    simp only [if_true]
    apply List.mem_append.mpr
    rcases h with ⟨o, v, ho, hv, rfl⟩ | ⟨v, hv, rfl⟩
    · left; simp [ho, hv]
    · right; simp [hv]

open HL.SettingsSpec in
/-- model → statement: a statement of `applySettingsMap` that finds a value it can coerce
    reads a place the statement's rule also looks at -/
theorem mention_of_candidate (l : Leaf) (m : List (String × Json)) (e : Entry) (w : Val)
    (he : e ∈ keyTable) (hl : e.leaf = l) (hw : coerceLeaf l (entryRaw m e) = some w) :
    readLeaf l (entryRaw m e) ∈ mentionsIn l m := by
  -- the entry reads a documented key (`table_sound`); an absent key or section reads `null`,
  -- which no coercion accepts, so the value coerced was really found there
  have hs := List.all_eq_true.mp table_sound e he
  obtain ⟨⟨sec, name, l'⟩, hmem, hcond⟩ := List.any_eq_true.mp hs
  simp only [Bool.and_eq_true, Bool.or_eq_true, decide_eq_true_eq] at hcond
  obtain ⟨hl', hform⟩ := hcond
  have hll : l' = l := hl'.trans hl
  subst hll
  rw [mem_mentionsIn]
  refine ⟨sec, name, hmem, ?_⟩
  rcases hform with rfl | rfl
  · left
    simp only [entryRaw, getKey] at hw ⊢
    cases h1 : lookup sec m with
    | none => simp [h1, coerce_null] at hw
    | some v1 =>
      simp only [h1, Option.getD_some] at hw ⊢
      cases v1 with
      | obj o =>
        simp only at hw ⊢
        cases h2 : lookup name o with
        | none => simp [h2, coerce_null] at hw
        | some v => exact ⟨o, v, by rw [find_eq_lookup, h1], by rw [find_eq_lookup, h2], by simp⟩
      | _ => simp [coerce_null] at hw
  · right
    simp only [entryRaw, getKey] at hw ⊢
    cases h1 : lookup (sec ++ "." ++ name) m with
    | none => simp [h1, coerce_null] at hw
    | some v => exact ⟨v, by rw [find_eq_lookup, h1], by simp⟩

open HL.SettingsSpec in
/-- statement → model: every place the rule looks at is read by some statement -/
theorem candidate_of_mention (l : Leaf) (m : List (String × Json)) (c : Class)
    (hc : c ∈ mentionsIn l m) :
    ∃ e ∈ keyTable, e.leaf = l ∧ c = readLeaf l (entryRaw m e) := by
  rw [mem_mentionsIn] at hc
  obtain ⟨sec, name, hmem, h⟩ := hc
  have ht := List.all_eq_true.mp table_complete (sec, name, l) hmem
  simp only [Bool.and_eq_true, List.contains_eq_mem, decide_eq_true_eq] at ht
  rcases h with ⟨o, v, ho, hv, rfl⟩ | ⟨v, hv, rfl⟩
  · refine ⟨⟨some sec, name, l⟩, ht.1, rfl, ?_⟩
    rw [find_eq_lookup] at ho hv
    simp [entryRaw, getKey, ho, hv]
  · refine ⟨⟨none, sec ++ "." ++ name, l⟩, ht.2, rfl, ?_⟩
    rw [find_eq_lookup] at hv
    simp [entryRaw, getKey, hv]


open HL.SettingsSpec in
theorem mem_goods (cs : List Class) (g : Val) : g ∈ goods cs ↔ Class.good g ∈ cs := by
  induction cs with
  | nil => simp [goods]
  | cons c cs ih =>
    cases c with
    | good v => simp [goods, ih]
    | bad => simp [goods, ih]
    | unspec => simp [goods, ih]

open HL.SettingsSpec in
theorem goods_append (a b : List Class) : goods (a ++ b) = goods a ++ goods b := by
  induction a with
  | nil => rfl
  | cons c a ih => cases c <;> simp [goods, ih]

theorem leaf_mem_all (l : Leaf) : l ∈ Leaf.all := by cases l <;> decide

end HL.Lemmas.SettingsSpec
