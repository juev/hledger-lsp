/-
  Counters (`map[string]int`) of the workspace index: `addAll` adds, `subAll` subtracts a
  file's counts; nested tag-value counters.  A nested counter and the transaction index store
  no empty inner value (`put`), which reduces `tvDec` to `decrementBy` on the inner counter.
-/
import HL.Lemmas.AList
import HL.Spec.Rebuild
namespace HL.Lemmas.Counter
open HL.Index HL.Lemmas.AList HL.Spec.Rebuild

/-- every stored count is positive -/
def Pos (m : AList Nat) : Prop := ∀ k n, m.get k = some n → 0 < n

theorem cnt_addTo (m : AList Nat) (k : String) (n : Nat) (k' : String) :
    cnt (addTo m k n) k' = cnt m k' + (if k = k' then n else 0) := by
  unfold addTo cnt
  rw [get_set]
  by_cases h : k = k'
  · subst h; simp
  · simp [h]

theorem cnt_decrementBy (m : AList Nat) (k : String) (a : Nat) (k' : String) :
    cnt (decrementBy m k a) k' = cnt m k' - (if k = k' then a else 0) := by
  unfold decrementBy
  by_cases hle : cnt m k ≤ a
  · rw [if_pos hle]
    unfold cnt at *
    rw [get_erase]
    by_cases h : k = k'
    · subst h; rw [if_pos rfl, if_pos rfl]; exact (Nat.sub_eq_zero_of_le hle).symm
    · rw [if_neg h, if_neg h]; rfl
  · rw [if_neg hle]
    unfold cnt at *
    rw [get_set]
    by_cases h : k = k'
    · subst h; rw [if_pos rfl, if_pos rfl]; rfl
    · rw [if_neg h, if_neg h]; rfl

theorem sumFor_cons (e : String × Nat) (l : AList Nat) (k : String) :
    sumFor (e :: l) k = (if e.1 = k then e.2 else 0) + sumFor l k := by
  unfold sumFor
  by_cases h : e.1 = k <;> simp [h]

@[simp] theorem sumFor_nil (k : String) : sumFor [] k = 0 := rfl

theorem sumFor_append (l₁ l₂ : AList Nat) (k : String) :
    sumFor (l₁ ++ l₂) k = sumFor l₁ k + sumFor l₂ k := by
  unfold sumFor; simp [List.filter_append]

theorem cnt_addAll (m l : AList Nat) (k : String) : cnt (addAll m l) k = cnt m k + sumFor l k := by
  induction l generalizing m with
  | nil => rfl
  | cons e r ih => rw [addAll, List.foldl_cons, ← addAll, ih, cnt_addTo, sumFor_cons]; omega

theorem cnt_subAll (m l : AList Nat) (k : String) : cnt (subAll m l) k = cnt m k - sumFor l k := by
  induction l generalizing m with
  | nil => rfl
  | cons e r ih => rw [subAll, List.foldl_cons, ← subAll, ih, cnt_decrementBy, sumFor_cons]; omega

theorem pos_addTo (m : AList Nat) (k : String) (n : Nat) (h : Pos m) (hn : 0 < n) :
    Pos (addTo m k n) := by
  intro k' v hv
  rw [addTo, get_set] at hv
  by_cases e : k = k'
  · rw [if_pos e] at hv; cases hv; omega
  · rw [if_neg e] at hv; exact h k' v hv

theorem pos_decrementBy (m : AList Nat) (k : String) (a : Nat) (h : Pos m) :
    Pos (decrementBy m k a) := by
  intro k' v hv
  unfold decrementBy at hv
  by_cases hle : cnt m k ≤ a
  · rw [if_pos hle, get_erase] at hv
    by_cases e : k = k'
    · rw [if_pos e] at hv; cases hv
    · rw [if_neg e] at hv; exact h k' v hv
  · rw [if_neg hle, get_set] at hv
    by_cases e : k = k'
    · rw [if_pos e] at hv; cases hv; omega
    · rw [if_neg e] at hv; exact h k' v hv

theorem pos_addAll (m l : AList Nat) (h : Pos m) (hl : posCounts l = true) : Pos (addAll m l) :=
  foldl_inv l m h fun m e he hm =>
    pos_addTo m e.1 e.2 hm (of_decide_eq_true (List.all_eq_true.mp hl e he))

theorem pos_subAll (m l : AList Nat) (h : Pos m) : Pos (subAll m l) :=
  foldl_inv l m h fun m e _ hm => pos_decrementBy m e.1 e.2 hm

theorem nodup_decrementBy (m : AList Nat) (k : String) (a : Nat) (h : m.keys.Nodup) :
    (decrementBy m k a).keys.Nodup := by
  unfold decrementBy
  by_cases hle : cnt m k ≤ a
  · rw [if_pos hle]; exact nodup_keys_erase _ _ h
  · rw [if_neg hle]; exact nodup_keys_set _ _ _ h

theorem nodup_addAll (m l : AList Nat) (h : m.keys.Nodup) : (addAll m l).keys.Nodup :=
  foldl_inv (P := fun m => m.keys.Nodup) l m h fun m e _ hm => nodup_keys_set m e.1 _ hm

theorem nodup_subAll (m l : AList Nat) (h : m.keys.Nodup) : (subAll m l).keys.Nodup :=
  foldl_inv (P := fun m => m.keys.Nodup) l m h fun m e _ hm => nodup_decrementBy m e.1 e.2 hm

theorem addAll_ne_nil (m l : AList Nat) (h : m ≠ [] ∨ l ≠ []) : addAll m l ≠ [] := by
  cases l with
  | nil => exact h.resolve_right fun h => h rfl
  | cons e r => exact foldl_inv (P := (· ≠ [])) r _ (set_ne_nil m e.1 _) fun m e _ _ => set_ne_nil m e.1 _

theorem mem_keys_iff_pos (m : AList Nat) (h : Pos m) (k : String) : k ∈ m.keys ↔ 0 < cnt m k := by
  rw [mem_keys_iff]
  unfold cnt
  cases e : m.get k with
  | none => simp
  | some n => simp [h k n e]

theorem get_eq_of_cnt (m : AList Nat) (k : String) (n : Nat) (hn : 0 < n) :
    m.get k = some n ↔ cnt m k = n := by
  unfold cnt
  cases e : m.get k with
  | none => simp; omega
  | some v => simp

theorem total_nil (proj : Contrib → AList Nat) (k : String) : total proj [] k = 0 := rfl

theorem total_cons (proj : Contrib → AList Nat) (c : Contrib) (cs : List Contrib) (k : String) :
    total proj (c :: cs) k = sumFor (proj c) k + total proj cs k := by
  simp [total]

theorem total_append (proj : Contrib → AList Nat) (cs₁ cs₂ : List Contrib) (k : String) :
    total proj (cs₁ ++ cs₂) k = total proj cs₁ k + total proj cs₂ k := by
  simp [total]

theorem total_perm (proj : Contrib → AList Nat) (cs₁ cs₂ : List Contrib) (h : cs₁.Perm cs₂)
    (k : String) : total proj cs₁ k = total proj cs₂ k := by
  unfold total
  exact List.Perm.sum_nat (h.map _)

section
variable {β : Type}

/-- `m[k] = x`, or `delete(m, k)` when `x` is empty: how `decrementTagValueBy` and the
    transaction loop of `removeFileIndex` store an inner value -/
def put (m : AList (List β)) (k : String) (x : List β) : AList (List β) :=
  if x.isEmpty then m.erase k else m.set k x

theorem getD_put (m : AList (List β)) (k : String) (x : List β) (k' : String) :
    (put m k x).getD k' [] = if k = k' then x else m.getD k' [] := by
  unfold put
  cases x with
  | nil => exact getD_erase m k k' []
  | cons a r => exact getD_set m k _ k' []

theorem get_put (m : AList (List β)) (k : String) (x : List β) (k' : String) :
    (put m k x).get k' = if k = k' then (if x = [] then none else some x) else m.get k' := by
  unfold put
  cases x with
  | nil => exact get_erase m k k'
  | cons a r => exact get_set m k _ k'

theorem nodup_put (m : AList (List β)) (k : String) (x : List β) (h : m.keys.Nodup) :
    (put m k x).keys.Nodup := by
  unfold put
  cases x with
  | nil => exact nodup_keys_erase m k h
  | cons a r => exact nodup_keys_set m k _ h

end

/-- canonical nested counter: no empty inner map, positive counts -/
def TvCanon (m : AList (AList Nat)) : Prop :=
  ∀ t inner, m.get t = some inner → inner ≠ [] ∧ Pos inner ∧ inner.keys.Nodup

theorem tvCnt_tvAdd (m : AList (AList Nat)) (t : String) (vals : AList Nat) (t' v : String) :
    tvCnt (tvAdd m t vals) t' v = tvCnt m t' v + (if t = t' then sumFor vals v else 0) := by
  unfold tvCnt tvAdd
  rw [getD_set]
  by_cases h : t = t'
  · subst h; rw [if_pos rfl, if_pos rfl, cnt_addAll]
  · rw [if_neg h, if_neg h]; rfl

/-- `decrementTagValueBy` is `decrementBy` on the tag's inner counter, stored with `put` -/
theorem tvDec_eq (m : AList (AList Nat)) (t value : String) (a : Nat) :
    tvDec m t value a = match m.get t with
      | none => m
      | some inner => put m t (decrementBy inner value a) := by
  unfold tvDec
  cases m.get t with
  | none => rfl
  | some inner =>
    dsimp only [decrementBy, put]
    by_cases hle : cnt inner value ≤ a
    · rw [if_pos hle, if_pos hle]
    · rw [if_neg hle, if_neg hle, if_neg (by simpa using set_ne_nil inner value _)]

theorem tvCnt_tvDec (m : AList (AList Nat)) (t value : String) (a : Nat) (t' v : String) :
    tvCnt (tvDec m t value a) t' v = tvCnt m t' v - (if t = t' ∧ value = v then a else 0) := by
  have inner_eq : ∀ inner, m.get t = some inner → m.getD t [] = inner := fun inner e => by
    rw [AList.getD, e]; rfl
  rw [tvDec_eq]
  cases e : m.get t with
  | none =>
    by_cases h : t = t' ∧ value = v
    · obtain ⟨rfl, rfl⟩ := h
      have : tvCnt m t value = 0 := by rw [tvCnt, AList.getD, e]; rfl
      rw [if_pos ⟨rfl, rfl⟩, this, Nat.zero_sub]
    · rw [if_neg h]; rfl
  | some inner =>
    dsimp only
    unfold tvCnt
    rw [getD_put]
    by_cases h : t = t'
    · subst h
      rw [if_pos rfl, cnt_decrementBy, inner_eq inner e]
      by_cases hv : value = v
      · rw [if_pos hv, if_pos ⟨rfl, hv⟩]
      · rw [if_neg hv, if_neg fun hh => hv hh.2]
    · rw [if_neg h, if_neg fun hh => h hh.1]; rfl

/-- the value counts of tag `t` in a list of (tag, value counts) -/
def tvFlatL (l : AList (AList Nat)) (t : String) : AList Nat := (l.filter fun e => e.1 = t).flatMap (·.2)

theorem tvFlatL_cons (e : String × AList Nat) (l : AList (AList Nat)) (t : String) :
    tvFlatL (e :: l) t = (if e.1 = t then e.2 else []) ++ tvFlatL l t := by
  unfold tvFlatL
  by_cases h : e.1 = t <;> simp [h]

theorem tvCnt_tvAddAll (m l : AList (AList Nat)) (t v : String) :
    tvCnt (tvAddAll m l) t v = tvCnt m t v + sumFor (tvFlatL l t) v := by
  induction l generalizing m with
  | nil => rfl
  | cons e r ih =>
    rw [tvAddAll, List.foldl_cons, ← tvAddAll, ih, tvCnt_tvAdd, tvFlatL_cons, sumFor_append]
    by_cases h : e.1 = t
    · rw [if_pos h, if_pos h, Nat.add_assoc]
    · rw [if_neg h, if_neg h, sumFor_nil, Nat.add_zero, Nat.zero_add]

theorem tvCnt_tvDecAll (m : AList (AList Nat)) (tag : String) (vals : AList Nat) (t v : String) :
    tvCnt (vals.foldl (fun m ve => tvDec m tag ve.1 ve.2) m) t v
      = tvCnt m t v - (if tag = t then sumFor vals v else 0) := by
  induction vals generalizing m with
  | nil => simp
  | cons e r ih =>
    rw [List.foldl_cons, ih, tvCnt_tvDec, sumFor_cons]
    by_cases h : tag = t
    · by_cases hv : e.1 = v <;> simp [h, hv] <;> omega
    · simp [h]

theorem tvCnt_tvSubAll (m l : AList (AList Nat)) (t v : String) :
    tvCnt (tvSubAll m l) t v = tvCnt m t v - sumFor (tvFlatL l t) v := by
  induction l generalizing m with
  | nil => rfl
  | cons e r ih =>
    rw [tvSubAll, List.foldl_cons, ← tvSubAll, ih, tvCnt_tvDecAll, tvFlatL_cons, sumFor_append]
    by_cases h : e.1 = t
    · rw [if_pos h, if_pos h, Nat.sub_sub]
    · rw [if_neg h, if_neg h, sumFor_nil, Nat.sub_zero, Nat.zero_add]

theorem tvCanon_tvAdd (m : AList (AList Nat)) (t : String) (vals : AList Nat) (h : TvCanon m)
    (hv : vals ≠ []) (hp : posCounts vals = true) : TvCanon (tvAdd m t vals) := by
  intro t' inner hin
  rw [tvAdd, get_set] at hin
  by_cases e : t = t'
  · rw [if_pos e] at hin; cases hin
    have hold : Pos (m.getD t []) ∧ (m.getD t []).keys.Nodup := by
      unfold AList.getD
      cases e2 : m.get t with
      | none => exact ⟨fun _ _ h => (nomatch h), List.nodup_nil⟩
      | some i => exact (h t i e2).2
    exact ⟨addAll_ne_nil _ _ (Or.inr hv), pos_addAll _ _ hold.1 hp, nodup_addAll _ _ hold.2⟩
  · rw [if_neg e] at hin; exact h t' inner hin

theorem tvCanon_tvDec (m : AList (AList Nat)) (t value : String) (a : Nat) (h : TvCanon m) :
    TvCanon (tvDec m t value a) := by
  rw [tvDec_eq]
  cases e : m.get t with
  | none => exact h
  | some inner =>
    intro t' inner' hin
    rw [get_put] at hin
    by_cases e2 : t = t'
    · rw [if_pos e2] at hin
      by_cases hnil : decrementBy inner value a = []
      · rw [if_pos hnil] at hin; cases hin
      · rw [if_neg hnil] at hin; cases hin
        exact ⟨hnil, pos_decrementBy _ _ _ (h t inner e).2.1, nodup_decrementBy _ _ _ (h t inner e).2.2⟩
    · rw [if_neg e2] at hin; exact h t' inner' hin

theorem tvCanon_tvAddAll (m l : AList (AList Nat)) (h : TvCanon m)
    (hl : l.all (fun e => !e.2.isEmpty && posCounts e.2) = true) : TvCanon (tvAddAll m l) :=
  foldl_inv l m h fun m e he hm => by
    have := List.all_eq_true.mp hl e he
    rw [Bool.and_eq_true, Bool.not_eq_true', List.isEmpty_eq_false_iff] at this
    exact tvCanon_tvAdd m e.1 e.2 hm this.1 this.2

theorem tvCanon_tvSubAll (m l : AList (AList Nat)) (h : TvCanon m) : TvCanon (tvSubAll m l) :=
  foldl_inv l m h fun m e _ hm => foldl_inv e.2 m hm fun m ve _ hm => tvCanon_tvDec m e.1 ve.1 ve.2 hm

theorem nodup_tvDec (m : AList (AList Nat)) (t value : String) (a : Nat) (h : m.keys.Nodup) :
    (tvDec m t value a).keys.Nodup := by
  rw [tvDec_eq]
  cases m.get t with
  | none => exact h
  | some inner => exact nodup_put m t _ h

theorem nodup_tvAddAll (m l : AList (AList Nat)) (h : m.keys.Nodup) : (tvAddAll m l).keys.Nodup :=
  foldl_inv (P := fun m => m.keys.Nodup) l m h fun m e _ hm => nodup_keys_set m e.1 _ hm

theorem nodup_tvSubAll (m l : AList (AList Nat)) (h : m.keys.Nodup) : (tvSubAll m l).keys.Nodup :=
  foldl_inv (P := fun m => m.keys.Nodup) l m h fun m e _ hm =>
    foldl_inv (P := fun m => m.keys.Nodup) e.2 m hm fun m ve _ hm => nodup_tvDec m e.1 ve.1 ve.2 hm

end HL.Lemmas.Counter
