/-
  The configuration server as a transition system (HL.Model.Settings), for C19: what a task step
  does, invariants carried through every event (`step_preserves`), the newest refresh request
  wins (`Burst`), the include cache stays within the limits; and the formatter's width
  arithmetic (HL.Model.FmtWidth) without wrap-around.
-/
import HL.Lemmas.Settings
import HL.Model.FmtWidth
namespace HL.Lemmas.SettingsSrv
open HL.Settings HL.Lemmas.Settings

-- unification would otherwise compare two `normalize` terms by unfolding its nine-statement fold
attribute [local irreducible] normalize

theorem stepTask_cases (σ σ' : Srv) (i : Nat) (r : Pull) (h : stepTask σ i r = .ok σ') :
    σ' = σ ∨ ∃ t, σ.tasks[i]? = some t ∧
      (t.pc = .start ∧ σ' = setPc σ i (if !σ.hasClient || !σ.supportsCfg then .done else .asked) ∨
       t.pc = .asked ∧ σ' = setPc σ i (.answered r) ∨
       (∃ q, t.pc = .answered q ∧ (∀ x xs, q ≠ .items (x :: xs)) ∧ σ' = setPc σ i .done) ∨
       (∃ x xs, t.pc = .answered (.items (x :: xs)) ∧ σ' = setPc (applyConfiguration σ t.seq x) i .done)) := by
  unfold stepTask at h
  split at h
  · left; simp only [Except.ok.injEq] at h; exact h.symm
  · rename_i q hq
    right; refine ⟨_, hq, Or.inl ⟨rfl, ?_⟩⟩
    split at h <;> (simp only [Except.ok.injEq] at h; subst h) <;> simp_all
  · rename_i q hq
    simp only [Except.ok.injEq] at h
    right; exact ⟨_, hq, Or.inr (Or.inl ⟨rfl, h.symm⟩)⟩
  · rename_i q hq
    simp only [Except.ok.injEq] at h
    right; exact ⟨_, hq, Or.inr (Or.inr (Or.inl ⟨_, rfl, (by intro x xs hh; cases hh), h.symm⟩))⟩
  · rename_i q l hq
    right; refine ⟨_, hq, ?_⟩
    cases l with
    | nil =>
      simp only [List.length_nil, if_true, Except.ok.injEq] at h
      exact Or.inr (Or.inr (Or.inl ⟨_, rfl, (by intro x xs hh; cases hh), h.symm⟩))
    | cons x xs =>
      simp only [List.length_cons, Nat.add_one_ne_zero, if_false, index0, bind, Except.bind,
        Except.ok.injEq] at h
      exact Or.inr (Or.inr (Or.inr ⟨x, xs, rfl, h.symm⟩))
  · left; simp only [Except.ok.injEq] at h; exact h.symm

theorem parse_normal (base : Settings) (j : Json) : Normal (parseSettingsFromRaw base j) := by
  rw [parse_eq]; exact normal_normalize _

theorem setSettings_settings (σ : Srv) (s : Settings) : (setSettings σ s).settings = normalize s :=
  rfl

theorem probeLoad_settings (σ : Srv) (f : Bool) : (probeLoad σ f).settings = σ.settings := by
  unfold probeLoad
  dsimp only
  split <;> rfl

theorem step_preserves (P : Srv → Prop)
    (hcfg : ∀ σ b, P σ → P { σ with supportsCfg := b })
    (hset : ∀ σ s, P σ → P (setSettings σ s))
    (hnext : ∀ σ, P σ → P (nextRefresh σ))
    (hspawn : ∀ σ, P σ → P (spawnRefresh σ))
    (hpc : ∀ σ i pc, P σ → P (setPc σ i pc))
    (hprobe : ∀ σ f, P σ → P (probeLoad σ f))
    (σ σ' : Srv) (e : Event) (h : P σ) (hs : step σ e = .ok σ') : P σ' := by
  have happ : ∀ σ q x, P σ → P (applyConfiguration σ q x) := by
    intro σ q x h; unfold applyConfiguration; split
    · exact hset _ _ h
    · exact h
  cases e with
  | init p =>
    cases p with
    | none => cases hs
    | some p =>
      cases hs
      apply hset
      cases p.workspaceCfg
      · exact h
      · exact hcfg _ _ h
  | initialized => cases hs; exact hspawn _ h
  | didChangeConfiguration p =>
    cases hs
    unfold didChangeConfiguration
    split
    · exact hspawn _ h
    · split
      · exact hnext _ h
      · exact happ _ _ _ (hnext _ h)
  | task i r =>
    rcases stepTask_cases σ σ' i r hs with
      rfl | ⟨t, _, ⟨_, rfl⟩ | ⟨_, rfl⟩ | ⟨q, _, _, rfl⟩ | ⟨x, xs, _, rfl⟩⟩
    · exact h
    · exact hpc _ _ _ h
    · exact hpc _ _ _ h
    · exact hpc _ _ _ h
    · exact hpc _ _ _ (happ _ _ _ h)
  | probe f => cases hs; exact hprobe _ _ h

theorem run_invariant (P : Srv → Prop) (hstep : ∀ σ σ' e, P σ → step σ e = .ok σ' → P σ')
    (σ σ' : Srv) (es : List Event) (h0 : P σ) (h : run σ es = .ok σ') : P σ' := by
  induction es generalizing σ with
  | nil => simp only [run, Except.ok.injEq] at h; exact h ▸ h0
  | cons e es ih =>
    simp only [run] at h
    cases hst : step σ e with
    | error p => rw [hst] at h; cases h
    | ok σ₁ => rw [hst] at h; exact ih σ₁ (hstep σ σ₁ e h0 hst) h

theorem newServer_settings (c : Bool) : (newServer c).settings = normalize defaults := rfl

theorem parseNested_lookup (s : Settings) (kvs : List (String × Json)) :
    parseNested s kvs = match lookup "hledger" kvs with
      | some (.obj m) => some (parseSettingsFromRaw s (.obj m))
      | _ => none := by
  induction kvs with
  | nil => rfl
  | cons a r ih =>
    obtain ⟨k, v⟩ := a
    rw [parseNested_cons, lookup]
    split
    · cases v <;> rfl
    · exact ih

def Pc.isDone : Pc → Bool
  | .done => true
  | _ => false

/-- no refresh task is in flight -/
def quiescent (σ : Srv) : Bool := σ.tasks.all fun t => Pc.isDone t.pc

/-- the numbers of the tasks come from `nextRefresh` -/
def WF (σ : Srv) : Prop := ∀ t ∈ σ.tasks, t.seq ≤ σ.refreshSeq

theorem setPc_getElem? (σ : Srv) (i : Nat) (pc : Pc) (j : Nat) :
    (setPc σ i pc).tasks[j]? =
      if i = j then (σ.tasks[j]?).map (fun t => { t with pc := pc }) else σ.tasks[j]? := by
  unfold setPc
  simp only [List.getElem?_modify]
  by_cases h : i = j
  · simp only [h, if_true]; cases σ.tasks[j]? <;> rfl
  · simp only [h, if_false]; cases σ.tasks[j]? <;> rfl

theorem setPc_seq (σ : Srv) (i : Nat) (pc : Pc) (j : Nat) (t : Task)
    (h : (setPc σ i pc).tasks[j]? = some t) : ∃ t0, σ.tasks[j]? = some t0 ∧ t0.seq = t.seq := by
  rw [setPc_getElem?] at h
  split at h
  · obtain ⟨t0, h0, rfl⟩ := Option.map_eq_some_iff.mp h
    exact ⟨t0, h0, rfl⟩
  · exact ⟨t, h, rfl⟩

theorem applyConfiguration_tasks (σ : Srv) (q : Nat) (x : Json) :
    (applyConfiguration σ q x).tasks = σ.tasks ∧ (applyConfiguration σ q x).refreshSeq = σ.refreshSeq ∧
    (applyConfiguration σ q x).hasClient = σ.hasClient ∧
    (applyConfiguration σ q x).supportsCfg = σ.supportsCfg := by
  unfold applyConfiguration
  split <;> exact ⟨rfl, rfl, rfl, rfl⟩

theorem applyConfiguration_settings (σ : Srv) (q : Nat) (x : Json) :
    (applyConfiguration σ q x).settings =
      if q = σ.refreshSeq then parseSettingsFromRaw σ.settings x else σ.settings := by
  unfold applyConfiguration
  split
  · exact (setSettings_settings _ _).trans (parse_normal _ _)
  · rfl

/-- what has to be the case of the reply to the newest task -/
def lastOK (s0 : Settings) (p : Json) : Pc → Settings → Prop
  | .start, s => s = s0
  | .asked, s => s = s0
  | .answered r, s => s = s0 ∧ ∃ xs, r = .items (p :: xs)
  | .done, s => s = parseSettingsFromRaw s0 p

/-- Task `last` is the newest request (its number is `refreshSeq`), every other task is older;
    the client can be asked. -/
structure Frame (N last : Nat) (τ : Srv) : Prop where
  seq : τ.refreshSeq = N
  hc : τ.hasClient = true
  hs : τ.supportsCfg = true
  others : ∀ j t, τ.tasks[j]? = some t → j ≠ last → t.seq < N
  lastT : ∃ t, τ.tasks[last]? = some t ∧ t.seq = N

/-- Invariant of a burst: the frame, and the settings are still the ones from before the burst
    until the newest task has applied its answer. -/
structure Burst (N last : Nat) (s0 : Settings) (p : Json) (τ : Srv) : Prop where
  frame : Frame N last τ
  ok : ∀ t, τ.tasks[last]? = some t → lastOK s0 p t.pc τ.settings

theorem frame_setPc {N last : Nat} {τ : Srv} (i : Nat) (pc : Pc) (hf : Frame N last τ) :
    Frame N last (setPc τ i pc) := by
  refine ⟨hf.seq, hf.hc, hf.hs, ?_, ?_⟩
  · intro j t hj hjl
    obtain ⟨t0, h0, e⟩ := setPc_seq _ _ _ _ _ hj
    exact e ▸ hf.others j t0 h0 hjl
  · obtain ⟨t, ht, hseq⟩ := hf.lastT
    rw [setPc_getElem?]
    by_cases hi : i = last
    · exact ⟨{ t with pc := pc }, by simp only [hi, if_true, ht, Option.map_some], hseq⟩
    · exact ⟨t, by simp only [hi, if_false]; exact ht, hseq⟩

theorem frame_apply {N last : Nat} {τ : Srv} (q : Nat) (x : Json) (hf : Frame N last τ) :
    Frame N last (applyConfiguration τ q x) := by
  obtain ⟨ha1, ha2, ha3, ha4⟩ := applyConfiguration_tasks τ q x
  exact ⟨by rw [ha2]; exact hf.seq, by rw [ha3]; exact hf.hc, by rw [ha4]; exact hf.hs,
    by rw [ha1]; exact hf.others, by rw [ha1]; exact hf.lastT⟩

theorem burst_setPc_other {N last : Nat} {s0 : Settings} {p : Json} {τ : Srv} {i : Nat} (pc : Pc)
    (hb : Burst N last s0 p τ) (hi : i ≠ last) : Burst N last s0 p (setPc τ i pc) := by
  refine ⟨frame_setPc _ _ hb.frame, ?_⟩
  intro t ht
  rw [setPc_getElem?] at ht
  simp only [hi, if_false] at ht
  exact hb.ok t ht

theorem burst_setPc_last {N last : Nat} {s0 : Settings} {p : Json} {τ : Srv} {pc : Pc}
    (hf : Frame N last τ) (hok : lastOK s0 p pc τ.settings) :
    Burst N last s0 p (setPc τ last pc) := by
  refine ⟨frame_setPc _ _ hf, ?_⟩
  intro t ht
  rw [setPc_getElem?] at ht
  simp only [if_true] at ht
  cases hl : τ.tasks[last]? with
  | none => rw [hl] at ht; cases ht
  | some t0 =>
    rw [hl] at ht
    simp only [Option.map_some, Option.some.injEq] at ht
    rw [← ht]
    exact hok

theorem burst_step (N last : Nat) (s0 : Settings) (p : Json) (τ τ' : Srv) (i : Nat) (r : Pull)
    (hb : Burst N last s0 p τ) (hr : i = last → ∃ xs, r = .items (p :: xs))
    (h : stepTask τ i r = .ok τ') : Burst N last s0 p τ' := by
  have hf := hb.frame
  rcases stepTask_cases τ τ' i r h with rfl | ⟨t, ht, h⟩
  · exact hb
  by_cases hi : i = last
  · subst hi
    have hok := hb.ok t ht
    rcases h with ⟨hpc, rfl⟩ | ⟨hpc, rfl⟩ | ⟨q, hq, hno, rfl⟩ | ⟨x, xs, hq, rfl⟩
    · rw [hpc] at hok
      simp only [hf.hc, hf.hs, Bool.not_true, Bool.or_self, Bool.false_eq_true, if_false]
      exact burst_setPc_last hf hok
    · rw [hpc] at hok
      exact burst_setPc_last hf ⟨hok, hr rfl⟩
    · rw [hq] at hok
      obtain ⟨_, xs, hx⟩ := hok
      exact absurd hx (hno p xs)
    · -- the newest request's answer is the one that is stored
      rw [hq] at hok
      obtain ⟨hs0, xs', hx⟩ := hok
      cases hx
      obtain ⟨tl, htl, hseql⟩ := hf.lastT
      obtain rfl : t = tl := Option.some.inj (ht.symm.trans htl)
      apply burst_setPc_last (frame_apply _ _ hf)
      rw [applyConfiguration_settings, hseql, hf.seq]
      simp only [if_true, lastOK, hs0]
  · -- an older task: its answer, if any, is dropped
    have hdrop (x : Json) : applyConfiguration τ t.seq x = τ :=
      if_neg (by have := hf.others i t ht hi; rw [hf.seq]; omega)
    rcases h with ⟨_, rfl⟩ | ⟨_, rfl⟩ | ⟨q, _, _, rfl⟩ | ⟨x, xs, _, rfl⟩
    all_goals try rw [hdrop]
    all_goals exact burst_setPc_other _ hb hi

theorem quiescent_getElem? (σ : Srv) (h : quiescent σ = true) (j : Nat) (t : Task)
    (ht : σ.tasks[j]? = some t) : t.pc = .done := by
  have := List.all_eq_true.mp h t (List.mem_of_getElem? ht)
  cases hp : t.pc <;> first | rfl | (rw [hp] at this; cases this)

/-- **The newest request wins.**  In a state where task `last` is the newest refresh request
    and has not been answered yet, let the tasks — all of them, older ones included — take
    steps in ANY order, the client answering the newest request with `p` (anything at all to
    the others).  Once no task is in flight the settings are `p` applied to the settings the
    burst started from. -/
theorem newest_wins (N last : Nat) (s0 : Settings) (p : Json) (τ τ' : Srv) (es : List Event)
    (hb : Burst N last s0 p τ)
    (hes : ∀ e ∈ es, ∃ i r, e = .task i r ∧ (i = last → ∃ xs, r = .items (p :: xs)))
    (hrun : run τ es = .ok τ') :
    Burst N last s0 p τ' ∧ (quiescent τ' = true → τ'.settings = parseSettingsFromRaw s0 p) := by
  have hB : Burst N last s0 p τ' := by
    induction es generalizing τ with
    | nil => simp only [run, Except.ok.injEq] at hrun; exact hrun ▸ hb
    | cons e es ih =>
      obtain ⟨i, r, rfl, hr⟩ := hes _ (List.mem_cons_self ..)
      simp only [run, step] at hrun
      cases hst : stepTask τ i r with
      | error x => rw [hst] at hrun; cases hrun
      | ok τ₁ =>
        rw [hst] at hrun
        exact ih τ₁ (burst_step _ _ _ _ _ _ _ _ hb hr hst)
          (fun e he => hes e (List.mem_cons_of_mem _ he)) hrun
  refine ⟨hB, fun hq => ?_⟩
  obtain ⟨t, ht, _⟩ := hB.frame.lastT
  have hok := hB.ok t ht
  rw [quiescent_getElem? τ' hq last t ht] at hok
  exact hok

theorem wf_of_frame (N last : Nat) (τ : Srv) (hf : Frame N last τ) : WF τ := by
  intro t ht
  obtain ⟨j, hj⟩ := List.getElem?_of_mem ht
  rw [hf.seq]
  by_cases hjl : j = last
  · obtain ⟨tl, htl, hseq⟩ := hf.lastT
    rw [hjl, htl] at hj
    cases hj
    omega
  · have := hf.others j t hj hjl
    omega

theorem spawnRefresh_burst (σ : Srv) (p : Json) (hc : σ.hasClient = true)
    (hs : σ.supportsCfg = true) (hwf : WF σ) :
    Burst (σ.refreshSeq + 1) σ.tasks.length σ.settings p (spawnRefresh σ) := by
  have hlast : (spawnRefresh σ).tasks[σ.tasks.length]? = some ⟨σ.refreshSeq + 1, .start⟩ := by
    simp [spawnRefresh, nextRefresh]
  refine ⟨⟨rfl, hc, hs, ?_, ⟨_, hlast, rfl⟩⟩, ?_⟩
  · intro j t hj hjl
    simp only [spawnRefresh, nextRefresh] at hj
    rw [List.getElem?_append] at hj
    split at hj
    · have := hwf t (List.mem_of_getElem? hj)
      omega
    · rename_i hlt
      have : j - σ.tasks.length ≠ 0 := by omega
      cases hk : j - σ.tasks.length with
      | zero => exact absurd hk this
      | succ k => rw [hk] at hj; simp at hj
  · intro t ht
    rw [hlast] at ht
    cases ht
    rfl

theorem step_change_pull (σ : Srv) (q : Json) (hc : σ.hasClient = true) (hs : σ.supportsCfg = true) :
    step σ (.didChangeConfiguration q) = .ok (spawnRefresh σ) := by
  simp [step, didChangeConfiguration, hc, hs]

theorem spawnRefresh_wf (σ : Srv) (hwf : WF σ) : WF (spawnRefresh σ) := by
  intro t ht
  simp only [spawnRefresh, nextRefresh, List.mem_append, List.mem_singleton] at ht ⊢
  rcases ht with ht | rfl
  · have := hwf t ht; omega
  · exact Nat.le_refl _

theorem setPc_wf (σ : Srv) (i : Nat) (pc : Pc) (hwf : WF σ) : WF (setPc σ i pc) := by
  intro t ht
  obtain ⟨j, hj⟩ := List.getElem?_of_mem ht
  obtain ⟨t0, h0, e⟩ := setPc_seq _ _ _ _ _ hj
  exact e ▸ hwf t0 (List.mem_of_getElem? h0)

theorem run_changes (qs : List Json) (σ : Srv) (hc : σ.hasClient = true) (hs : σ.supportsCfg = true)
    (hwf : WF σ) :
    ∃ σ₁, run σ (qs.map .didChangeConfiguration) = .ok σ₁ ∧ σ₁.settings = σ.settings ∧
      σ₁.hasClient = true ∧ σ₁.supportsCfg = true ∧ WF σ₁ ∧
      σ₁.tasks.length = σ.tasks.length + qs.length := by
  induction qs generalizing σ with
  | nil => exact ⟨σ, rfl, rfl, hc, hs, hwf, rfl⟩
  | cons q qs ih =>
    obtain ⟨σ₁, h1, h2, h3, h4, h5, h6⟩ := ih (spawnRefresh σ) hc hs (spawnRefresh_wf σ hwf)
    refine ⟨σ₁, ?_, h2, h3, h4, h5, ?_⟩
    · simp only [List.map_cons, run, step_change_pull σ q hc hs]; exact h1
    · rw [h6]; simp [spawnRefresh, nextRefresh]; omega

theorem run_append (σ : Srv) (a b : List Event) :
    run σ (a ++ b) = match run σ a with | .ok σ' => run σ' b | .error e => .error e := by
  induction a generalizing σ with
  | nil => rfl
  | cons e a ih =>
    simp only [List.cons_append, run]
    cases step σ e with
    | error p => rfl
    | ok σ₁ => exact ih σ₁

/-- every cached file passed the size check under the limits now in force -/
def CacheOK (σ : Srv) : Prop := ∀ k ∈ σ.cache, includeSize k ≤ σ.settings.limits.maxFileSizeBytes

theorem cache_insert_ok (L : Int) (k : Nat) (cache : List Nat) (h : ∀ x ∈ cache, includeSize x ≤ L)
    (hk : includeSize k ≤ L) :
    ∀ x ∈ (if cache.contains k = true then cache else k :: cache), includeSize x ≤ L := by
  intro x hx
  split at hx
  · exact h x hx
  · rcases List.mem_cons.mp hx with rfl | hx
    · exact hk
    · exact h x hx

theorem includeFrom_ok (L D : Int) (fuel k : Nat) (cache : List Nat)
    (h : ∀ x ∈ cache, includeSize x ≤ L) :
    ∀ x ∈ (includeFrom L D fuel k cache).2.2, includeSize x ≤ L := by
  induction fuel generalizing k cache with
  | zero => exact h
  | succ fuel ih =>
    unfold includeFrom
    split
    · exact h
    · dsimp only
      split
      · exact h
      · rename_i hsz
        have h1 := cache_insert_ok L k cache h (by
          cases hc : cache.contains k
          · simp only [hc, Bool.not_false, Bool.true_and, decide_eq_true_eq] at hsz; omega
          · exact h k (by simpa using hc))
        split
        · exact h1
        · exact ih _ _ h1

theorem includeFrom_verdict (L D : Int) (fuel k : Nat) (c1 c2 : List Nat)
    (h1 : ∀ x ∈ c1, includeSize x ≤ L) (h2 : ∀ x ∈ c2, includeSize x ≤ L) :
    (includeFrom L D fuel k c1).1 = (includeFrom L D fuel k c2).1 ∧
    (includeFrom L D fuel k c1).2.1 = (includeFrom L D fuel k c2).2.1 := by
  induction fuel generalizing k c1 c2 with
  | zero => exact ⟨rfl, rfl⟩
  | succ fuel ih =>
    unfold includeFrom
    split
    · exact ⟨rfl, rfl⟩
    · dsimp only
      by_cases hsz : includeSize k ≤ L
      · have hd : decide (includeSize k > L) = false := by simpa using hsz
        simp only [hd, Bool.and_false, Bool.false_eq_true, if_false]
        split
        · exact ⟨rfl, rfl⟩
        · exact ih _ _ _ (cache_insert_ok L k c1 h1 hsz) (cache_insert_ok L k c2 h2 hsz)
      · -- too large: then it is in neither cache
        have n (c : List Nat) (h : ∀ x ∈ c, includeSize x ≤ L) : c.contains k = false :=
          Bool.eq_false_iff.mpr fun hc => hsz (h k (by simpa using hc))
        have hd : decide (includeSize k > L) = true := by simpa using hsz
        simp only [n c1 h1, n c2 h2, hd, Bool.not_false, Bool.and_self, if_true, and_self]

theorem setSettings_cacheOK (σ : Srv) (s : Settings) (h : CacheOK σ) : CacheOK (setSettings σ s) := by
  unfold setSettings CacheOK
  dsimp only
  split
  · rename_i heq
    intro k hk
    rw [heq]
    exact h k hk
  · intro k hk; cases hk

theorem probeLoad_cacheOK (σ : Srv) (f : Bool) (hok : CacheOK σ) : CacheOK (probeLoad σ f) := by
  unfold probeLoad CacheOK
  dsimp only
  have hc : ∀ k ∈ (if f = true then [] else σ.cache), includeSize k ≤ σ.settings.limits.maxFileSizeBytes := by
    intro k hk
    split at hk
    · cases hk
    · exact hok k hk
  split
  · dsimp only
    unfold includeProbe
    split
    · exact hc
    · exact includeFrom_ok _ _ _ _ _ hc
  · exact hc

/-- the size (in runes) up to which the document's lengths are considered: 2^40, far beyond
    what a server can hold in memory -/
def docBound : Int := 1099511627776

open HL.FmtWidth in
def lensOK (d : Lens) : Prop :=
  0 ≤ d.account ∧ d.account ≤ docBound ∧ 0 ≤ d.head ∧ d.head ≤ docBound ∧
  0 ≤ d.amount ∧ d.amount ≤ docBound ∧ 0 ≤ d.pre ∧ d.pre ≤ docBound

theorem wrap64_mid (x : Int) (h1 : -4611686018427387904 ≤ x) (h2 : x ≤ 4611686018427387904) :
    wrap64 x = x := wrap64_small x (by omega) (by omega)

open HL.FmtWidth

/-! The width arithmetic in Go's wrapping `int`: below 2^62 in absolute value nothing wraps. -/

theorem goIndent_eq (ind : Int) (h : 1 ≤ ind) : goIndent ind = ind :=
  if_neg (by omega)

theorem goGlobalCol_eq (ind mac acc : Int) (h1 : -4611686018427387904 ≤ ind + acc)
    (h2 : ind + acc ≤ 4611686018427387902) :
    goGlobalCol ind mac acc = if mac > 0 ∧ ind + acc + 2 < mac then mac else ind + acc + 2 := by
  unfold goGlobalCol minSpaces
  rw [wrap64_mid (ind + acc) h1 (by omega), wrap64_mid (ind + acc + 2) (by omega) (by omega)]
  simp only [Bool.and_eq_true, decide_eq_true_eq]

theorem goBaCol_eq (col amount : Int) (h1 : -4611686018427387904 ≤ col + amount)
    (h2 : col + amount ≤ 4611686018427387902) : goBaCol col amount = col + amount + 2 := by
  unfold goBaCol minSpaces
  rw [wrap64_mid (col + amount) h1 (by omega), wrap64_mid (col + amount + 2) (by omega) (by omega)]

/-- `goBaGap` is the same computation. -/
theorem goAmountGap_eq (col head : Int) (h1 : -4611686018427387904 ≤ col - head)
    (h2 : col - head ≤ 4611686018427387904) :
    goAmountGap col head = if col > 0 ∧ col - head ≥ 2 then col - head else 2 := by
  unfold goAmountGap imax minSpaces
  rw [wrap64_mid (col - head) h1 h2]
  split <;> simp [*]

/-- The column is at most `534 +` the longest account (32 + 2, or the minimum 500), each gap at
    most the column it fills up to. -/
theorem repeatCounts_bounds (ind mac : Int) (d : Lens) (hi : 1 ≤ ind ∧ ind ≤ 32)
    (hm : 0 ≤ mac ∧ mac ≤ 500) (hd : lensOK d) :
    ∀ n ∈ repeatCounts ind mac d, 1 ≤ n ∧ n ≤ 536 + d.account + d.amount := by
  obtain ⟨a1, a2, b1, b2, c1, c2, e1, e2⟩ := hd
  unfold docBound at *
  have hc : 3 ≤ goGlobalCol ind mac d.account ∧ goGlobalCol ind mac d.account ≤ 534 + d.account := by
    rw [goGlobalCol_eq ind mac d.account (by omega) (by omega)]; split <;> omega
  intro n hn
  simp only [repeatCounts, goIndent_eq ind hi.1, List.mem_cons, List.not_mem_nil, or_false] at hn
  generalize goGlobalCol ind mac d.account = col at hc hn
  clear hm
  rcases hn with rfl | rfl | rfl
  · omega
  · clear e1 e2 hi
    rw [goAmountGap_eq _ _ (by omega) (by omega)]; split <;> omega
  · clear b1 b2 hi
    rw [goBaCol_eq _ _ (by omega) (by omega)]
    show 1 ≤ goAmountGap _ _ ∧ goAmountGap _ _ ≤ _
    rw [goAmountGap_eq _ _ (by omega) (by omega)]; split <;> omega

end HL.Lemmas.SettingsSrv
