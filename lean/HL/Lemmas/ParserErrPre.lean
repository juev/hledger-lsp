import HL.Lemmas.ParserShift
/-
  The parser never reads its error list: running any parse function on a state whose error
  list has an extra prefix `p` gives the same result, with the same prefix in front of the
  final error list.  `addPre p` is a state map that moves no position (`Equivariant` for the
  shift by nothing), so this is an instance of `parseJournal_eqv`.
-/
namespace HL.Parser
open HL HL.Ast

/-- Nothing inserted: the shift that leaves every position where it is. -/
def noShift : Shift := ⟨0, 0, 0⟩

theorem noShift_pos : noShift.pos = id := by
  funext p; simp [Shift.pos, noShift]
theorem noShift_rng : noShift.rng = id := by
  funext r; simp [Shift.rng, noShift_pos]
theorem noShift_tag : noShift.tag = id := by
  funext t; simp [Shift.tag, noShift_rng]
theorem noShift_comment : noShift.comment = id := by
  funext c; simp [Shift.comment, noShift_rng, noShift_tag]
theorem noShift_date : noShift.date = id := by
  funext x; simp [Shift.date, noShift_rng]
theorem noShift_commodity : noShift.commodity = id := by
  funext c; simp [Shift.commodity, noShift_rng]
theorem noShift_amount : noShift.amount = id := by
  funext a; simp [Shift.amount, noShift_rng, noShift_commodity]
theorem noShift_cost : noShift.cost = id := by
  funext c; simp [Shift.cost, noShift_rng, noShift_amount]
theorem noShift_assertion : noShift.assertion = id := by
  funext a; simp [Shift.assertion, noShift_rng, noShift_amount]
theorem noShift_posting : noShift.posting = id := by
  funext p
  simp [Shift.posting, Shift.account, noShift_rng, noShift_amount, noShift_cost, noShift_assertion, noShift_tag]
theorem noShift_tx : noShift.tx = id := by
  funext t; simp [Shift.tx, noShift_rng, noShift_date, noShift_posting, noShift_tag, noShift_comment]
theorem noShift_dir : noShift.dir = id := by
  funext x
  cases x <;> simp [Shift.dir, Shift.account, noShift_rng, noShift_tag, noShift_commodity, noShift_date, noShift_amount]
theorem noShift_incl : noShift.incl = id := by
  funext i; simp [Shift.incl, noShift_rng]
theorem noShift_journal (j : Journal) : noShift.journal j = j := by
  simp [Shift.journal, noShift_tx, noShift_dir, noShift_comment, noShift_incl]

variable {σ : Type} (E : Env σ)

def addPre (p : List ParseError) (st : PState σ) : PState σ := { st with errors := p ++ st.errors }

@[simp] theorem addPre_src (p) (st : PState σ) : (addPre p st).src = st.src := rfl
@[simp] theorem addPre_errors (p) (st : PState σ) : (addPre p st).errors = p ++ st.errors := rfl

theorem addPre_equivariant (p : List ParseError) : Equivariant E noShift (addPre p) where
  current st := by simp [addPre, Shift.tok, noShift_pos]
  advance _ := rfl
  errorAt st pos m := by simp [errorAt, addPre, noShift_pos]
  defaultYear _ := rfl
  setYear _ _ := rfl
  fuelOf _ := rfl

theorem parseJournal_addPre (p) (st : PState σ) :
    parseJournal E (addPre p st) = ((parseJournal E st).1, addPre p (parseJournal E st).2) := by
  rw [parseJournal_eqv (addPre_equivariant E p), noShift_journal]

end HL.Parser
