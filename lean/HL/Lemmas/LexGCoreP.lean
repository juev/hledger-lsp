import HL.Lemmas.LexGCoreL
/-!
  The layout of `GCore.print` — four blanks of indent, two blanks in front of an amount — is
  `Layout.std`: `printL Layout.std = print`, `toksFromL Layout.std = toksFrom`, and the lexer
  theorems of HL/Lemmas/LexGCoreL.lean read for `GCore.print`.
-/
namespace HL.GCore
open HL HL.Lex

theorem Layout.std_ok : Layout.std.ok := ⟨by decide, fun _ => Nat.le_refl 2⟩

theorem Posting.printL_std (p : Posting) : p.printL Layout.std = p.print := rfl

theorem printPostingsL_std (ps : List Posting) : printPostingsL Layout.std ps = printPostings ps := by
  induction ps with
  | nil => rfl
  | cons p ps ih => rw [printPostingsL, printPostings, ih, Posting.printL_std]

theorem Tx.printL_std (t : Tx) : t.printL Layout.std = t.print := by
  rw [Tx.printL, Tx.print, printPostingsL_std]

theorem printL_std (j : Journal) : printL Layout.std j = print j := by
  induction j with
  | nil => rfl
  | cons t ts ih =>
    cases ts with
    | nil => exact Tx.printL_std t
    | cons t2 ts => simp only [printL, print, Tx.printL_std, ih]

theorem Posting.toksL_std (p : Posting) (ln o : Nat) : p.toksL Layout.std ln o = p.toks ln o := rfl

theorem postingsToksL_std (ps : List Posting) :
    ∀ ln o, postingsToksL Layout.std ps ln o = postingsToks ps ln o := by
  induction ps with
  | nil => intro _ _; rfl
  | cons p ps ih => intro ln o; rw [postingsToksL, postingsToks, ih, Posting.toksL_std, Posting.printL_std]

theorem Tx.toksL_std (t : Tx) (ln o : Nat) : t.toksL Layout.std ln o = t.toks ln o := by
  rw [Tx.toksL, Tx.toks, postingsToksL_std]

theorem toksFromL_std (j : Journal) : ∀ ln o, toksFromL Layout.std j ln o = toksFrom j ln o := by
  induction j with
  | nil => intro _ _; rfl
  | cons t ts ih =>
    intro ln o
    cases ts with
    | nil => simp only [toksFromL, toksFrom, Tx.toksL_std, Tx.printL_std]
    | cons t2 ts => simp only [toksFromL, toksFrom, Tx.toksL_std, Tx.printL_std, ih]

theorem lex_posting_line (C : Classes) (hC : ClassesOk C = true) {z : Z} (hz : LS z) (p : Posting)
    (hp : p.wf = true) {rest : Bytes} (ha : z.after = p.print ++ LF :: rest) :
    lexS C z = p.toks z.line z.before.length ++ lexS C (jump z (p.print ++ [LF]) rest 1) :=
  lex_posting_lineL C hC Layout.std Layout.std_ok hz p hp ha

theorem lex_postings (C : Classes) (hC : ClassesOk C = true) (ps : List Posting) :
    ∀ {z : Z}, LS z → (∀ p ∈ ps, p.wf = true) → ∀ {rest : Bytes}, z.after = printPostings ps ++ rest →
      lexS C z = postingsToks ps z.line z.before.length ++ lexS C (jump z (printPostings ps) rest ps.length) := by
  intro z hz hps rest ha
  rw [← printPostingsL_std] at ha ⊢
  rw [← postingsToksL_std]
  exact lex_postingsL C hC Layout.std Layout.std_ok ps hz hps ha

theorem lex_tx (C : Classes) (hC : ClassesOk C = true) {z : Z} (hz : LS z) (t : Tx) (ht : t.wf = true)
    {rest : Bytes} (ha : z.after = t.print ++ rest) :
    lexS C z = t.toks z.line z.before.length ++ lexS C (jump z t.print rest (1 + t.postings.length)) := by
  rw [← Tx.printL_std] at ha ⊢
  rw [← Tx.toksL_std]
  exact lex_txL C hC Layout.std Layout.std_ok hz t ht ha

theorem lex_journal (C : Classes) (hC : ClassesOk C = true) (j : Journal) :
    ∀ {z : Z}, LS z → WF j = true → z.after = print j → lexS C z = toksFrom j z.line z.before.length := by
  intro z hz hj ha
  rw [← printL_std] at ha
  rw [← toksFromL_std]
  exact lex_journalL C hC Layout.std Layout.std_ok j hz hj ha

theorem lexAll_print (C : Classes) (hC : ClassesOk C = true) (j : Journal) (h : WF j = true) :
    lexAll C (print j) = toksFrom j 1 0 := by
  rw [← printL_std, ← toksFromL_std]
  exact lexAll_printL C hC Layout.std Layout.std_ok j h

end HL.GCore
