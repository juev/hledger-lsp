/-
  Invariants of the lockset transition system (HL/Model/Lockset.lean), by induction over traces:
    * a thread holds exactly the locks its executed program prefix acquired and did not release
      (`heldEq` — this is what ties the *static* lock column of the access table to a run),
    * mutual exclusion of reader-writer locks (`mutex`),
    * a thread that was never started has not moved (`notStarted`),
    * once any goroutine other than the initialisation thread runs, the initialisation thread
      is finished (`initDone`).
  Then the discipline of the table over fields and stores together (`disciplined_fullTable`), and
  the blocks of a table sorted by location (`blocks`, `grouped`, `filter_loc_of_grouped`).
-/
import HL.Model.Lockset
namespace HL.Lemmas.Lockset
open HL.Lockset
set_option linter.unusedSectionVars false

variable {ι κ : Type} [DecidableEq ι] [DecidableEq κ]

theorem heldAfter_take_succ (p : List (Instr ι κ)) (n : Nat) (i : Instr ι κ)
    (h : p[n]? = some i) :
    heldAfter (p.take (n + 1)) = applyInstr (heldAfter (p.take n)) i := by
  unfold heldAfter
  rw [List.take_add_one, List.foldl_append, h]
  rfl

theorem mem_applyInstr {h : Held κ} {i : Instr ι κ} {x : κ × Mode} (hx : x ∈ applyInstr h i) :
    x ∈ h ∨ i = .acq x.1 x.2 := by
  cases i with
  | acq l m =>
    simp only [applyInstr, List.mem_cons] at hx
    rcases hx with rfl | hx
    · exact Or.inr rfl
    · exact Or.inl hx
  | rel l => exact Or.inl (mem_of_mem_eraseLock hx)
  | acc a => exact Or.inl hx
  | spawn t => exact Or.inl hx

structure Inv (P : Pool ι κ) (σ : State κ) : Prop where
  heldEq : ∀ t, σ.held t = heldAfter ((P.prog t).take (σ.pc t))
  mutex : ∀ t1 t2 l m, (l, Mode.excl) ∈ σ.held t1 → (l, m) ∈ σ.held t2 → t1 = t2
  notStarted : ∀ t, σ.started t = false → σ.pc t = 0

theorem inv_init (P : Pool ι κ) : Inv P (State.init : State κ) where
  heldEq := by intro t; simp [State.init, heldAfter]
  mutex := by intro t1 t2 l m h; simp [State.init] at h
  notStarted := by intro t _; rfl

theorem fire_held_of_ne (σ : State κ) (t x : Nat) (i : Instr ι κ) (h : x ≠ t) :
    (fire σ t i).held x = σ.held x := by
  simp [fire, upd, h]

theorem fire_held_same (σ : State κ) (t : Nat) (i : Instr ι κ) :
    (fire σ t i).held t = applyInstr (σ.held t) i := by
  simp [fire, upd]

theorem fire_pc_of_ne (σ : State κ) (t x : Nat) (i : Instr ι κ) (h : x ≠ t) :
    (fire σ t i).pc x = σ.pc x := by
  simp [fire, upd, h]

theorem fire_pc_same (σ : State κ) (t : Nat) (i : Instr ι κ) :
    (fire σ t i).pc t = σ.pc t + 1 := by
  simp [fire, upd]

theorem fire_pc_ge (σ : State κ) (t x : Nat) (i : Instr ι κ) : σ.pc x ≤ (fire σ t i).pc x := by
  by_cases h : x = t
  · subst h; rw [fire_pc_same]; omega
  · rw [fire_pc_of_ne _ _ _ _ h]; omega

theorem fire_started (σ : State κ) (t x : Nat) (i : Instr ι κ)
    (h : (fire σ t i).started x = true) : σ.started x = true ∨ i = .spawn x := by
  cases i with
  | spawn t' =>
    simp only [fire, upd] at h
    by_cases hx : x = t'
    · subst hx; exact Or.inr rfl
    · simp [hx] at h; exact Or.inl h
  | acq l m => exact Or.inl h
  | rel l => exact Or.inl h
  | acc a => exact Or.inl h

theorem fire_started_mono (σ : State κ) (t x : Nat) (i : Instr ι κ)
    (h : σ.started x = true) : (fire σ t i).started x = true := by
  cases i with
  | spawn t' =>
    simp only [fire, upd]
    by_cases hx : x = t'
    · simp [hx]
    · simp [hx, h]
  | acq l m => exact h
  | rel l => exact h
  | acc a => exact h

theorem mem_fire_held {σ : State κ} {t x : Nat} {i : Instr ι κ} {y : κ × Mode}
    (h : y ∈ (fire σ t i).held x) : y ∈ σ.held x ∨ (x = t ∧ i = .acq y.1 y.2) := by
  by_cases hx : x = t
  · subst hx
    rw [fire_held_same] at h
    rcases mem_applyInstr h with h | h
    · exact Or.inl h
    · exact Or.inr ⟨rfl, h⟩
  · rw [fire_held_of_ne _ _ _ _ hx] at h
    exact Or.inl h

theorem inv_step {P : Pool ι κ} {σ σ' : State κ} (hI : Inv P σ) (hS : Step P σ σ') : Inv P σ' := by
  obtain ⟨t, i, hst, hn, hc, rfl⟩ := hS
  refine ⟨?_, ?_, ?_⟩
  · intro x
    by_cases hx : x = t
    · subst hx
      rw [fire_held_same, fire_pc_same, heldAfter_take_succ _ _ i hn, ← hI.heldEq]
    · rw [fire_held_of_ne _ _ _ _ hx, fire_pc_of_ne _ _ _ _ hx]
      exact hI.heldEq x
  · intro t1 t2 l m h1 h2
    rcases mem_fire_held h1 with g1 | ⟨e1, hi1⟩
    · rcases mem_fire_held h2 with g2 | ⟨e2, hi2⟩
      · exact hI.mutex t1 t2 l m g1 g2
      · -- t2 = t acquires (l, m) while t1 holds l exclusively
        rw [hi2] at hc
        cases m with
        | excl => exact absurd g1 (hc t1 Mode.excl)
        | shared => exact absurd g1 (hc t1)
    · rw [hi1] at hc
      rcases mem_fire_held h2 with g2 | ⟨e2, _⟩
      · exact absurd g2 (hc t2 m)
      · rw [e1, e2]
  · intro x hx
    by_cases hxt : x = t
    · subst hxt
      have := fire_started_mono σ x x i hst
      rw [this] at hx
      cases hx
    · rw [fire_pc_of_ne _ _ _ _ hxt]
      apply hI.notStarted
      cases hsx : σ.started x with
      | false => rfl
      | true =>
        have := fire_started_mono σ t x i hsx
        rw [this] at hx
        cases hx

theorem inv_of_reachable {P : Pool ι κ} {σ : State κ} (h : Reachable P σ) : Inv P σ := by
  induction h with
  | init => exact inv_init P
  | step _ hs ih => exact inv_step ih hs

theorem initDone {P : Pool ι κ} (hW : WF P) {σ : State κ} (h : Reachable P σ) :
    ∀ t, t ≠ 0 → σ.started t = true → (P.prog 0).length ≤ σ.pc 0 := by
  induction h with
  | init =>
    intro t ht hs
    simp [State.init] at hs
    exact absurd hs ht
  | step _ hs ih =>
    obtain ⟨s, i, hst, hn, _, rfl⟩ := hs
    intro t ht hs'
    rcases fire_started _ s t i hs' with h0 | h0
    · exact Nat.le_trans (ih t ht h0) (fire_pc_ge _ s 0 i)
    · subst h0
      by_cases hs0 : s = 0
      · subst hs0
        have := hW.init_spawn_last _ t hn
        rw [fire_pc_same]; omega
      · exact Nat.le_trans (ih s hs0 hst) (fire_pc_ge _ s 0 _)

theorem started_of_holds {P : Pool ι κ} {σ : State κ} (hI : Inv P σ) {t : Nat} {x : κ × Mode}
    (hx : x ∈ σ.held t) : σ.started t = true := by
  cases hs : σ.started t with
  | true => rfl
  | false =>
    have h0 := hI.notStarted t hs
    have := hI.heldEq t
    rw [h0] at this
    rw [this] at hx
    simp [heldAfter] at hx

theorem unfinished_of_holds {P : Pool ι κ} {σ : State κ} (hI : Inv P σ) (hB : Balanced P)
    {t : Nat} {x : κ × Mode} (hx : x ∈ σ.held t) : Unfinished P σ t := by
  refine ⟨started_of_holds hI hx, ?_⟩
  apply Nat.lt_of_not_le
  intro hle
  have := hI.heldEq t
  rw [List.take_of_length_le hle, hB t] at this
  rw [this] at hx
  cases hx

theorem next_some_of_unfinished {P : Pool ι κ} {σ : State κ} {t : Nat} (h : Unfinished P σ t) :
    ∃ i, next P σ t = some i := by
  unfold next
  exact ⟨(P.prog t)[σ.pc t]'h.2, List.getElem?_eq_getElem h.2⟩

theorem unfinished_of_next {P : Pool ι κ} {σ : State κ} {t : Nat} {i : Instr ι κ}
    (hs : σ.started t = true) (h : next P σ t = some i) : Unfinished P σ t := by
  refine ⟨hs, ?_⟩
  unfold next at h
  apply Nat.lt_of_not_le
  intro hle
  rw [List.getElem?_eq_none hle] at h
  cases h

section full
variable {σ : Type} [DecidableEq σ]

theorem pairOK_mapLoc {ι' : Type} [DecidableEq ι'] (f : ι → ι') (hf : ∀ {a b}, f a = f b → a = b)
    (r s : Row ι κ) : pairOK (r.mapLoc f) (s.mapLoc f) = pairOK r s := by
  have h : (f r.loc == f s.loc) = (r.loc == s.loc) :=
    Bool.eq_iff_iff.mpr ⟨fun h => beq_iff_eq.mpr (hf (beq_iff_eq.mp h)),
      fun h => beq_iff_eq.mpr (congrArg f (beq_iff_eq.mp h))⟩
  simp only [pairOK, rowConflict, commonLock, Row.mapLoc, h]

theorem pairOK_of_loc_ne {r s : Row ι κ} (h : r.loc ≠ s.loc) : pairOK r s = true := by
  simp only [pairOK, rowConflict, beq_eq_false_iff_ne.mpr h, Bool.false_and, Bool.not_false, Bool.true_or]

/-- A field and a store are different locations. -/
theorem disciplined_fullTable {T : List (Row ι κ)} {E : List (Escape σ κ)}
    (hT : disciplined T = true) (hE : disciplined (storeRows E) = true) :
    disciplined (fullTable T E) = true := by
  simp only [disciplined, List.all_eq_true, fullTable, List.mem_append, List.mem_map] at hT hE ⊢
  rintro _ (⟨r, hr, rfl⟩ | ⟨r, hr, rfl⟩) _ (⟨s, hs, rfl⟩ | ⟨s, hs, rfl⟩)
  · rw [pairOK_mapLoc Sum.inl Sum.inl.inj]; exact hT r hr s hs
  · exact pairOK_of_loc_ne nofun
  · exact pairOK_of_loc_ne nofun
  · rw [pairOK_mapLoc Sum.inr Sum.inr.inj]; exact hE r hr s hs

theorem aliasDisciplined_iff {E : List (Escape σ κ)} :
    aliasDisciplined E = true ↔ noEscapedMutation E = true ∧ disciplined (storeRows E) = true :=
  Bool.and_eq_true_iff

theorem mem_accessors {E : List (Escape σ κ)} {s : σ} {x : Role × Kind × List (κ × Mode)}
    (h : x ∈ accessors E s) :
    ∃ e ∈ E, e.store = s ∧ e.fresh = false ∧ x = (e.role, (if e.mutated then Kind.write else Kind.read), e.locks) := by
  unfold accessors storeRows at h
  obtain ⟨r, hr, rfl⟩ := List.mem_map.mp h
  obtain ⟨hr1, hr2⟩ := List.mem_filter.mp hr
  obtain ⟨e, he, rfl⟩ := List.mem_map.mp hr1
  simp only [Escape.toRow, Bool.and_eq_true, beq_iff_eq, Bool.not_eq_true'] at hr2
  exact ⟨e, he, hr2.1, hr2.2, rfl⟩

end full

/-- tools/access emits the rows sorted by location: the maximal runs of one location are the
    rows of each location. -/
def blocks : List (Row ι κ) → List (List (Row ι κ))
  | [] => []
  | r :: T =>
    match blocks T with
    | (s :: R) :: B => if r.loc = s.loc then (r :: s :: R) :: B else [r] :: (s :: R) :: B
    | B => [r] :: B

theorem flatten_blocks (T : List (Row ι κ)) : (blocks T).flatten = T := by
  induction T with
  | nil => rfl
  | cons r T ih =>
    unfold blocks
    split
    · next s R B h => rw [h] at ih; split <;> rw [← ih] <;> rfl
    · rw [List.flatten_cons, ih]; rfl

def blockLoc (R : List (Row ι κ)) : Option ι := R.head?.map (·.loc)

def increasing : List Nat → Bool
  | a :: b :: l => decide (a < b) && increasing (b :: l)
  | _ => true

theorem pairwise_of_increasing : ∀ l : List Nat, increasing l = true → l.Pairwise (· < ·)
  | [], _ => .nil
  | [_], _ => List.pairwise_singleton _ _
  | a :: b :: l, h => by
    simp only [increasing, Bool.and_eq_true, decide_eq_true_eq] at h
    have ih := pairwise_of_increasing (b :: l) h.2
    refine List.pairwise_cons.mpr ⟨fun c hc => ?_, ih⟩
    rcases List.mem_cons.mp hc with rfl | hc
    · exact h.1
    · exact Nat.lt_trans h.1 ((List.pairwise_cons.mp ih).1 c hc)

/-- That the table is grouped by location is checked, not assumed: `table_covered` and
    `escapes_covered` evaluate this on the regenerated table, and a table in another order fails
    there.  Increasing under any numbering `key`, no two blocks are of the same location. -/
def grouped (key : ι → Nat) (B : List (List (Row ι κ))) : Bool :=
  B.all (fun R => R.all fun r => blockLoc R == some r.loc) &&
  increasing (B.map fun R => ((blockLoc R).map key).getD 0)

theorem filter_loc_of_grouped {key : ι → Nat} {B : List (List (Row ι κ))} (hg : grouped key B = true)
    {R : List (Row ι κ)} (hR : R ∈ B) {r : Row ι κ} (hr : r ∈ R) : B.flatten.filter (·.loc == r.loc) = R := by
  simp only [grouped, Bool.and_eq_true, List.all_eq_true, beq_iff_eq] at hg
  obtain ⟨hom, inc⟩ := hg
  have nd : B.Pairwise fun R R' => blockLoc R ≠ blockLoc R' := by
    refine (List.pairwise_map.mp (pairwise_of_increasing _ inc)).imp ?_
    intro R R' h e
    rw [e] at h; exact Nat.lt_irrefl _ h
  have hloc : blockLoc R = some r.loc := hom R hR r hr
  have same : ∀ R' ∈ B, ∀ s ∈ R', (s.loc == r.loc) = true → blockLoc R' = blockLoc R := fun R' hR' s hs hsl => by
    rw [hloc, hom R' hR' s hs, beq_iff_eq.mp hsl]
  clear hr inc
  induction B with
  | nil => cases hR
  | cons R₀ B ih =>
    rw [List.pairwise_cons] at nd
    rw [List.flatten_cons, List.filter_append]
    rcases List.mem_cons.mp hR with rfl | hR'
    · have h1 : R.filter (·.loc == r.loc) = R :=
        List.filter_eq_self.mpr fun s hs => beq_iff_eq.mpr (Option.some.inj ((hom R hR s hs).symm.trans hloc))
      have h2 : B.flatten.filter (·.loc == r.loc) = [] :=
        List.filter_eq_nil_iff.mpr fun s hs hsl => by
          obtain ⟨R', hR', hs'⟩ := List.mem_flatten.mp hs
          exact nd.1 R' hR' (same R' (List.mem_cons_of_mem _ hR') s hs' hsl).symm
      rw [h1, h2, List.append_nil]
    · have h1 : R₀.filter (·.loc == r.loc) = [] :=
        List.filter_eq_nil_iff.mpr fun s hs hsl => nd.1 R hR' (same R₀ List.mem_cons_self s hs hsl)
      rw [h1, List.nil_append]
      exact ih hR' (fun R' h' => hom R' (List.mem_cons_of_mem _ h')) nd.2
        (fun R' h' => same R' (List.mem_cons_of_mem _ h'))

theorem rank_bound (rank : κ → Nat) (O : List (κ × κ)) :
    ∀ p ∈ O, rank p.2 ≤ (O.map fun q => rank q.2).sum := by
  induction O with
  | nil => intro p hp; cases hp
  | cons q r ih =>
    intro p hp
    simp only [List.map_cons, List.sum_cons]
    rcases List.mem_cons.mp hp with rfl | hp
    · omega
    · have := ih p hp; omega

end HL.Lemmas.Lockset
