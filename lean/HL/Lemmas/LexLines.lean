import HL.Lemmas.LexExt
import HL.Lemmas.LexTrim
/-!
  Lines: no scan function other than `scanNewline` consumes a line feed, and `scanNewline`
  consumes exactly one (`next_step`).  So every LF byte becomes exactly one Newline token, the
  line counter is 1 + the number of line feeds consumed, and what lies between two tokens is
  blanks and tabs — behind an account name also the one blank, behind a text the white space that
  the scan stepped over (`TailOk`).
-/
namespace HL.Lex
open HL HL.Utf8 HL.Spec.LexSpec Ctl

/-- `z'` is reached from `z` by consuming bytes none of which is a line feed; same line. -/
def AdvNL (z z' : Z) : Prop :=
  ∃ pre, z.after = pre ++ z'.after ∧ z'.before = pre.reverse ++ z.before ∧ LF ∉ pre ∧ z'.line = z.line

theorem AdvNL.refl (z : Z) : AdvNL z z := ⟨[], by simp, by simp, by simp, rfl⟩

theorem AdvNL.trans {a b c : Z} (h1 : AdvNL a b) (h2 : AdvNL b c) : AdvNL a c := by
  obtain ⟨p, h1a, h1b, h1c, h1d⟩ := h1
  obtain ⟨q, h2a, h2b, h2c, h2d⟩ := h2
  exact ⟨p ++ q, by simp [h1a, h2a], by simp [h1b, h2b], by simp [h1c, h2c], by rw [h2d, h1d]⟩

theorem AdvNL.congr {a b b' : Z} (h : AdvNL a b) (hb : b'.before = b.before) (ha : b'.after = b.after)
    (hl : b'.line = b.line) : AdvNL a b' := by
  obtain ⟨p, h1, h2, h3, h4⟩ := h
  exact ⟨p, by rw [ha]; exact h1, by rw [hb]; exact h2, h3, by rw [hl]; exact h4⟩

theorem AdvNL.line {a b : Z} (h : AdvNL a b) : b.line = a.line := by
  obtain ⟨_, _, _, _, hl⟩ := h; exact hl

theorem advance_nl {z : Z} (hp : peek z ≠ LF) : AdvNL z (advance z) := by
  unfold advance
  split
  · exact AdvNL.refl z
  · rename_i b t hz
    exact ⟨z.after.take (decodeRune (b :: t)).2, by simp [Z.bump], by simp [Z.bump],
      by rw [hz]; exact decodeRune_take_noLF b t (by simpa [peek, hz] using hp), rfl⟩

theorem after_of_peek_lf {z : Z} (h : peek z = LF) : ∃ t, z.after = LF :: t := by
  cases hz : z.after with
  | nil => rw [peek, hz] at h; exact absurd h (by decide)
  | cons c t => rw [peek, hz] at h; exact ⟨t, by rw [show c = LF from h]⟩

theorem peek_ne_lf {z : Z} (h : atEol z.after = false) : peek z ≠ LF := fun e => by
  obtain ⟨t, hz⟩ := after_of_peek_lf e
  rw [hz] at h; cases h

theorem advF_nl (q : Bytes → Bool) (hq : ∀ t, q (LF :: t) = false) (n : Nat) (z : Z) : AdvNL z (advF q n z) := by
  refine loopF_inv (AdvNL z) (fun s _ h hs => ?_) n (AdvNL.refl z)
  obtain ⟨rfl, _, hqs⟩ := advStep_some h
  refine hs.trans (advance_nl fun e => ?_)
  obtain ⟨t, hz⟩ := after_of_peek_lf e
  rw [hz, hq] at hqs; cases hqs

theorem advWhile_nl (p : UInt8 → Bool) (hp : p LF = false) (z : Z) : AdvNL z (advWhile p z) :=
  advWhile_eq p z ▸ advF_nl _ (fun _ => hp) _ z

theorem advLine_nl (p : UInt8 → Bool) (z : Z) : AdvNL z (advLine p z) :=
  advLine_eq p z ▸ advF_nl _ (fun _ => Bool.and_false _) _ z

theorem advIf_nl (p : UInt8 → Bool) (hp : p LF = false) (z : Z) : AdvNL z (advIf p z) :=
  advIf_eq p z ▸ advF_nl _ (fun _ => hp) 1 z

theorem scanAccountF_nl (n : Nat) (z0 z l : Z) (hz : AdvNL z0 z) (hl : AdvNL z0 l) :
    AdvNL z0 (scanAccountF n z l).1 ∧ AdvNL z0 (scanAccountF n z l).2 := by
  rw [scanAccountF_eq]
  refine loopF_inv (fun s : Z × Z => AdvNL z0 s.1 ∧ AdvNL z0 s.2) (fun s s' h hs => ?_) n ⟨hz, hl⟩
  obtain ⟨blank, ha, rfl⟩ := acctStep_some h
  have hadv := hs.1.trans (advance_nl (peek_ne_lf (not_eol_of_act acctAct_eol ha)))
  cases blank
  · exact ⟨hadv, hadv⟩
  · exact ⟨hadv, hs.2⟩

theorem scanNumberF_nl (n : Nat) (z : Z) (hd : Bool) : AdvNL z (scanNumberF n z hd) := by
  rw [scanNumberF_eq]
  refine loopF_inv (fun s : Z × Bool => AdvNL z s.1) (fun s s' h hs => ?_) n (AdvNL.refl z)
  obtain ⟨sign, _, ha, rfl⟩ := numStep_some h
  have hadv := hs.trans (advance_nl (peek_ne_lf (not_eol_of_act (fun he => numAct_eol he s.2) ha)))
  cases sign
  · exact hadv
  · exact hadv.trans (advIf_nl isSign (by decide) _)

/-- the bytes a scan consumed behind the End of its token -/
def gapBehind (r : Token × Z) : Bytes := (r.2.before.take (r.2.before.length - r.1.stop.off)).reverse

/-- What a scan may consume behind the End of its token: behind an account name one blank
    (`scanAccount` steps over a single blank and then meets a terminator or the end of the
    input), behind a text a run of white space (the value is trimmed and the token ends with
    it), otherwise nothing — the token ends where the lexer stands. -/
def TailOk (ty : TokType) (tl : Bytes) : Prop :=
  if ty = .text then wsOnly tl = true
  else if ty = .account then tl = [] ∨ tl = [0x20]
  else tl = []

/-- Where a token that is not a Newline token ends: on its line, at or behind its start, at or
    before the position the lexer is left in, with only `TailOk` bytes between; every token but
    an account or a text token ends exactly where the lexer is left (line, column, offset). -/
structure TokStop (r : Token × Z) : Prop where
  line : r.1.stop.line = r.1.pos.line
  ge : r.1.pos.off ≤ r.1.stop.off
  le : r.1.stop.off ≤ r.2.before.length
  tail : TailOk r.1.ty (gapBehind r)
  eq : r.1.ty ≠ .account → r.1.ty ≠ .text → r.1.stop = r.2.position

structure NL (z : Z) (r : Token × Z) : Prop where
  adv : AdvNL z r.2
  pos : r.1.pos = z.position
  ty : r.1.ty ≠ .newline
  stop : TokStop r

theorem tailOk_nil (ty : TokType) : TailOk ty [] := by
  unfold TailOk
  split
  · exact wsOnly_nil
  · split
    · exact Or.inl rfl
    · rfl

theorem AdvNL.adv {z e : Z} (h : AdvNL z e) : Adv z e := by
  obtain ⟨p, h1, h2, _, _⟩ := h
  exact ⟨p, h1, h2⟩

theorem mkTok_nl {z e : Z} (ty : TokType) (v : Bytes) (he : AdvNL z e) (hty : ty ≠ .newline) :
    NL z (mkTok ty v z e) := by
  have hl := he.line
  refine ⟨he, rfl, hty, hl, he.adv.before_le, Nat.le_refl _, ?_, fun _ _ => rfl⟩
  simp only [gapBehind, mkTok, Z.position, Nat.sub_self, List.take_zero, List.reverse_nil]
  exact tailOk_nil ty

theorem scanDate_nl (z : Z) : NL z (scanDate z) :=
  mkTok_nl _ _ (advWhile_nl _ (by decide) z) (by decide)
theorem take_before_drop (z e : Z) (k : Nat) :
    (e.before.take (e.before.length - (z.before.length + k))).reverse = (between z e).drop k := by
  rw [between, List.drop_reverse, List.take_take, List.length_take, Nat.min_eq_left (Nat.sub_le _ _),
    Nat.min_eq_left (Nat.sub_le _ _), Nat.sub_add_eq]

theorem scanText_nl (z : Z) : NL z (scanText z) := by
  have ha := advLine_nl (fun ch => !(ch == 0x3B || ch == 0x7C)) z
  have hb := textStop_bounds ha.adv
  have hl := ha.line
  refine ⟨ha, rfl, (by simp [scanText, mkTokAt]), ?_, hb.1, hb.2.1, ?_, fun _ h => absurd rfl h⟩
  · simp only [scanText, mkTokAt, textStop, Z.position]
    split
    · exact hl
    · rfl
  · simp only [scanText, mkTokAt, gapBehind, TailOk, if_true]
    generalize advLine (fun ch => !(ch == 0x3B || ch == 0x7C)) z = e at ha hb ⊢
    unfold textStop
    simp only []
    split
    · simp [Z.position, wsOnly_nil]
    · obtain ⟨tl, h1, h2, _⟩ := trimRightFunc_spec (between z e)
      simp only []
      rw [take_before_drop]
      have : (between z e).drop (trimRightFunc (between z e)).length = tl := by
        conv => lhs; arg 2; rw [h1]
        rw [List.drop_left]
      rw [this]
      exact h2
theorem scanComment_nl {z : Z} (hp : peek z ≠ LF) : NL z (scanComment z) :=
  mkTok_nl _ _ ((advance_nl hp).trans (advLine_nl _ _)) (by decide)

/-- `scanAt`, `scanEquals`: one `c`, or two -/
theorem pair_nl (c : UInt8) {ty2 ty1 : TokType} (v2 v1 : Bytes) {z : Z} (hp : peek z ≠ LF) (hc : c ≠ LF)
    (h2 : ty2 ≠ .newline) (h1 : ty1 ≠ .newline) :
    NL z (if headIs c (advance z).after then mkTok ty2 v2 z (advance (advance z)) else mkTok ty1 v1 z (advance z)) := by
  refine ite_ind (fun h => mkTok_nl _ _ ((advance_nl hp).trans (advance_nl fun e => ?_)) h2) fun _ =>
    mkTok_nl _ _ (advance_nl hp) h1
  obtain ⟨t, ht⟩ := after_of_peek_lf e
  rw [ht] at h
  exact hc (beq_iff_eq.mp h).symm

theorem scanAccount_nl (z : Z) : NL z (scanAccount z) := by
  obtain ⟨ha, ⟨pl, _, hpl, hnl, hll⟩⟩ := scanAccountF_nl z.after.length z z z (AdvNL.refl z) (AdvNL.refl z)
  have hadv := scanAccountF_adv z.after.length z z (Adv.refl z)
  have htl := scanAccountF_tail z.after.length z z [] (by simp) (Or.inl rfl)
  have hl := ha.line
  refine ⟨ha, rfl, (by simp [scanAccount, mkTokAt]), hll, hadv.2.1.before_le, hadv.2.2.before_le, ?_,
    fun h _ => absurd rfl h⟩
  simp only [scanAccount, mkTokAt, gapBehind, TailOk, Z.position]
  rw [if_neg (by decide), if_pos trivial]
  exact htl

theorem scanDirectiveOrAccount_nl (z : Z) : NL z (scanDirectiveOrAccount z) := by
  unfold scanDirectiveOrAccount
  simp only []
  split
  · exact mkTok_nl _ _ (advWhile_nl _ (by decide) z) (by decide)
  · split
    · exact scanAccount_nl z
    · exact scanText_nl z

theorem scanCommodityOrText_nl (C : Classes) (z : Z) : NL z (scanCommodityOrText C z) := by
  unfold scanCommodityOrText
  simp only []
  have h1 := advWhile_nl isLetter (by decide) z
  split
  · exact mkTok_nl _ _ h1 (by decide)
  · split
    · exact mkTok_nl _ _ (h1.trans (advWhile_nl _ (by decide) _)) (by decide)
    · exact scanText_nl z

theorem isBlank_lt {b : UInt8} (h : isBlank b = true) : b < 0x80 := by
  simp only [isBlank, Bool.or_eq_true, beq_iff_eq] at h
  rcases h with rfl | rfl <;> decide

theorem spaces_noLF {sp : Bytes} (h : ∀ c ∈ sp, isBlank c = true) : LF ∉ sp := fun hm =>
  absurd (h _ hm) (by decide)

theorem skipSpaces_spec (z : Z) :
    ∃ sp, (∀ c ∈ sp, isBlank c = true) ∧ z.after = sp ++ (skipSpaces z).after ∧
      (skipSpaces z).before = sp.reverse ++ z.before ∧ (skipSpaces z).line = z.line := by
  unfold skipSpaces
  rw [advWhile_eq]
  refine loopF_inv (fun s : Z => ∃ sp, (∀ c ∈ sp, isBlank c = true) ∧ z.after = sp ++ s.after ∧
    s.before = sp.reverse ++ z.before ∧ s.line = z.line) (fun s s' h hs => ?_) _ ⟨[], by simp, by simp, by simp, rfl⟩
  obtain ⟨sp, h1, h2, h3, h4⟩ := hs
  obtain ⟨rfl, hne, hq⟩ := advStep_some h
  obtain ⟨b, t, hz⟩ := List.exists_cons_of_ne_nil hne
  have hb : isBlank b = true := by rw [hz] at hq; exact hq
  rw [advance_ascii hz (isBlank_lt hb)]
  exact ⟨sp ++ [b], fun c hc => (List.mem_append.mp hc).elim (h1 c) fun e => by rw [List.mem_singleton.mp e]; exact hb,
    by simp [h2, hz], by simp [h3], h4⟩

/-- What one call of `Next` does: it skips blanks `sp` and then either
    * `tok`: returns a token that starts right behind the blanks/tabs and covers `pre`, which
      contains no line feed (the EOF token at the end of input is the case `pre = []`), or
    * `newline`: consumes exactly one line end — a line feed, or a carriage return and the
      line feed behind it (`cr = [CR]`) —, returns the Newline token for it (which starts at
      the carriage return if there is one) and moves to column 1 of the next line. -/
inductive Step (z : Z) (r : Token × Z) : Prop
  | tok (sp pre : Bytes) (hsp : ∀ c ∈ sp, isBlank c = true) (hpre : LF ∉ pre)
      (hafter : z.after = sp ++ pre ++ r.2.after)
      (hbefore : r.2.before = pre.reverse ++ sp.reverse ++ z.before)
      (hline : r.2.line = z.line) (hty : r.1.ty ≠ .newline)
      (hpl : r.1.pos.line = z.line) (hpo : r.1.pos.off = z.before.length + sp.length)
      (hstop : TokStop r) : Step z r
  | newline (sp cr : Bytes) (hsp : ∀ c ∈ sp, isBlank c = true) (hcr : cr = [] ∨ cr = [0x0D])
      (hafter : z.after = sp ++ cr ++ LF :: r.2.after)
      (hbefore : r.2.before = LF :: cr.reverse ++ sp.reverse ++ z.before)
      (hline : r.2.line = z.line + 1) (hcol : r.2.col = 1) (hstart : r.2.atStart = true)
      (hty : r.1.ty = .newline) (hpl : r.1.pos.line = z.line)
      (hpo : r.1.pos.off = z.before.length + sp.length) (hstop : r.1.stop = r.2.position) : Step z r

theorem Step.of_nl {z : Z} {r : Token × Z} (h : NL z r) : Step z r := by
  obtain ⟨pre, h1, h2, h3, h4⟩ := h.adv
  exact Step.tok [] pre (by simp) h3 (by simpa using h1) (by simpa using h2) h4 h.ty
    (by rw [h.pos]; rfl) (by rw [h.pos]; simp [Z.position]) h.stop

theorem Step.skip {z0 z : Z} {r : Token × Z} (sp : Bytes) (hsp : ∀ c ∈ sp, isBlank c = true)
    (ha : z0.after = sp ++ z.after) (hb : z.before = sp.reverse ++ z0.before) (hl : z.line = z0.line)
    (h : Step z r) : Step z0 r := by
  have blank : ∀ sp' : Bytes, (∀ c ∈ sp', isBlank c = true) → ∀ c ∈ sp ++ sp', isBlank c = true :=
    fun sp' h' c hc => (List.mem_append.mp hc).elim (hsp c) (h' c)
  cases h with
  | tok sp' pre hsp' hpre hafter hbefore hline hty hpl hpo hstop =>
    exact Step.tok (sp ++ sp') pre (blank sp' hsp') hpre (by rw [ha, hafter]; simp) (by rw [hbefore, hb]; simp)
      (by rw [hline, hl]) hty (by rw [hpl, hl]) (by rw [hpo, hb]; simp; omega) hstop
  | newline sp' cr hsp' hcr hafter hbefore hline hcol hstart hty hpl hpo hstop =>
    exact Step.newline (sp ++ sp') cr (blank sp' hsp') hcr (by rw [ha, hafter]; simp) (by rw [hbefore, hb]; simp)
      (by rw [hline, hl]) hcol hstart hty (by rw [hpl, hl]) (by rw [hpo, hb]; simp; omega) hstop

/-- also used of `scanStatus`, `scanSign`, `scanCurrencySymbol` (see `punct_ok`) -/
theorem punct_nl (ty : TokType) (v : Bytes) {z : Z} (hp : peek z ≠ LF) (hty : ty ≠ .newline) :
    NL z (punct ty v z) :=
  mkTok_nl _ _ (advance_nl hp) hty

theorem scanNewline_step {z : Z} (he : atEol z.after = true) : Step z (scanNewline z) := by
  obtain ⟨cr, t, hz⟩ := atEol_eol_cases he
  rw [scanNewline_atc cr hz]
  refine Step.newline [] (if cr then [0x0D] else []) (by simp) (by cases cr <;> simp) ?_ ?_ rfl rfl rfl rfl rfl ?_ ?_ <;>
    cases cr <;> simp [hz, nlTokc, Z.nlc, Z.position]

theorem Step.congr {z z' : Z} {r : Token × Z} (ha : z'.after = z.after) (hb : z'.before = z.before)
    (hl : z'.line = z.line) (h : Step z r) : Step z' r := by
  cases h with
  | tok sp pre hsp hpre hafter hbefore hline hty hpl hpo hstop =>
    exact Step.tok sp pre hsp hpre (by rw [ha]; exact hafter) (by rw [hb]; exact hbefore)
      (by rw [hl]; exact hline) hty (by rw [hl]; exact hpl) (by rw [hb]; exact hpo) hstop
  | newline sp cr hsp hcr hafter hbefore hline hcol hstart hty hpl hpo hstop =>
    exact Step.newline sp cr hsp hcr (by rw [ha]; exact hafter) (by rw [hb]; exact hbefore)
      (by rw [hl]; exact hline) hcol hstart hty (by rw [hl]; exact hpl) (by rw [hb]; exact hpo) hstop

/-- where the lexer does not stand at a line end (and input is left), `scanInLineAt` returns a
    token that starts right there, stays on the line and is not a Newline token -/
theorem scanInLineAt_nl (C : Classes) {z : Z} {ch : UInt8} {t : Bytes} (hz : z.after = ch :: t)
    (c1 : ¬ atEol (ch :: t) = true) : NL z (scanInLineAt C z) := by
  unfold scanInLineAt
  simp only [hz]
  rw [if_neg c1]
  have hc : ch ≠ LF := atEol_ne_lf (by simpa using c1)
  have hp : peek z ≠ LF := by simpa [peek, hz] using hc
  refine ite_ind (fun _ => scanComment_nl hp) fun _ => ?_
  refine ite_ind (fun _ => ite_ind (fun _ => punct_nl _ _ hp (by decide)) fun _ =>
    mkTok_nl _ _ (((advance_nl hp).trans (advLine_nl _ _)).trans (advIf_nl _ (by decide) _)) (by decide)) fun _ => ?_
  refine ite_ind (fun _ => punct_nl _ _ hp (by decide)) fun _ => ?_
  refine ite_ind (fun _ => punct_nl _ _ hp (by decide)) fun _ => ?_
  refine ite_ind (fun _ => punct_nl _ _ hp (by decide)) fun _ => ?_
  refine ite_ind (fun _ => punct_nl _ _ hp (by decide)) fun _ => ?_
  refine ite_ind (fun _ => pair_nl _ _ _ hp (by decide) (by decide) (by decide)) fun _ => ?_
  refine ite_ind (fun _ => pair_nl _ _ _ hp (by decide) (by decide) (by decide)) fun _ => ?_
  refine ite_ind (fun _ => punct_nl .status _ hp (by decide)) fun _ => ?_
  refine ite_ind (fun _ => ?_) fun _ => ?_
  · have := punct_nl .commodity (encodeRune (decodeRune (ch :: t)).1) hp (by decide)
    rwa [punct, advance_cons hz, ← hz] at this
  refine ite_ind (fun _ =>
    mkTok_nl _ _ (((advance_nl hp).trans (advLine_nl _ _)).trans (advIf_nl _ (by decide) _)) (by decide)) fun _ => ?_
  refine ite_ind (fun _ => ite_ind (fun _ => punct_nl .sign _ hp (by decide)) fun _ => scanText_nl z) fun _ => ?_
  refine ite_ind (fun _ => ite_ind (fun _ => scanDate_nl z) fun _ =>
    mkTok_nl _ _ (scanNumberF_nl _ z false) (by decide)) fun _ => ?_
  refine ite_ind (fun _ => ite_ind (fun _ => scanAccount_nl z) fun _ => scanCommodityOrText_nl C z) fun _ => ?_
  exact scanText_nl z

theorem scanInLineAt_step (C : Classes) (z : Z) : Step z (scanInLineAt C z) := by
  cases hz : z.after with
  | nil =>
    unfold scanInLineAt
    rw [hz]
    exact Step.of_nl (mkTok_nl _ _ (AdvNL.refl z) (by decide))
  | cons ch t =>
    by_cases c1 : atEol (ch :: t) = true
    · unfold scanInLineAt
      simp only [hz, c1, if_true]
      exact scanNewline_step (by rw [hz]; exact c1)
    · exact Step.of_nl (scanInLineAt_nl C hz c1)

theorem scanInLine_step (C : Classes) (z0 : Z) : Step z0 (scanInLine C z0) := by
  unfold scanInLine
  obtain ⟨sp, h1, h2, h3, h4⟩ := skipSpaces_spec z0
  exact Step.skip sp h1 h2 h3 h4 (scanInLineAt_step C _)

theorem scanLineStartAt_step (C : Classes) (z : Z) : Step z (scanLineStartAt C z) := by
  unfold scanLineStartAt
  simp only []
  refine ite_ind (fun h => ?_) fun _ => ?_
  · have hp : peek z ≠ LF := by
      have : peek z = 0x3B := by simpa using h
      rw [this]; decide
    exact Step.of_nl (scanComment_nl hp)
  refine ite_ind (fun _ => Step.of_nl (mkTok_nl _ _ (advLine_nl _ z) (by decide))) fun _ => ?_
  refine ite_ind (fun _ => Step.of_nl (scanDate_nl z)) fun _ => ?_
  refine ite_ind (fun _ => Step.of_nl (scanDirectiveOrAccount_nl z)) fun _ => ?_
  exact scanInLine_step C z

/-- Every call of `Next` is one of the two kinds of `Step`. -/
theorem next_step (C : Classes) (z : Z) : Step z (next C z) := by
  unfold next
  split
  · exact Step.of_nl (mkTok_nl _ _ (AdvNL.refl z) (by decide))
  · exact ite_ind (fun _ => Step.congr (z := { z with atStart := false }) rfl rfl rfl (scanLineStartAt_step C _))
      fun _ => scanInLine_step C z

/-- every token but an account or a text token ends where the lexer stands afterwards (line,
    column and offset) -/
theorem next_stop (C : Classes) (z : Z) (h1 : (next C z).1.ty ≠ .account) (h2 : (next C z).1.ty ≠ .text) :
    (next C z).1.stop = (next C z).2.position := by
  cases next_step C z with
  | tok sp pre hsp hpre hafter hbefore hline hty hpl hpo hstop => exact hstop.eq h1 h2
  | newline sp cr hsp hcr hafter hbefore hline hcol hstart hty hpl hpo hstop => exact hstop

/-- every token but a Newline token ends on its line, at or behind its start, at or before the
    position the lexer stands at afterwards; what lies between is `TailOk` (nothing, but for an
    account and a text token) -/
theorem next_tokStop (C : Classes) (z : Z) (h : (next C z).1.ty ≠ .newline) : TokStop (next C z) := by
  cases next_step C z with
  | tok sp pre hsp hpre hafter hbefore hline hty hpl hpo hstop => exact hstop
  | newline sp cr hsp hcr hafter hbefore hline hcol hstart hty hpl hpo hstop => exact absurd hty h
end HL.Lex
