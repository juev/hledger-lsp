import HL.Lemmas.LexLocal
/-!
  Carriage returns and the repaired lexer, part 2: ONE LINE.

  `crx a` puts a carriage return in front of a final line feed of `a`.  If exactly one line is
  still ahead (`OL z`: `z.after = s ++ [LF]`, neither CR nor LF in `s`), the unread inputs
  `s ++ [LF]` and `s ++ [CR, LF]` are the `Same` up to their line ends (HL/Lemmas/LexExt.lean), so
  `Next` returns the same token and the same state except for the unread input; only at the line
  end itself is there a difference — the Newline token starts at the CR and is one byte longer
  (`next_crstep`).
-/
namespace HL.Utf8

/-- behind at least one byte, a carriage return ends a (possibly truncated) sequence exactly as
    a line feed does -/
theorem decodeRune_cr_lf (s x y : Bytes) (hs : s ≠ []) :
    decodeRune (s ++ 0x0D :: x) = decodeRune (s ++ 0x0A :: y) :=
  (decodeRune_append_stop s hs (by decide) x).trans (decodeRune_append_stop s hs (by decide) y).symm

end HL.Utf8

namespace HL.Lex
open HL HL.Utf8 Ctl

/-- `a` with a carriage return put in front of its final line feed -/
def crx : Bytes → Bytes
  | [] => []
  | c :: t => if t.isEmpty && c == LF then [CR, LF] else c :: crx t

/-- exactly one line is ahead: `s ++ [LF]` with neither CR nor LF in `s` -/
def OLb (a : Bytes) : Prop := ∃ s, a = s ++ [LF] ∧ LF ∉ s ∧ CR ∉ s

theorem crx_append (s : Bytes) : crx (s ++ [LF]) = s ++ [CR, LF] := by
  induction s with
  | nil => rfl
  | cons c s ih =>
    have : (s ++ [LF]).isEmpty = false := by simp
    simp only [List.cons_append, crx, this, Bool.false_and, Bool.false_eq_true, if_false, ih]

theorem OLb.ne_nil {a : Bytes} (h : OLb a) : a ≠ [] := by
  obtain ⟨s, rfl, _, _⟩ := h; simp

theorem OLb.hasLF {a : Bytes} (h : OLb a) : LF ∈ a := by
  obtain ⟨s, rfl, _, _⟩ := h; simp

theorem crx_lf : crx [LF] = [CR, LF] := rfl

theorem OLb.same {a : Bytes} (h : OLb a) : Same [LF] [CR, LF] a (crx a) := by
  obtain ⟨s, rfl, h1, h2⟩ := h
  rw [crx_append]
  induction s with
  | nil => exact Same.eol rfl rfl
  | cons c s ih =>
    have hc : ∀ u, atEol (c :: u) = false :=
      fun u => atEol_of_ne (fun e => h1 (by simp [e])) (fun e => h2 (by simp [e]))
    exact Same.cons c (hc _) (hc _) (ih (fun m => h1 (by simp [m])) (fun m => h2 (by simp [m])))

/-- the same state with the line end ahead made CR LF -/
def Z.crx (z : Z) : Z := { z with after := HL.Lex.crx z.after }

def crxR (r : Token × Z) : Token × Z := (r.1, r.2.crx)

/-- exactly one line (ending in LF, without CR) is ahead -/
def OL (z : Z) : Prop := OLb z.after

@[simp] theorem crx_col (z : Z) : z.crx.col = z.col := rfl
@[simp] theorem crx_line (z : Z) : z.crx.line = z.line := rfl
@[simp] theorem crx_atStart (z : Z) : z.crx.atStart = z.atStart := rfl
@[simp] theorem crx_position (z : Z) : z.crx.position = z.position := rfl

theorem OL.hasLF {z : Z} (h : OL z) : HasLF z := OLb.hasLF h

theorem OL.sim {z : Z} (h : OL z) : Sim [LF] [CR, LF] z z.crx := ⟨rfl, rfl, rfl, rfl, OLb.same h⟩

theorem Sim.crx_eq {z z' : Z} (h : Sim [LF] [CR, LF] z z') : z' = z.crx := by
  obtain ⟨s, h1, h2, _, _⟩ := h.after.split
  have ha : z'.after = HL.Lex.crx z.after := by rw [h2, h1, crx_append]
  have hb := h.before; have hl := h.line; have hk := h.col; have hst := h.atStart
  cases z; cases z'
  simp only at ha hb hl hk hst
  simp only [Z.crx, ha, hb, hl, hk, hst]

theorem OL.of_sim {z e e' : Z} (h : OL z) (ha : Adv z e) (hs : Sim [LF] [CR, LF] e e') : OL e := by
  obtain ⟨s, hz, h1, h2⟩ := h
  obtain ⟨pre, hp, _⟩ := ha
  obtain ⟨s', he, _, _, _⟩ := hs.after.split
  rw [hz, he, ← List.append_assoc] at hp
  have hs' : s = pre ++ s' := List.append_inj_left' hp rfl
  exact ⟨s', he, fun m => h1 (by rw [hs']; simp [m]), fun m => h2 (by rw [hs']; simp [m])⟩

theorem getD_crx_lt (s : Bytes) (i : Nat) (hi : i < s.length) :
    (s ++ [CR, LF]).getD i 0 = (s ++ [LF]).getD i 0 := by
  rw [getD_append_left _ _ _ hi, getD_append_left _ _ _ hi]

/-- One call of `Next` with exactly one line ahead, on `s ++ [CR, LF]` (`r'`) compared with
    `s ++ [LF]` (`r`): either the same token inside the line and the same state but for the
    unread input, or — at the line end, behind blanks — the Newline token, which in the CR LF
    text starts at the CR and is one byte longer. -/
inductive CrStep (L : Nat) (r' r : Token × Z) : Prop
  | inside (h : r' = crxR r) (hol : OL r.2) (hpl : r.1.pos.line = L) (hsl : r.1.stop.line = L)
      (hl : r.2.line = L) : CrStep L r' r
  | newline (zz : Z) (hl : zz.line = L) (hr : r = (nlTok zz, zz.nl []))
      (hr' : r' = (nlTokc zz true, zz.nlc true [])) : CrStep L r' r

theorem next_crstep (C : Classes) {z : Z} (h : OL z) : CrStep z.line (next C z.crx) (next C z) := by
  have hstep := next_step C z
  cases next_sim C h.sim with
  | inside hr =>
    have hol := h.of_sim (next_res C z).adv hr.2
    cases hstep with
    | tok sp pre hsp hpre hafter hbefore hline hty hpl hpo hstop =>
      exact CrStep.inside (Prod.ext hr.1 hr.2.crx_eq) hol hpl (hstop.line.trans hpl) hline
    | newline sp cr hsp hcr hafter hbefore hline hcol hstart hty hpl hpo hstop =>
      -- two line feeds ahead
      obtain ⟨s, hz, h1, _⟩ := h
      obtain ⟨s', he, _, _⟩ := hol
      rw [hz, he, ← List.cons_append, ← List.append_assoc] at hafter
      exact absurd (List.append_inj_left' hafter rfl ▸ by simp) h1
  | newline y y' hy h1 h2 hr hr' =>
    have e1 : next C z = (nlTok y, y.nl []) := hr.trans (scanNewline_atc false h1)
    have e2 : next C z.crx = (nlTokc y true, y.nlc true []) := by
      rw [hr', scanNewline_atc true (t := []) h2]
      simp only [nlTokc, Z.nlc, hy.position, hy.before, hy.line]
    refine CrStep.newline y ?_ e1 e2
    cases hstep with
    | tok sp pre hsp hpre hafter hbefore hline hty hpl hpo hstop => rw [e1] at hty; exact absurd rfl hty
    | newline sp cr hsp hcr hafter hbefore hline hcol hstart hty hpl hpo hstop =>
      rw [e1] at hline; exact Nat.succ.inj hline

/-- offsets of positions behind line `L` moved by the number of line ends between -/
def crLine (L : Nat) (t : Token) : Token :=
  { t with pos := ⟨t.pos.line, t.pos.col, t.pos.off + (t.pos.line - L)⟩,
           stop := ⟨t.stop.line, t.stop.col, t.stop.off + (t.stop.line - L)⟩ }

theorem crLine_same (L : Nat) (t : Token) (h1 : t.pos.line = L) (h2 : t.stop.line = L) : crLine L t = t := by
  cases t with
  | mk ty v p e =>
    cases p; cases e
    simp only at h1 h2
    simp [crLine, h1, h2]

/-- **One line.**  With exactly one line `s ++ [LF]` ahead (no CR in `s`), the stream lexed from
    `s ++ [CR, LF]` is the stream lexed from `s ++ [LF]` with the end of the Newline token and the
    EOF token one byte further on. -/
theorem lexS_crx (C : Classes) (n : Nat) {z : Z} (h : OL z) (hn : z.after.length ≤ n) :
    lexS C z.crx = (lexS C z).map (crLine z.line) := by
  induction n generalizing z with
  | zero =>
    have := OLb.ne_nil h
    exact absurd (List.eq_nil_of_length_eq_zero (by omega)) this
  | succ n ih =>
    cases next_crstep C h with
    | inside hr hol hpl hsl hl =>
      have hne : (next C z).1.ty ≠ .eof := by
        intro e
        exact OLb.ne_nil hol ((next_res C z).eof e).1
      have hne' : (next C z.crx).1.ty ≠ .eof := by rw [hr]; exact hne
      have hlt := next_lt_of_ne_eof C z hne
      rw [lexS_unfold C z.crx, lexS_unfold C z, if_neg hne, if_neg hne', hr]
      simp only [crxR, List.map_cons]
      rw [ih hol (by omega), hl, crLine_same _ _ hpl hsl]
    | newline zz hl hr hr' =>
      have e1 : lexS C z = [nlTok zz, (mkTok .eof [] (zz.nl []) (zz.nl [])).1] := by
        rw [lexS_unfold C z, hr, if_neg (by simp [nlTok]), lexS_unfold, next_nil C rfl]
        simp [mkTok]
      have e2 : lexS C z.crx = [nlTokc zz true, (mkTok .eof [] (zz.nlc true []) (zz.nlc true [])).1] := by
        rw [lexS_unfold C z.crx, hr', if_neg (by simp [nlTokc]), lexS_unfold, next_nil C rfl]
        simp [mkTok]
      rw [e1, e2]
      simp [crLine, nlTok, nlTokc, mkTok, Z.nl, Z.nlc, Z.position, hl]

end HL.Lex
