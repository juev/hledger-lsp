/-
  Helper lemmas for C17 (semantic tokens): relative encoding vs. the client's decoding, edits,
  what a request does to the cache (`step_tokens`, `step_srv`), the cache / client invariants,
  fresh result ids.
-/
import HL.Model.SemTok
import HL.Spec.SemTokSpec
import Std.Data.String.ToNat

namespace HL.Lemmas.SemTok
open HL HL.SemTok HL.SemTokSpec

/-- A server token seen in the client's coordinates. -/
def absOf (t : SemToken) : AbsTok :=
  ⟨t.line.toNat, t.col.toNat, t.len.toNat, t.ty.toNat, t.mods.toNat⟩

theorem lex_trans {L p L' p' L'' p'' : Nat} (h1 : L < L' ∨ L = L' ∧ p ≤ p')
    (h2 : L' < L'' ∨ L' = L'' ∧ p' ≤ p'') : L < L'' ∨ L = L'' ∧ p ≤ p'' := by
  rcases h1 with h1 | ⟨rfl, h1⟩
  · exact Or.inl (h2.elim (Nat.lt_trans h1) fun h => h.1 ▸ h1)
  · exact h2.imp_right (And.imp_right (Nat.le_trans h1))

theorem decode_encode_from (ll lc : UInt32) (ts : List SemToken)
    (h0 : ∀ t ∈ ts.head?, ll.toNat < t.line.toNat ∨ ll.toNat = t.line.toNat ∧ lc.toNat ≤ t.col.toNat)
    (h : weaklyOrdered (ts.map absOf) = true) :
    decodeGo ll.toNat lc.toNat ((encodeGo ll lc ts).map (·.toNat)) = ts.map absOf := by
  induction ts generalizing ll lc with
  | nil => rfl
  | cons t ts ih =>
    -- the previous position `(ll, lc)` is not behind `t`, so neither `uint32` subtraction wraps
    -- and the client's addition gives `t`'s position back; then go on from `t`
    have h1 := h0 t rfl
    have hle : ll.toNat ≤ t.line.toNat := h1.elim Nat.le_of_lt fun h => Nat.le_of_eq h.1
    have e1 : (t.line - ll).toNat = t.line.toNat - ll.toNat :=
      UInt32.toNat_sub_of_le _ _ (UInt32.le_iff_toNat_le.mpr hle)
    have hs : (if (t.line - ll).toNat = 0 then
          lc.toNat + (if (t.line - ll == 0) = true then t.col - lc else t.col).toNat
        else (if (t.line - ll == 0) = true then t.col - lc else t.col).toNat) = t.col.toNat := by
      rcases h1 with hlt | ⟨heq, hle⟩
      · have hne : (t.line - ll).toNat ≠ 0 := e1 ▸ Nat.sub_ne_zero_of_lt hlt
        rw [if_neg hne, if_neg fun h => hne (by rw [beq_iff_eq.mp h]; rfl)]
      · rw [UInt32.toNat_inj.mp heq, UInt32.sub_self]
        simp only [UInt32.toNat_zero, beq_self_eq_true, ↓reduceIte,
          UInt32.toNat_sub_of_le _ _ (UInt32.le_iff_toNat_le.mpr hle), Nat.add_sub_of_le hle]
    have hrest : (∀ t' ∈ ts.head?, t.line.toNat < t'.line.toNat ∨
          t.line.toNat = t'.line.toNat ∧ t.col.toNat ≤ t'.col.toNat) ∧
        weaklyOrdered (ts.map absOf) = true := by
      cases ts with
      | nil => exact ⟨fun _ h => (nomatch h), rfl⟩
      | cons t' r =>
        simp only [List.map_cons, weaklyOrdered, Bool.and_eq_true, Bool.or_eq_true,
          decide_eq_true_eq, beq_iff_eq] at h
        exact ⟨fun _ ht => Option.some.inj ht ▸ h.1, h.2⟩
    simp only [encodeGo, List.map_cons, decodeGo]
    rw [show ll.toNat + (t.line - ll).toNat = t.line.toNat from e1 ▸ Nat.add_sub_of_le hle, hs,
      ih t.line t.col hrest.1 hrest.2]
    rfl

/-- Document order on absolute tokens (what relative encoding needs). -/
def posLe (a b : AbsTok) : Prop := a.line < b.line ∨ (a.line = b.line ∧ a.start ≤ b.start)

instance : DecidableRel posLe := fun a b => by unfold posLe; exact inferInstance

/-- Pairwise form, convenient for sublists. -/
theorem weaklyOrdered_iff_pairwise (l : List AbsTok) :
    weaklyOrdered l = true ↔ l.Pairwise posLe := by
  induction l with
  | nil => simp [weaklyOrdered]
  | cons a rest ih =>
    cases rest with
    | nil => simp [weaklyOrdered]
    | cons b rest =>
      simp only [weaklyOrdered, Bool.and_eq_true, Bool.or_eq_true, decide_eq_true_eq, beq_iff_eq]
      rw [ih, List.pairwise_cons (l := b :: rest)]
      constructor
      · rintro ⟨hab, hp⟩
        refine ⟨?_, hp⟩
        intro c hc
        rcases List.mem_cons.mp hc with rfl | hc
        · exact hab
        · exact lex_trans hab ((List.pairwise_cons.mp hp).1 c hc)
      · rintro ⟨hall, hp⟩
        exact ⟨hall b (List.mem_cons_self), hp⟩

theorem weaklyOrdered_filter (p : AbsTok → Bool) (l : List AbsTok) (h : weaklyOrdered l = true) :
    weaklyOrdered (l.filter p) = true := by
  rw [weaklyOrdered_iff_pairwise] at *
  exact h.sublist List.filter_sublist

theorem applyEdits_single (a : Data) (e : Edit) : applyEdits a [e] = applyEdit a e := by
  simp [applyEdits]

theorem u32_toNat_of_lt (n : Nat) (h : n < 2 ^ 32) : (u32 n).toNat = n := by
  simp [u32, UInt32.toNat_ofNat', Nat.mod_eq_of_lt h]

theorem computeEdits_apply (old new : Data) (h : old.length < 2 ^ 32) :
    applyEdits old (computeEdits old new) = new := by
  unfold computeEdits
  by_cases he : old = new
  · subst he; simp [applyEdits]
  · have : (old == new) = false := by simpa using he
    simp only [this, Bool.false_eq_true, if_false, applyEdits_single, applyEdit]
    simp [u32_toNat_of_lt _ h]

theorem find?_filter_ne {β : Type} (l : List (Uri × β)) (u u' : Uri) :
    (l.filter (·.1 != u)).find? (·.1 == u') = if u' = u then none else l.find? (·.1 == u') := by
  induction l with
  | nil => simp
  | cons e rest ih =>
    by_cases he : e.1 = u
    · have h1 : (e.1 != u) = false := by simp [he]
      rw [List.filter_cons, h1, if_neg Bool.false_ne_true, ih]
      split
      · rfl
      · rename_i hne
        rw [List.find?_cons, show (e.1 == u') = false from beq_false_of_ne (he ▸ Ne.symm hne)]
    · have h1 : (e.1 != u) = true := by simp [he]
      rw [List.filter_cons, h1, if_pos rfl, List.find?_cons, List.find?_cons, ih]
      by_cases h3 : e.1 = u'
      · simp only [beq_iff_eq.mpr h3, if_neg (h3 ▸ he)]
      · simp only [beq_false_of_ne h3]

theorem cache_get_set (c : Cache) (u u' : Uri) (v : Cached) :
    (c.set u v).get u' = if u' = u then some v else c.get u' := by
  by_cases h : u' = u
  · simp [Cache.set, Cache.get, h]
  · have h2 : (u == u') = false := beq_false_of_ne (Ne.symm h)
    simp only [Cache.set, Cache.get, Cache.erase, List.find?_cons, h2, find?_filter_ne, if_neg h]

theorem cache_get_erase (c : Cache) (u u' : Uri) :
    (c.erase u).get u' = if u' = u then none else c.get u' := by
  simp only [Cache.erase, Cache.get, find?_filter_ne]; split <;> rfl

theorem getDoc_setDoc {δ : Type} (docs : List (Uri × δ)) (u u' : Uri) (d : δ) :
    getDoc (setDoc docs u d) u' = if u' = u then some d else getDoc docs u' := by
  by_cases h : u' = u
  · simp [setDoc, getDoc, h]
  · have h2 : (u == u') = false := beq_false_of_ne (Ne.symm h)
    simp only [setDoc, getDoc, eraseDoc, List.find?_cons, h2, find?_filter_ne, if_neg h]

theorem getDoc_eraseDoc {δ : Type} (docs : List (Uri × δ)) (u u' : Uri) :
    getDoc (eraseDoc docs u) u' = if u' = u then none else getDoc docs u' := by
  simp only [eraseDoc, getDoc, find?_filter_ne]; split <;> rfl

theorem get1_cons (c : Client1) (u u' : Uri) (x : String × Data) :
    Client1.get ((u, x) :: c) u' = if u' = u then some x else Client1.get c u' := by
  by_cases h : u' = u
  · simp [Client1.get, h]
  · simp only [Client1.get, List.find?_cons, beq_false_of_ne (Ne.symm h), if_neg h]

theorem fmtId_ne_empty (n : UInt64) : fmtId n ≠ "" := by
  unfold fmtId
  rw [Nat.toString_eq_repr]
  exact Nat.repr_ne_empty

variable {δ : Type}

/-- The data of a full response for the current text of `u` (`[]` for a missing or empty
    document: what `SemanticTokensFull` returns). -/
def fullData (cfg : Cfg δ) (s : Srv δ) (u : Uri) : Data :=
  match liveDoc cfg s u with
  | none => []
  | some d => encodeTokens (cfg.tok d)

theorem fullData_none {cfg : Cfg δ} {s : Srv δ} {u : Uri} (h : liveDoc cfg s u = none) :
    fullData cfg s u = [] := by rw [fullData, h]

theorem fullData_some {cfg : Cfg δ} {s : Srv δ} {u : Uri} {d : δ} (h : liveDoc cfg s u = some d) :
    fullData cfg s u = encodeTokens (cfg.tok d) := by rw [fullData, h]

/-- Arrays the protocol can address. -/
def fits (cfg : Cfg δ) (d : δ) : Prop := (encodeTokens (cfg.tok d)).length < 2 ^ 32

def FitsReq (cfg : Cfg δ) : Req δ → Prop
  | .setDoc _ d => fits cfg d
  | _ => True

def DocsFit (cfg : Cfg δ) (s : Srv δ) : Prop := ∀ u d, getDoc s.docs u = some d → fits cfg d
def CacheFit (s : Srv δ) : Prop := ∀ u e, s.cache.get u = some e → e.data.length < 2 ^ 32
def CacheIds (s : Srv δ) : Prop := ∀ u e, s.cache.get u = some e → e.id ≠ ""

theorem liveDoc_fits (cfg : Cfg δ) (s : Srv δ) (u : Uri) (d : δ) (hg : DocsFit cfg s)
    (h : liveDoc cfg s u = some d) : fits cfg d := by
  unfold liveDoc at h
  split at h
  · rename_i d' hd
    split at h
    · cases h
    · cases h; exact hg u _ hd
  · cases h

/-- What `SemanticTokensFull` and `SemanticTokensFullDelta` have in common. -/
theorem step_tokens (cfg : Cfg δ) (s : Srv δ) {rq : Req δ} {u : Uri}
    (hrq : rq = .full u ∨ ∃ p, rq = .delta u p) :
    (liveDoc cfg s u = none ∧ step cfg s rq = (s, .tokens "" [])) ∨
    ∃ d, liveDoc cfg s u = some d ∧
      (step cfg s rq).1 = (cacheSet s u (encodeTokens (cfg.tok d))).1 ∧
      ((step cfg s rq).2 = .tokens (cacheSet s u (encodeTokens (cfg.tok d))).2 (encodeTokens (cfg.tok d)) ∨
       ∃ e, rq = .delta u e.id ∧ s.cache.get u = some e ∧
        (step cfg s rq).2 = .delta (cacheSet s u (encodeTokens (cfg.tok d))).2
          (computeEdits e.data (encodeTokens (cfg.tok d)))) := by
  cases hl : liveDoc cfg s u with
  | none => left; rcases hrq with rfl | ⟨p, rfl⟩ <;> simp only [step, hl, and_self]
  | some d =>
    refine Or.inr ⟨d, rfl, ?_⟩
    rcases hrq with rfl | ⟨p, rfl⟩
    · simp only [step, hl]; exact ⟨trivial, Or.inl trivial⟩
    · simp only [step, hl]
      cases hc : s.cache.get u with
      | none => exact ⟨rfl, Or.inl rfl⟩
      | some e =>
        by_cases hid : e.id = p
        · subst hid
          simp only [bne_self_eq_false, Bool.false_eq_true, if_false]
          exact ⟨trivial, Or.inr ⟨e, rfl, rfl, rfl⟩⟩
        · simp only [bne_iff_ne, ne_eq, hid, not_false_eq_true, if_true]
          exact ⟨trivial, Or.inl trivial⟩

theorem cacheSet_get (s : Srv δ) (u u' : Uri) (data : Data) :
    (cacheSet s u data).1.cache.get u'
      = if u' = u then some ⟨(cacheSet s u data).2, data⟩ else s.cache.get u' :=
  cache_get_set _ _ _ _

/-- The result id a response carries (`none` when absent). -/
def respId? : Resp → Option String
  | .tokens id _ => if id = "" then none else some id
  | .delta id _ => if id = "" then none else some id
  | .none => none

theorem step_other (cfg : Cfg δ) (s : Srv δ) {rq : Req δ}
    (hno : ∀ u, ¬ (rq = .full u ∨ ∃ p, rq = .delta u p)) :
    (step cfg s rq).1.next = s.next ∧ respId? (step cfg s rq).2 = none ∧
    (∀ u e, (step cfg s rq).1.cache.get u = some e → s.cache.get u = some e) ∧
    (DocsFit cfg s → FitsReq cfg rq → DocsFit cfg (step cfg s rq).1) := by
  cases rq with
  | full u => exact absurd (Or.inl rfl) (hno u)
  | delta u p => exact absurd (Or.inr ⟨p, rfl⟩) (hno u)
  | setDoc u d =>
    refine ⟨rfl, rfl, fun _ _ h => h, fun hd hrq u' d' h => ?_⟩
    simp only [step, getDoc_setDoc] at h
    split at h
    · cases h; exact hrq
    · exact hd u' d' h
  | close u =>
    refine ⟨rfl, rfl, fun u' e h => ?_, fun hd _ u' d' h => ?_⟩
    · simp only [step, cache_get_erase] at h
      split at h
      · cases h
      · exact h
    · simp only [step, getDoc_eraseDoc] at h
      split at h
      · cases h
      · exact hd u' d' h
  | range u lo hi => simp only [step]; split <;> exact ⟨rfl, rfl, fun _ _ h => h, fun hd _ => hd⟩

theorem step_srv (cfg : Cfg δ) (s : Srv δ) (rq : Req δ) (hd : DocsFit cfg s) (hrq : FitsReq cfg rq) :
    DocsFit cfg (step cfg s rq).1 ∧
    ∀ u e, (step cfg s rq).1.cache.get u = some e → s.cache.get u = some e ∨
      ((rq = .full u ∨ ∃ p, rq = .delta u p) ∧
        ∃ d, fits cfg d ∧ e = ⟨fmtId (s.next + 1), encodeTokens (cfg.tok d)⟩) := by
  by_cases hno : ∀ u, ¬ (rq = .full u ∨ ∃ p, rq = .delta u p)
  · obtain ⟨_, _, hsub, hdocs⟩ := step_other cfg s hno
    exact ⟨hdocs hd hrq, fun u e h => Or.inl (hsub u e h)⟩
  · obtain ⟨u, hu⟩ := Classical.not_forall_not.mp hno
    rcases step_tokens cfg s hu with ⟨_, e⟩ | ⟨d, hl, e, _⟩
    · rw [e]; exact ⟨hd, fun _ _ h => Or.inl h⟩
    · rw [e]
      refine ⟨hd, fun u' e' he => ?_⟩
      rw [cacheSet_get] at he
      split at he
      · rename_i h; cases he; exact Or.inr ⟨h ▸ hu, d, liveDoc_fits cfg s u d hd hl, rfl⟩
      · exact Or.inl he

/-- "Equal ids ⇒ equal data": whatever the server has cached for a document under an id, the
    client remembers under the same (document, id). -/
def Inv (s : Srv δ) (c : Client) : Prop :=
  ∀ u e, s.cache.get u = some e → c.lookup u e.id = some e.data

structure Good (cfg : Cfg δ) (s : Srv δ) (c : Client) : Prop where
  inv : Inv s c
  docs : DocsFit cfg s
  cache : CacheFit s

theorem lookup_store (c : Client) (u u' : Uri) (id id' : String) (d : Data) (h : id ≠ "") :
    (c.store u id d).lookup u' id' = if (u', id') = (u, id) then some d else c.lookup u' id' := by
  by_cases he : (u', id') = (u, id)
  · simp [Client.store, Client.lookup, h, he]
  · have : (((u, id) : Uri × String) == (u', id')) = false := beq_false_of_ne (Ne.symm he)
    simp only [Client.store, Client.lookup, if_neg h, List.find?_cons, this, if_neg he]

/-- `prev` is the `previousResultId` the client sent. -/
theorem recv_good (cfg : Cfg δ) (s : Srv δ) (c : Client) (hg : Good cfg s c) {rq : Req δ} {u : Uri}
    {prev : Option String}
    (hu : rq = .full u ∧ prev = none ∨ ∃ p, rq = .delta u p ∧ prev = some p) :
    Inv (step cfg s rq).1 (c.recv u prev (step cfg s rq).2) ∧
    (c.recv u prev (step cfg s rq).2).shown u = some (fullData cfg (step cfg s rq).1 u) := by
  have hu' : rq = .full u ∨ ∃ p, rq = .delta u p := hu.imp (·.1) fun ⟨p, h, _⟩ => ⟨p, h⟩
  rcases step_tokens cfg s hu' with ⟨hl, e⟩ | ⟨d, hl, e1, e2⟩
  · rw [e]
    refine ⟨fun u' e' he => ?_, by simp only [Client.recv, Client.store, Client.shown, fullData_none hl,
      List.find?_cons, beq_self_eq_true, Option.map_some]⟩
    simpa only [Client.recv, Client.store, Client.lookup, ↓reduceIte] using hg.inv u' e' he
  · have hlive : liveDoc cfg (cacheSet s u (encodeTokens (cfg.tok d))).1 u = some d := hl
    -- a delta is computed from the cached array, which by `Inv` is the array the client
    -- remembers under the id it sent: applying the edits gives the new array, as a full answer does
    have hrecv : c.recv u prev (step cfg s rq).2
        = c.store u (cacheSet s u (encodeTokens (cfg.tok d))).2 (encodeTokens (cfg.tok d)) := by
      rcases e2 with e2 | ⟨e, he, hc, e2⟩
      · rw [e2]; rfl
      · obtain ⟨p, h1, rfl⟩ := hu.resolve_left (fun h => by rw [h.1] at he; cases he)
        rw [he] at h1; cases h1
        rw [e2]
        simp only [Client.recv, Option.bind_some, hg.inv u e hc, Option.getD_some,
          computeEdits_apply _ _ (hg.cache u e hc)]
    rw [hrecv, e1]
    refine ⟨fun u' e' he => ?_, by simp only [Client.store, Client.shown, fullData_some hlive,
      List.find?_cons, beq_self_eq_true, Option.map_some]⟩
    rw [cacheSet_get] at he
    rw [lookup_store (h := show (cacheSet s u (encodeTokens (cfg.tok d))).2 ≠ "" from fmtId_ne_empty _)]
    split at he
    · rename_i h; cases he; rw [h]; exact if_pos rfl
    · rename_i h; rw [if_neg (fun h' => h (congrArg Prod.fst h'))]; exact hg.inv u' e' he

theorem step_good (cfg : Cfg δ) (s : Srv δ) (c : Client) (rq : Req δ)
    (hg : Good cfg s c) (hrq : FitsReq cfg rq) :
    Good cfg (step cfg s rq).1 (c.step rq (step cfg s rq).2) ∧
    (∀ u, (rq = .full u ∨ ∃ p, rq = .delta u p) →
      (c.step rq (step cfg s rq).2).shown u = some (fullData cfg (step cfg s rq).1 u)) := by
  obtain ⟨hdocs, hsrv⟩ := step_srv cfg s rq hg.docs hrq
  have hcache : CacheFit (step cfg s rq).1 := fun u e h =>
    (hsrv u e h).elim (hg.cache u e) fun ⟨_, _, hf, he⟩ => he ▸ hf
  refine ⟨⟨?_, hdocs, hcache⟩, fun u hu => ?_⟩
  · cases rq with
    | full u => exact (recv_good cfg s c hg (Or.inl ⟨rfl, rfl⟩)).1
    | delta u p => exact (recv_good cfg s c hg (Or.inr ⟨p, rfl, rfl⟩)).1
    | setDoc u d | close u | range u lo hi =>
      -- the client does not react, and nothing new is cached
      exact fun u e he => hg.inv u e ((hsrv u e he).resolve_right fun h => by
        rcases h.1 with h | ⟨p, h⟩ <;> cases h)
  · rcases hu with rfl | ⟨p, rfl⟩
    · exact (recv_good cfg s c hg (Or.inl ⟨rfl, rfl⟩)).2
    · exact (recv_good cfg s c hg (Or.inr ⟨p, rfl, rfl⟩)).2

/-- Server and memoryful client run through a history. -/
def run (cfg : Cfg δ) : Srv δ × Client → List (Req δ) → Srv δ × Client
  | sc, [] => sc
  | (s, c), rq :: rest =>
    let r := step cfg s rq
    run cfg (r.1, c.step rq r.2) rest

theorem run_append (cfg : Cfg δ) (sc : Srv δ × Client) (a b : List (Req δ)) :
    run cfg sc (a ++ b) = run cfg (run cfg sc a) b := by
  induction a generalizing sc with
  | nil => rfl
  | cons rq rest ih => obtain ⟨s, c⟩ := sc; simp [run, ih]

theorem run_good (cfg : Cfg δ) (s : Srv δ) (c : Client) (reqs : List (Req δ))
    (hg : Good cfg s c) (hf : ∀ r ∈ reqs, FitsReq cfg r) :
    Good cfg (run cfg (s, c) reqs).1 (run cfg (s, c) reqs).2 := by
  induction reqs generalizing s c with
  | nil => exact hg
  | cons rq rest ih =>
    simp only [run]
    exact ih _ _ (step_good cfg s c rq hg (hf rq List.mem_cons_self)).1
      (fun r hr => hf r (List.mem_cons_of_mem _ hr))

def resps (cfg : Cfg δ) : Srv δ → List (Req δ) → List Resp
  | _, [] => []
  | s, rq :: rest => (step cfg s rq).2 :: resps cfg (step cfg s rq).1 rest

def issued (cfg : Cfg δ) (s : Srv δ) (reqs : List (Req δ)) : List String :=
  (resps cfg s reqs).filterMap respId?

theorem step_id (cfg : Cfg δ) (s : Srv δ) (rq : Req δ) :
    ((step cfg s rq).1.next = s.next ∧ respId? (step cfg s rq).2 = none) ∨
    ((step cfg s rq).1.next = s.next + 1 ∧ respId? (step cfg s rq).2 = some (fmtId (s.next + 1))) := by
  by_cases hno : ∀ u, ¬ (rq = .full u ∨ ∃ p, rq = .delta u p)
  · exact Or.inl ⟨(step_other cfg s hno).1, (step_other cfg s hno).2.1⟩
  · obtain ⟨u, hu⟩ := Classical.not_forall_not.mp hno
    rcases step_tokens cfg s hu with ⟨_, e⟩ | ⟨d, _, e1, e2⟩
    · rw [e]; exact Or.inl ⟨rfl, rfl⟩
    · rw [e1]
      refine Or.inr ⟨rfl, ?_⟩
      rcases e2 with e2 | ⟨_, _, _, e2⟩ <;> rw [e2] <;> exact if_neg (fmtId_ne_empty _)

theorem issued_range (cfg : Cfg δ) (s : Srv δ) (reqs : List (Req δ))
    (h : s.next.toNat + reqs.length < 2 ^ 64) :
    (∀ id ∈ issued cfg s reqs, ∃ k, s.next.toNat < k ∧ id = toString k) ∧
    (issued cfg s reqs).Pairwise (· ≠ ·) := by
  -- an id is the numeral of the counter after its request, and the counter only grows: every
  -- later id is the numeral of a larger number
  induction reqs generalizing s with
  | nil => exact ⟨fun _ h => (nomatch h), List.Pairwise.nil⟩
  | cons rq rest ih =>
    rw [List.length_cons] at h
    have hiss : issued cfg s (rq :: rest)
        = (respId? (step cfg s rq).2).toList ++ issued cfg (step cfg s rq).1 rest := by
      rw [issued, resps, List.filterMap_cons]; cases respId? (step cfg s rq).2 <;> rfl
    rw [hiss]
    rcases step_id cfg s rq with ⟨hn, hid⟩ | ⟨hn, hid⟩
    · rw [hid]
      exact hn ▸ ih (step cfg s rq).1 (by rw [hn]; omega)
    · have hnat : (s.next + 1).toNat = s.next.toNat + 1 := by
        rw [UInt64.toNat_add, UInt64.toNat_one, Nat.mod_eq_of_lt (by omega)]
      obtain ⟨ih1, ih2⟩ := ih (step cfg s rq).1 (by rw [hn, hnat]; omega)
      rw [hn, hnat] at ih1
      rw [hid, Option.toList_some, List.singleton_append]
      refine ⟨fun id hmem => ?_, List.pairwise_cons.mpr ⟨fun id hmem heq => ?_, ih2⟩⟩
      · rcases List.mem_cons.mp hmem with rfl | hmem
        · exact ⟨s.next.toNat + 1, Nat.lt_succ_self _, by rw [fmtId, hnat]⟩
        · exact (ih1 id hmem).imp fun k hk => ⟨Nat.lt_of_succ_lt hk.1, hk.2⟩
      · obtain ⟨k, h1, h3⟩ := ih1 id hmem
        rw [h3, fmtId, hnat, Nat.toString_eq_repr, Nat.toString_eq_repr] at heq
        exact Nat.ne_of_lt h1 (Nat.repr_injective heq)

def Inv1 (s : Srv δ) (c : Client1) : Prop :=
  ∀ u e d, s.cache.get u = some e → Client1.get c u = some (e.id, d) → d = e.data

structure Good1 (cfg : Cfg δ) (s : Srv δ) (c : Client1) : Prop where
  inv : Inv1 s c
  ids : CacheIds s
  docs : DocsFit cfg s
  cache : CacheFit s

/-- A delta request of a conforming client names the result it currently holds. -/
def Conforming (c : Client1) : Req δ → Prop
  | .delta u prev => ∃ d, Client1.get c u = some (prev, d)
  | _ => True

theorem recv_good1 (cfg : Cfg δ) (s : Srv δ) (c : Client1) (hg : Good1 cfg s c) {rq : Req δ}
    {u : Uri} (hu : rq = .full u ∨ ∃ p, rq = .delta u p) (hconf : Conforming c rq) :
    Inv1 (step cfg s rq).1 (Client1.recv c u (step cfg s rq).2) ∧
    (Client1.get (Client1.recv c u (step cfg s rq).2) u).map (·.2)
      = some (fullData cfg (step cfg s rq).1 u) := by
  rcases step_tokens cfg s hu with ⟨hl, e⟩ | ⟨d, hl, e1, e2⟩
  · rw [e]
    refine ⟨fun u' e' d' he hc => ?_, by simp only [Client1.recv, get1_cons, fullData_none hl, if_true,
      Option.map_some]⟩
    rw [Client1.recv, get1_cons] at hc
    split at hc
    · exact absurd (Prod.mk.inj (Option.some.inj hc)).1.symm (hg.ids u' e' he)
    · exact hg.inv u' e' d' he hc
  · have hlive : liveDoc cfg (cacheSet s u (encodeTokens (cfg.tok d))).1 u = some d := hl
    -- a conforming client holds the cached array under the id it sent, so applying the edits
    -- gives the new array, as a full answer does
    have hrecv : Client1.recv c u (step cfg s rq).2
        = (u, ((cacheSet s u (encodeTokens (cfg.tok d))).2, encodeTokens (cfg.tok d))) :: c := by
      rcases e2 with e2 | ⟨e, rfl, hc, e2⟩
      · rw [e2]; rfl
      · obtain ⟨d0, hd0⟩ := hconf
        rw [e2]
        simp only [Client1.recv, hd0, Option.map_some, Option.getD_some, hg.inv u e d0 hc hd0,
          computeEdits_apply _ _ (hg.cache u e hc)]
    rw [hrecv, e1]
    refine ⟨fun u' e' d' he hc => ?_, by simp only [get1_cons, fullData_some hlive, if_true,
      Option.map_some]⟩
    rw [cacheSet_get] at he
    rw [get1_cons] at hc
    by_cases h : u' = u
    · rw [if_pos h] at he hc; cases he; cases hc; rfl
    · rw [if_neg h] at he hc; exact hg.inv u' e' d' he hc

theorem step_good1 (cfg : Cfg δ) (s : Srv δ) (c : Client1) (rq : Req δ)
    (hg : Good1 cfg s c) (hrq : FitsReq cfg rq) (hconf : Conforming c rq) :
    Good1 cfg (step cfg s rq).1 (Client1.step c rq (step cfg s rq).2) ∧
    (∀ u, (rq = .full u ∨ ∃ p, rq = .delta u p) →
      (Client1.get (Client1.step c rq (step cfg s rq).2) u).map (·.2)
        = some (fullData cfg (step cfg s rq).1 u)) := by
  obtain ⟨hdocs, hsrv⟩ := step_srv cfg s rq hg.docs hrq
  have hcache : CacheFit (step cfg s rq).1 := fun u e h =>
    (hsrv u e h).elim (hg.cache u e) fun ⟨_, _, hf, he⟩ => he ▸ hf
  have hids : CacheIds (step cfg s rq).1 := fun u e h =>
    (hsrv u e h).elim (hg.ids u e) fun ⟨_, _, _, he⟩ => he ▸ fmtId_ne_empty _
  refine ⟨⟨?_, hids, hdocs, hcache⟩, fun u hu => ?_⟩
  · cases rq with
    | full u => exact (recv_good1 cfg s c hg (Or.inl rfl) hconf).1
    | delta u p => exact (recv_good1 cfg s c hg (Or.inr ⟨p, rfl⟩) hconf).1
    | setDoc u d | close u | range u lo hi =>
      exact fun u e d he => hg.inv u e d ((hsrv u e he).resolve_right fun h => by
        rcases h.1 with h | ⟨p, h⟩ <;> cases h)
  · rcases hu with rfl | ⟨p, rfl⟩
    · exact (recv_good1 cfg s c hg (Or.inl rfl) hconf).2
    · exact (recv_good1 cfg s c hg (Or.inr ⟨p, rfl⟩) hconf).2

/-- Server and latest-only client through a history. -/
def run1 (cfg : Cfg δ) : Srv δ × Client1 → List (Req δ) → Srv δ × Client1
  | sc, [] => sc
  | (s, c), rq :: rest =>
    let r := step cfg s rq
    run1 cfg (r.1, Client1.step c rq r.2) rest

/-- Every delta request of the history names the result the client holds at that moment. -/
def conformingRun (cfg : Cfg δ) : Srv δ × Client1 → List (Req δ) → Prop
  | _, [] => True
  | (s, c), rq :: rest =>
    Conforming c rq ∧
    let r := step cfg s rq
    conformingRun cfg (r.1, Client1.step c rq r.2) rest

theorem run1_shown (cfg : Cfg δ) (s : Srv δ) (c : Client1) (reqs : List (Req δ)) (rq : Req δ)
    (hg : Good1 cfg s c) (hf : ∀ r ∈ reqs ++ [rq], FitsReq cfg r)
    (hc : conformingRun cfg (s, c) (reqs ++ [rq])) (u : Uri)
    (hrq : rq = .full u ∨ ∃ p, rq = .delta u p) :
    (Client1.get (run1 cfg (s, c) (reqs ++ [rq])).2 u).map (·.2)
      = some (fullData cfg (run1 cfg (s, c) (reqs ++ [rq])).1 u) := by
  induction reqs generalizing s c with
  | nil => exact (step_good1 cfg s c rq hg (hf rq List.mem_cons_self) hc.1).2 u hrq
  | cons r rest ih =>
    exact ih _ _ (step_good1 cfg s c r hg (hf r List.mem_cons_self) hc.1).1
      (fun x hx => hf x (List.mem_cons_of_mem _ hx)) hc.2

end HL.Lemmas.SemTok
