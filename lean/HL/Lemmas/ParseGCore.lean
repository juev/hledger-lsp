import HL.Lemmas.ParseGCoreL
import HL.Lemmas.LexGCoreP
/-!
  The parser model on the token streams of `GCore.print`: `expectedL Layout.std = expected`, and
  the theorems of HL/Lemmas/ParseGCoreL.lean read for the standard layout.
-/
namespace HL.GCore
open HL HL.Ast HL.Parser HL.PStr

variable (cls : Parser.Classes)

theorem Posting.expectedL_std (p : Posting) (ln o : Nat) : p.expectedL Layout.std ln o = p.expected ln o := by
  simp only [Posting.expectedL, Posting.expected, Layout.std, ← Nat.add_assoc]
  rfl

theorem expectedPostingsL_std (ps : List Posting) :
    ∀ ln o, expectedPostingsL Layout.std ps ln o = expectedPostings ps ln o := by
  induction ps with
  | nil => intro _ _; rfl
  | cons p ps ih =>
    intro ln o; rw [expectedPostingsL, expectedPostings, Posting.expectedL_std, Posting.printL_std, ih]

theorem Tx.expectedL_std (t : Tx) (ln o : Nat) : t.expectedL Layout.std ln o = t.expected ln o := by
  rw [Tx.expectedL, Tx.expected, expectedPostingsL_std, Tx.printL_std]

theorem expectedTxsL_std (j : Journal) : ∀ ln o, expectedTxsL Layout.std j ln o = expectedTxs j ln o := by
  induction j with
  | nil => intro _ _; rfl
  | cons t ts ih => intro ln o; rw [expectedTxsL, expectedTxs, Tx.expectedL_std, Tx.printL_std, ih]

theorem expectedL_std (j : Journal) : expectedL Layout.std j = expected j := by
  rw [expectedL, expected, expectedTxsL_std]

theorem parsePosting_toks (p : Posting) (hp : p.wf = true) (ln o : Nat) (R : List Token)
    (errs : List ParseError) (dy : Int) :
    parsePosting (E cls) (stOf (p.toks ln o ++ R) errs dy) =
      (some (p.expected ln o), ⟨R, nlP ln o p.print.length, errs, dy⟩) := by
  rw [← Posting.expectedL_std]
  exact parsePosting_toksL cls Layout.std p hp ln o R errs dy

theorem postingsF_toks (ps : List Posting) (hps : ∀ p ∈ ps, p.wf = true) :
    ∀ (ln o n : Nat) (x : Token) (R : List Token) (errs : List ParseError) (dy : Int),
      ps.length ≤ n → x.ty ≠ .indent →
      postingsF (E cls) n (stOf (postingsToks ps ln o ++ x :: R) errs dy) =
        (expectedPostings ps ln o, ⟨R, x, errs, dy⟩) := by
  intro ln o
  rw [← postingsToksL_std, ← expectedPostingsL_std]
  exact postingsF_toksL cls Layout.std ps hps ln o

theorem parseTransaction_toks (t : Tx) (ht : t.wf = true) (ln o : Nat) (x : Token) (R : List Token)
    (errs : List ParseError) (dy : Int) (hx : x.ty ≠ .indent)
    (hpos : x.pos = ⟨ln + 1 + t.postings.length, 1, o + t.print.length⟩) :
    parseTransaction (E cls) (stOf (t.toks ln o ++ x :: R) errs dy) =
      (some (t.expected ln o), ⟨R, x, errs, dy⟩) := by
  rw [← Tx.toksL_std, ← Tx.expectedL_std]
  rw [← Tx.printL_std] at hpos
  exact parseTransaction_toksL cls Layout.std t ht ln o x R errs dy hx hpos

theorem parseJournalF_toks (j : Journal) (hj : WF j = true) :
    ∀ (ln o n : Nat) (errs : List ParseError) (dy : Int), 2 * j.length ≤ n →
      ∃ st', parseJournalF (E cls) n (stOf (toksFrom j ln o) errs dy) =
        (⟨expectedTxs j ln o, [], [], []⟩, st') ∧ st'.errors = errs := by
  intro ln o
  rw [← toksFromL_std, ← expectedTxsL_std]
  exact parseJournalF_toksL cls Layout.std j hj ln o

theorem parseTokens_toks (j : Journal) (hj : WF j = true) :
    parseTokens defaultNumDeps cls (toksFrom j 1 0) = (expected j, []) := by
  rw [← toksFromL_std, ← expectedL_std]
  exact parseTokens_toksL cls Layout.std j hj

end HL.GCore
