import HL.Lemmas.LexExt
/-!
  Soundness argument for the cache added to `(*Lexer).looksLikeAccount` (fields `noColonFrom`,
  `noColonUntil`): "a scan that starts inside a stretch already scanned to its end without
  finding a colon would visit the same bytes and stop at the same place".

  The model keeps the uncached `looksLikeAccount` (a pure function of the unread input); the
  cached Go code is tied to it by the correspondence `lex.tokens`.  Here the argument itself is
  proved on the model: let a scan from `a = input[from:]` walk over `lookStop a` bytes and find no
  colon.  `OnChain a j`: `j` is reached from the start of `a` by decoding rune after rune.  Proved:
  from every chain position inside the stretch, `looksLikeAccount` returns false
  (`looksLikeAccount_cache_sound`).  Not proved: that every position the lexer can be at lies on
  the chain; `advance_on_chain` (one `advance` moves by one decoded width) is the only step
  towards it.
-/
namespace HL.Lex
open HL HL.Utf8

/-- `i - l.pos` at the end of the loop of `looksLikeAccount`: the bytes it walked over. -/
def lookStopF : Nat → Bytes → Nat
  | 0, _ => 0
  | _, [] => 0
  | n+1, b :: t =>
    let (r, size) := decodeRune (b :: t)
    if r == 0x3A then size + lookStopF n ((b :: t).drop size)
    else if r == 0x20 then
      if headIs 0x20 t then 0 else size + lookStopF n ((b :: t).drop size)
    else if isAccountTerminator r then 0
    else size + lookStopF n ((b :: t).drop size)
def lookStop (a : Bytes) : Nat := lookStopF a.length a

/-- offsets reachable from the start of `a` by decoding rune after rune -/
inductive OnChain (a : Bytes) : Nat → Prop
  | zero : OnChain a 0
  | step (j : Nat) : OnChain a j → j < a.length → OnChain a (j + (decodeRune (a.drop j)).2)

/-- one `advance` moves the offset by the width of the rune in front -/
theorem advance_on_chain (z : Z) (h : z.after ≠ []) :
    (advance z).before.length = z.before.length + (decodeRune z.after).2 := by
  cases hz : z.after with
  | nil => exact absurd hz h
  | cons b t =>
    have hw := decodeRune_width_le_length b t
    simp only [advance, hz, Z.bump, List.length_append, List.length_reverse, List.length_take, List.length_cons]
    simp only [List.length_cons] at hw
    omega

theorem lookStopF_fuel (n m : Nat) (a : Bytes) (hn : a.length ≤ n) (hm : a.length ≤ m) :
    lookStopF n a = lookStopF m a := by
  refine fuel_indep lookStopF (fun n m => by cases n <;> cases m <;> rfl) (fun n m b t ih => ?_) n m a hn hm
  simp only [lookStopF, ih _ (drop_width_le b t)]

theorem looksLikeAccountF_true (n : Nat) (a : Bytes) : looksLikeAccountF n a true = true := by
  rw [looksLikeAccountF_eq]
  refine loopF_inv (fun s : Bytes × Bool => s.2 = true) (fun s s' h hs => ?_) n rfl
  unfold lookStep at h
  split at h
  · cases h
  · cases h; exact (congrArg (· || _) hs).trans (Bool.true_or _)

theorem looksLikeAccount_step (b : UInt8) (t : Bytes) (h : looksLikeAccount (b :: t) = false)
    (hs : 0 < lookStop (b :: t)) :
    looksLikeAccount ((b :: t).drop (decodeRune (b :: t)).2) = false ∧
      lookStop (b :: t) = (decodeRune (b :: t)).2 + lookStop ((b :: t).drop (decodeRune (b :: t)).2) := by
  have hw := decodeRune_width_pos b t
  have hl : ((b :: t).drop (decodeRune (b :: t)).2).length ≤ t.length := by
    simp only [List.length_drop, List.length_cons]; omega
  have e1 : ∀ hc, looksLikeAccountF t.length ((b :: t).drop (decodeRune (b :: t)).2) hc =
      looksLikeAccountF ((b :: t).drop (decodeRune (b :: t)).2).length ((b :: t).drop (decodeRune (b :: t)).2) hc :=
    fun hc => looksLikeAccountF_fuel _ _ _ hc hl (Nat.le_refl _)
  have e2 : lookStopF t.length ((b :: t).drop (decodeRune (b :: t)).2) =
      lookStopF ((b :: t).drop (decodeRune (b :: t)).2).length ((b :: t).drop (decodeRune (b :: t)).2) :=
    lookStopF_fuel _ _ _ hl (Nat.le_refl _)
  unfold looksLikeAccount at h ⊢
  unfold lookStop at hs ⊢
  simp only [List.length_cons, looksLikeAccountF, lookStopF] at h hs
  simp only [List.length_cons, lookStopF]
  by_cases c1 : ((decodeRune (b :: t)).1 == 0x3A) = true
  · simp only [c1, if_true, looksLikeAccountF_true] at h
    exact absurd h (by simp)
  · simp only [c1, Bool.false_eq_true, if_false] at h hs ⊢
    by_cases c2 : ((decodeRune (b :: t)).1 == 0x20) = true
    · simp only [c2, if_true] at h hs ⊢
      by_cases c3 : headIs 0x20 t = true
      · simp [c3] at hs
      · simp only [c3, Bool.false_eq_true, if_false] at h hs ⊢
        rw [← e1, ← e2]
        exact ⟨h, rfl⟩
    · simp only [c2, Bool.false_eq_true, if_false] at h hs ⊢
      by_cases c4 : isAccountTerminator (decodeRune (b :: t)).1 = true
      · simp [c4] at hs
      · simp only [c4, Bool.false_eq_true, if_false] at h hs ⊢
        rw [← e1, ← e2]
        exact ⟨h, rfl⟩

theorem OnChain.uncons {a : Bytes} {j : Nat} (h : OnChain a j) :
    j = 0 ∨ ((decodeRune a).2 ≤ j ∧ OnChain (a.drop (decodeRune a).2) (j - (decodeRune a).2)) := by
  induction h with
  | zero => exact Or.inl rfl
  | step j hj hlt ih =>
    right
    rcases ih with rfl | ⟨hle, hc⟩
    · simp only [List.drop_zero, Nat.zero_add, Nat.le_refl, Nat.sub_self, true_and]
      exact OnChain.zero
    · refine ⟨by omega, ?_⟩
      have hd : a.drop j = (a.drop (decodeRune a).2).drop (j - (decodeRune a).2) := by
        rw [List.drop_drop]; congr 1; omega
      have : j + (decodeRune (a.drop j)).2 - (decodeRune a).2 =
          (j - (decodeRune a).2) + (decodeRune ((a.drop (decodeRune a).2).drop (j - (decodeRune a).2))).2 := by
        rw [← hd]; omega
      rw [this]
      exact OnChain.step _ hc (by simp only [List.length_drop]; omega)

/-- **Cache soundness.**  If the scan from `a` found no colon, then from every rune boundary
    inside the stretch it walked over, the scan finds no colon either. -/
theorem looksLikeAccount_cache_sound (a : Bytes) (h : looksLikeAccount a = false) (j : Nat)
    (hc : OnChain a j) (hj : j < lookStop a) : looksLikeAccount (a.drop j) = false := by
  generalize hn : a.length = n
  induction n using Nat.strongRecOn generalizing a j with
  | _ n ih =>
    rcases hc.uncons with rfl | ⟨hle, hc'⟩
    · simpa using h
    · cases a with
      | nil => simp [lookStop, lookStopF] at hj
      | cons b t =>
        obtain ⟨h1, h2⟩ := looksLikeAccount_step b t h (by omega)
        have hw := decodeRune_width_pos b t
        have hlen : ((b :: t).drop (decodeRune (b :: t)).2).length < n := by
          rw [← hn]; simp only [List.length_drop, List.length_cons]; omega
        have := ih _ hlen _ h1 _ hc' (by omega) rfl
        rw [List.drop_drop] at this
        have hidx : (decodeRune (b :: t)).2 + (j - (decodeRune (b :: t)).2) = j := by omega
        rw [hidx] at this
        exact this

end HL.Lex
