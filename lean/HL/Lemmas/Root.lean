/-
  Root selection: the model's `findRootJournal` (with `buildIncludeGraph`'s reverse graph)
  selects the root the specification's `rootOf` describes.
-/
import HL.Lemmas.Init
namespace HL.Lemmas.Root
open HL.Index HL.Workspace HL.Lemmas.AList HL.Lemmas.WsInv HL.Lemmas.Init HL.Spec.Rebuild

theorem mem_rev_inner (f : String) (l : List String) (w : WS) (q x : String) :
    x ∈ (l.foldl (fun (w : WS) inc =>
        { w with incG := w.incG.set f (w.incG.getD f [] ++ [inc])
                 revG := w.revG.set inc (w.revG.getD inc [] ++ [f]) }) w).revG.getD q [] ↔
      (x ∈ w.revG.getD q [] ∨ (x = f ∧ q ∈ l)) := by
  induction l generalizing w with
  | nil => simp
  | cons a l ih =>
    simp only [List.foldl_cons]
    rw [ih]
    simp only [getD_set, List.mem_cons]
    by_cases e : a = q
    · subst e
      simp only [if_true, List.mem_append, List.mem_singleton, true_or, and_true]
      constructor
      · rintro ((h | h) | h)
        · exact Or.inl h
        · exact Or.inr h
        · exact Or.inr h.1
      · rintro (h | h)
        · exact Or.inl (Or.inl h)
        · exact Or.inl (Or.inr h)
    · have e' : ¬ q = a := fun h => e h.symm
      simp [e, e']

theorem mem_rev_build (fs : FS) : ∀ (files : List String) (w : WS) (q x : String),
    x ∈ (buildIncludeGraph fs files w).revG.getD q [] ↔
      (x ∈ w.revG.getD q [] ∨ (x ∈ files ∧ ∃ c, fs.get x = some c ∧ q ∈ c.incs)) := by
  intro files
  induction files with
  | nil => intro w q x; simp [buildIncludeGraph]
  | cons f r ih =>
    intro w q x
    have hstep : buildIncludeGraph fs (f :: r) w = buildIncludeGraph fs r
        (match fs.get f with
         | none => w
         | some c => c.incs.foldl (fun (w : WS) inc =>
            { w with incG := w.incG.set f (w.incG.getD f [] ++ [inc])
                     revG := w.revG.set inc (w.revG.getD inc [] ++ [f]) }) w) := rfl
    rw [hstep, ih]
    cases hg : fs.get f with
    | none =>
      simp only [List.mem_cons]
      constructor
      · rintro (h | ⟨h1, h2⟩)
        · exact Or.inl h
        · exact Or.inr ⟨Or.inr h1, h2⟩
      · rintro (h | ⟨h1 | h1, c, h2, h3⟩)
        · exact Or.inl h
        · subst h1; rw [hg] at h2; simp at h2
        · exact Or.inr ⟨h1, c, h2, h3⟩
    | some c =>
      simp only [mem_rev_inner, List.mem_cons]
      constructor
      · rintro ((h | ⟨h1, h2⟩) | ⟨h1, h2⟩)
        · exact Or.inl h
        · exact Or.inr ⟨Or.inl h1, c, h1 ▸ hg, h2⟩
        · exact Or.inr ⟨Or.inr h1, h2⟩
      · rintro (h | ⟨h1 | h1, c', h2, h3⟩)
        · exact Or.inl (Or.inl h)
        · subst h1
          rw [hg] at h2
          simp only [Option.some.injEq] at h2
          exact Or.inl (Or.inr ⟨rfl, h2 ▸ h3⟩)
        · exact Or.inr ⟨h1, c', h2, h3⟩

theorem rootSel_eq_rootOf (fs : FS) (hn : fs.keys.Nodup) : rootSel fs = rootOf fs := by
  unfold rootSel findRootJournal rootOf
  by_cases h1 : (fs.get "main.journal").isSome
  · simp [h1]
  · by_cases h2 : (fs.get ".hledger.journal").isSome
    · simp [h1, h2]
    · simp only [h1, h2, Bool.false_eq_true, if_false]
      unfold findRootByIncludeGraph journalFiles
      have hcand : ∀ f, ((buildIncludeGraph fs (isort fs.keys) {}).revG.getD f []).isEmpty =
          !(fs.any fun e => f ∈ e.2.incs) := by
        intro f
        rw [Bool.eq_iff_iff]
        simp only [List.isEmpty_iff, Bool.not_eq_true', List.any_eq_false, decide_eq_true_eq]
        constructor
        · intro hnil e he hf
          have : e.1 ∈ (buildIncludeGraph fs (isort fs.keys) {}).revG.getD f [] :=
            (mem_rev_build fs _ _ f e.1).mpr (Or.inr ⟨(mem_isort _ _).mpr (List.mem_map.mpr ⟨e, he, rfl⟩),
              e.2, mem_get_of_nodup fs e.1 e.2 hn he, hf⟩)
          rw [hnil] at this; simp at this
        · intro hno
          apply List.eq_nil_iff_forall_not_mem.mpr
          intro x hx
          rcases (mem_rev_build fs _ _ f x).mp hx with h | ⟨_, c, hc, hf⟩
          · simp [AList.getD] at h
          · exact hno (x, c) (get_mem fs x c hc) hf
      cases hf : isort fs.keys with
      | nil => simp
      | cons f0 rest =>
        simp only
        have hs : (f0 :: rest).Pairwise (· ≤ ·) := hf ▸ isort_sorted fs.keys
        rw [isort_eq_of_sorted _ _ (List.Perm.refl _) (List.Pairwise.filter _ hs)]
        have heq : List.filter (fun f => ((buildIncludeGraph fs (f0 :: rest) {}).revG.getD f []).isEmpty) (f0 :: rest)
            = List.filter (fun f => !(fs.any fun e => f ∈ e.2.incs)) (f0 :: rest) := by
          apply List.filter_congr
          intro x _
          rw [← hf]; exact hcand x
        rw [heq]
        cases List.filter (fun f => !(fs.any fun e => f ∈ e.2.incs)) (f0 :: rest) with
        | nil => simp
        | cons c cs => simp

end HL.Lemmas.Root
