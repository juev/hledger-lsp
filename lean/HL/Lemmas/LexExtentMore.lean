import HL.Lemmas.LexExtentTok
/-!
  Layer L3, part 4: extent lemmas for token classes outside the core grammar (ASCII lexemes),
  in the same style as HL/Lemmas/LexExtentTok.lean.  They are not used by `C03_faithful_core`;
  they are the remaining leaves a theorem for a larger part of G composes.

    scanInLineAt_status      `*` `!`
    scanInLineAt_comment     `;` text up to the line end (LF or CR LF)
    scanInLineAt_at / _atAt  `@` / `@@`
    scanInLineAt_equals / _doubleEquals
    scanInLineAt_rparen, _lbracket, _rbracket, _pipe
    scanInLineAt_dollar      `$`
    scanInLineAt_quoted      `"` text `"`
    next_comment_line        line start: `;` text
    scanInLineAt_code        `(` code `)`
    scanInLineAt_lparen      `(` of a virtual posting
    next_directive           line start: a directive keyword
-/
namespace HL.Lex
open HL HL.Utf8 Ctl

/-- a byte other than the line feed -/
def lineByte (c : UInt8) : Bool := c != 0x0A

/-- where a comment ends: end of input or a line end (LF, or CR LF) -/
abbrev CommentStop (rest : Bytes) : Prop := StopsL (fun _ => true) rest

theorem scanComment_over {z : Z} {body rest : Bytes} (hz : z.after = 0x3B :: (body ++ rest))
    (hb : ∀ c ∈ body, c ≠ 0x0A ∧ c ≠ 0x0D ∧ c < 0x80) (hstop : CommentStop rest) :
    scanComment z = (tokAt .comment body z (body.length + 1), z.over (0x3B :: body) rest) := by
  unfold scanComment
  rw [advance_over hz (by decide)]
  have h1 : advLine (fun _ => true) (z.over [0x3B] (body ++ rest)) =
      (z.over [0x3B] (body ++ rest)).over body rest :=
    advLine_over _ rfl (fun c hc => ⟨rfl, (hb c hc).2.2, (hb c hc).1, (hb c hc).2.1⟩) hstop
  simp only [h1, between_over]
  rw [over_over]
  simp [mkTok, tokAt, over_position]

/-- **Comment** inside a line: `;` and everything up to the line end (ASCII text without CR). -/
theorem scanInLineAt_comment (C : Classes) {z : Z} {body rest : Bytes} (hz : z.after = 0x3B :: (body ++ rest))
    (hb : ∀ c ∈ body, c ≠ 0x0A ∧ c ≠ 0x0D ∧ c < 0x80) (hstop : CommentStop rest) :
    scanInLineAt C z = (tokAt .comment body z (body.length + 1), z.over (0x3B :: body) rest) := by
  have e : scanInLineAt C z = scanComment z := by unfold scanInLineAt; rw [hz]; rfl
  rw [e]; exact scanComment_over hz hb hstop

/-- **Comment line**: `;` in column 1. -/
theorem next_comment_line (C : Classes) {z : Z} {body rest : Bytes} (hs : z.atStart = true) (hc : z.col = 1)
    (hz : z.after = 0x3B :: (body ++ rest)) (hb : ∀ c ∈ body, c ≠ 0x0A ∧ c ≠ 0x0D ∧ c < 0x80)
    (hstop : CommentStop rest) :
    next C z = (tokAt .comment body z (body.length + 1), z.started.over (0x3B :: body) rest) := by
  rw [next_start C hs hc hz]
  exact scanComment_over (z := z.started) hz hb hstop

/-- **Status**: `*` or `!`. -/
theorem scanInLineAt_status (C : Classes) {z : Z} {c : UInt8} {t : Bytes} (hz : z.after = c :: t)
    (hc : c = 0x2A ∨ c = 0x21) :
    scanInLineAt C z = (tokAt .status [c] z 1, z.over [c] t) := by
  have hlt : c < 0x80 := by rcases hc with rfl | rfl <;> decide
  have henc : encodeRune c.toNat = [c] := by rcases hc with rfl | rfl <;> decide
  have hp : peek z = c := by rw [peek, hz]; rfl
  have e : scanInLineAt C z = scanStatus z := by
    unfold scanInLineAt; rw [hz]; rcases hc with rfl | rfl <;> rfl
  rw [e, scanStatus, advance_over hz hlt, hp, henc, mkTok_over]; rfl

/-- **`@`** not followed by another `@`. -/
theorem scanInLineAt_at (C : Classes) {z : Z} {t : Bytes} (hz : z.after = 0x40 :: t) (ht : headIs 0x40 t = false) :
    scanInLineAt C z = (tokAt .at [0x40] z 1, z.over [0x40] t) := by
  have e : scanInLineAt C z = scanAt z := by unfold scanInLineAt; rw [hz]; rfl
  rw [e, scanAt, advance_over hz (by decide)]
  simp only [over_after, ht, Bool.false_eq_true, if_false]
  rw [mkTok_over]; rfl

/-- **`@@`**. -/
theorem scanInLineAt_atAt (C : Classes) {z : Z} {t : Bytes} (hz : z.after = 0x40 :: 0x40 :: t) :
    scanInLineAt C z = (tokAt .atAt [0x40, 0x40] z 2, z.over [0x40, 0x40] t) := by
  have e : scanInLineAt C z = scanAt z := by unfold scanInLineAt; rw [hz]; rfl
  rw [e, scanAt, advance_over hz (by decide)]
  simp only [over_after, headIs, beq_self_eq_true, if_true]
  rw [advance_over (z := z.over [0x40] (0x40 :: t)) rfl (by decide), over_over, mkTok_over]; rfl

/-- **`=`** not followed by another `=`. -/
theorem scanInLineAt_equals (C : Classes) {z : Z} {t : Bytes} (hz : z.after = 0x3D :: t)
    (ht : headIs 0x3D t = false) :
    scanInLineAt C z = (tokAt .equals [0x3D] z 1, z.over [0x3D] t) := by
  have e : scanInLineAt C z = scanEquals z := by unfold scanInLineAt; rw [hz]; rfl
  rw [e, scanEquals, advance_over hz (by decide)]
  simp only [over_after, ht, Bool.false_eq_true, if_false]
  rw [mkTok_over]; rfl

/-- **`==`**. -/
theorem scanInLineAt_doubleEquals (C : Classes) {z : Z} {t : Bytes} (hz : z.after = 0x3D :: 0x3D :: t) :
    scanInLineAt C z = (tokAt .doubleEquals [0x3D, 0x3D] z 2, z.over [0x3D, 0x3D] t) := by
  have e : scanInLineAt C z = scanEquals z := by unfold scanInLineAt; rw [hz]; rfl
  rw [e, scanEquals, advance_over hz (by decide)]
  simp only [over_after, headIs, beq_self_eq_true, if_true]
  rw [advance_over (z := z.over [0x3D] (0x3D :: t)) rfl (by decide), over_over, mkTok_over]; rfl

theorem punct_over (ty : TokType) (v : Bytes) {z : Z} {c : UInt8} {t : Bytes} (hz : z.after = c :: t)
    (hc : c < 0x80) : punct ty v z = (tokAt ty v z 1, z.over [c] t) := by
  unfold punct
  rw [advance_over hz hc, mkTok_over]; rfl

/-- **`)`**. -/
theorem scanInLineAt_rparen (C : Classes) {z : Z} {t : Bytes} (hz : z.after = 0x29 :: t) :
    scanInLineAt C z = (tokAt .rparen [0x29] z 1, z.over [0x29] t) := by
  have e : scanInLineAt C z = punct .rparen [0x29] z := by unfold scanInLineAt; rw [hz]; rfl
  rw [e]; exact punct_over _ _ hz (by decide)

/-- **`[`**. -/
theorem scanInLineAt_lbracket (C : Classes) {z : Z} {t : Bytes} (hz : z.after = 0x5B :: t) :
    scanInLineAt C z = (tokAt .lbracket [0x5B] z 1, z.over [0x5B] t) := by
  have e : scanInLineAt C z = punct .lbracket [0x5B] z := by unfold scanInLineAt; rw [hz]; rfl
  rw [e]; exact punct_over _ _ hz (by decide)

/-- **`]`**. -/
theorem scanInLineAt_rbracket (C : Classes) {z : Z} {t : Bytes} (hz : z.after = 0x5D :: t) :
    scanInLineAt C z = (tokAt .rbracket [0x5D] z 1, z.over [0x5D] t) := by
  have e : scanInLineAt C z = punct .rbracket [0x5D] z := by unfold scanInLineAt; rw [hz]; rfl
  rw [e]; exact punct_over _ _ hz (by decide)

/-- **`|`**. -/
theorem scanInLineAt_pipe (C : Classes) {z : Z} {t : Bytes} (hz : z.after = 0x7C :: t) :
    scanInLineAt C z = (tokAt .pipe [0x7C] z 1, z.over [0x7C] t) := by
  have e : scanInLineAt C z = punct .pipe [0x7C] z := by unfold scanInLineAt; rw [hz]; rfl
  rw [e]; exact punct_over _ _ hz (by decide)

/-- **`$`**, the one ASCII currency symbol. -/
theorem scanInLineAt_dollar (C : Classes) {z : Z} {t : Bytes} (hz : z.after = 0x24 :: t) :
    scanInLineAt C z = (tokAt .commodity [0x24] z 1, z.over [0x24] t) := by
  have hr : peekRune z = 0x24 := by rw [peekRune, hz]; rfl
  have e : scanInLineAt C z = scanCurrencySymbol z := by unfold scanInLineAt; rw [hr, hz]; rfl
  have hd : decodeRune z.after = (0x24, 1) := by rw [hz]; rfl
  rw [e, scanCurrencySymbol, hd]
  simp only []
  rw [show z.bump 1 = z.over [0x24] t by simp [Z.bump, Z.over, hz], mkTok_over]; rfl

/-- `scanCode` and `scanQuotedCommodity` on `o body d`: over the opening byte, along the line up to
    the closing byte `d`, and over it -/
theorem delimited_over {z : Z} {o d : UInt8} {q t : Bytes} (hz : z.after = o :: (q ++ d :: t)) (ho : o < 0x80)
    (hd : d < 0x80) (hq : ∀ c ∈ q, c ≠ d ∧ c ≠ 0x0A ∧ c ≠ 0x0D ∧ c < 0x80) (ty : TokType) :
    mkTok ty (between (advance z) (advLine (fun c => c != d) (advance z))) z
        (advIf (· == d) (advLine (fun c => c != d) (advance z))) =
      (tokAt ty q z (q.length + 2), z.over (o :: (q ++ [d])) t) := by
  rw [advance_over hz ho]
  have h1 : advLine (fun c => c != d) (z.over [o] (q ++ d :: t)) = (z.over [o] (q ++ d :: t)).over q (d :: t) :=
    advLine_over _ rfl (fun c hc => ⟨by simp [(hq c hc).1], (hq c hc).2.2.2, (hq c hc).2.1, (hq c hc).2.2.1⟩)
      (StopsL.cons _ (by simp))
  have h2 : advIf (· == d) ((z.over [o] (q ++ d :: t)).over q (d :: t)) =
      ((z.over [o] (q ++ d :: t)).over q (d :: t)).over [d] t := by
    unfold advIf
    simp only [over_after, beq_self_eq_true, if_true]
    exact advance_over rfl hd
  rw [h1, between_over, h2, over_over, over_over]
  simp [mkTok, tokAt, over_position, Nat.add_assoc]

/-- **Quoted commodity**: `"` text `"` (ASCII text without `"`, CR and LF). -/
theorem scanInLineAt_quoted (C : Classes) {z : Z} {q t : Bytes} (hz : z.after = 0x22 :: (q ++ 0x22 :: t))
    (hq : ∀ c ∈ q, c ≠ 0x22 ∧ c ≠ 0x0A ∧ c ≠ 0x0D ∧ c < 0x80) :
    scanInLineAt C z = (tokAt .commodity q z (q.length + 2), z.over (0x22 :: (q ++ [0x22])) t) := by
  have hr : peekRune z = 0x22 := by rw [peekRune, hz]; rfl
  have e : scanInLineAt C z = scanQuotedCommodity z := by unfold scanInLineAt; rw [hr, hz]; rfl
  rw [e]; exact delimited_over hz (by decide) (by decide) hq _

theorem lvaGo_noColon (code t : Bytes) (hc : ∀ c ∈ code, c ≠ 0x3A) : lvaGo (code ++ 0x29 :: t) = false := by
  induction code with
  | nil => simp [lvaGo]
  | cons c code ih =>
    have h := hc c (by simp)
    simp only [List.cons_append, lvaGo]
    split
    · rfl
    · rw [if_neg (by simpa using h)]
      exact ih (fun x hx => hc x (by simp [hx]))

theorem lvaGo_colon (p t : Bytes) (hp : ∀ c ∈ p, c ≠ 0x29 ∧ c ≠ 0x0A) : lvaGo (p ++ 0x3A :: t) = true := by
  induction p with
  | nil => simp [lvaGo]
  | cons c p ih =>
    have h := hp c (by simp)
    simp only [List.cons_append, lvaGo]
    rw [if_neg (by simp [h.1, h.2])]
    split
    · rfl
    · exact ih (fun x hx => hp x (by simp [hx]))

/-- **Code**: `(` code `)` with no colon inside (ASCII without CR). -/
theorem scanInLineAt_code (C : Classes) {z : Z} {code t : Bytes} (hz : z.after = 0x28 :: (code ++ 0x29 :: t))
    (hc : ∀ c ∈ code, c ≠ 0x29 ∧ c ≠ 0x0A ∧ c ≠ 0x0D ∧ c ≠ 0x3A ∧ c < 0x80) :
    scanInLineAt C z = (tokAt .code code z (code.length + 2), z.over (0x28 :: (code ++ [0x29])) t) := by
  have hlva : looksLikeVirtualAccount z.after = false := by
    rw [hz]; simp only [looksLikeVirtualAccount, List.drop_one, List.tail_cons]
    exact lvaGo_noColon code t (fun c h => (hc c h).2.2.2.1)
  have e : scanInLineAt C z = scanCode z := by
    unfold scanInLineAt; rw [hlva, hz]; rfl
  rw [e]
  exact delimited_over hz (by decide) (by decide) (fun c h => ⟨(hc c h).1, (hc c h).2.1, (hc c h).2.2.1, (hc c h).2.2.2.2⟩) _

/-- **`(`** of a virtual posting: a colon comes before any `)` or line feed. -/
theorem scanInLineAt_lparen (C : Classes) {z : Z} {p t : Bytes} (hz : z.after = 0x28 :: (p ++ 0x3A :: t))
    (hp : ∀ c ∈ p, c ≠ 0x29 ∧ c ≠ 0x0A) :
    scanInLineAt C z = (tokAt .lparen [0x28] z 1, z.over [0x28] (p ++ 0x3A :: t)) := by
  have hlva : looksLikeVirtualAccount z.after = true := by
    rw [hz]; simp only [looksLikeVirtualAccount, List.drop_one, List.tail_cons]
    exact lvaGo_colon p t hp
  have e : scanInLineAt C z = punct .lparen [0x28] z := by
    unfold scanInLineAt; rw [hlva, hz]; rfl
  rw [e]; exact punct_over _ _ hz (by decide)

/-- **Directive keyword** in column 1, followed by a byte that is not a letter. -/
theorem next_directive (C : Classes) {z : Z} {kw rest : Bytes} (hs : z.atStart = true) (hc : z.col = 1)
    (hz : z.after = kw ++ rest) (hk : isDirective kw = true) (hl : ∀ c ∈ kw, isLetter c = true)
    (hstop : Stops isLetter rest) :
    next C z = (tokAt .directive kw z kw.length, z.started.over kw rest) := by
  have hne : kw ≠ [] := by intro h; rw [h] at hk; exact absurd hk (by decide +kernel)
  obtain ⟨c, t, rfl⟩ := List.exists_cons_of_ne_nil hne
  obtain ⟨_, h3b, hw, hd⟩ := letter_start (hl c (by simp))
  have he : advWhile isLetter z.started = z.started.over (c :: t) rest :=
    advWhile_over isLetter (z := z.started) hz (fun x hx => ⟨hl x hx, (letter_start (hl x hx)).1⟩) hstop
  rw [next_start C hs hc hz, if_neg (by simpa using h3b), hw, Bool.false_and, if_neg Bool.false_ne_true, hd,
    if_neg Bool.false_ne_true, hl c (by simp), if_pos rfl, scanDirectiveOrAccount]
  simp only [he, between_over, hk, if_true, mkTok_over]
  rfl

end HL.Lex
