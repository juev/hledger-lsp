import HL.Spec.Meaning
import HL.Spec.GCoreLayout
/-!
  `HL.Meaning.journalEqv` (the comparison the C04 oracle applies to the trees the real parser
  returns before and after formatting) on the trees of one core journal under two layouts:
  `journalEqv` compares everything but positions, and positions are all that a layout changes, so
  each proof is the unfolding of one comparison.
-/
namespace HL.GCore
open HL HL.Ast HL.Meaning

theorem side_l : (Side.left == Side.left) = true := rfl
theorem side_r : (Side.right == Side.right) = true := rfl
theorem status_n : (Status.none == Status.none) = true := rfl
theorem virt_n : (Virtual.none == Virtual.none) = true := rfl

theorem decEqv_refl (d : Dec) : decEqv d d = true := by simp [decEqv]

theorem amountEqv_expected (a : Amount) (ln c o ln' c' o' : Nat) :
    amountEqv (a.expected ln c o) (a.expected ln' c' o') = true := by
  cases hc : a.com <;> simp [amountEqv, commodityEqv, Amount.expected, hc, decEqv_refl, side_l, side_r]

theorem postingEqv_expectedL (L L' : Layout) (p : Posting) (ln o ln' o' : Nat) :
    postingEqv (p.expectedL L ln o) (p.expectedL L' ln' o') = true := by
  cases ha : p.amount <;>
    simp [postingEqv, Posting.expectedL, ha, optEqv, listEqv, amountEqv_expected, status_n, virt_n]

theorem postingsEqv_expectedL (L L' : Layout) (ps : List Posting) : ∀ ln o ln' o',
    listEqv postingEqv (expectedPostingsL L ps ln o) (expectedPostingsL L' ps ln' o') = true := by
  induction ps with
  | nil => intro _ _ _ _; rfl
  | cons p ps ih =>
    intro ln o ln' o'
    simp only [expectedPostingsL, listEqv, postingEqv_expectedL, ih, Bool.and_self]

theorem txEqv_expectedL (L L' : Layout) (t : Tx) (ln o ln' o' : Nat) :
    txEqv (t.expectedL L ln o) (t.expectedL L' ln' o') = true := by
  simp [txEqv, Tx.expectedL, dateEqv, optEqv, listEqv, postingsEqv_expectedL, status_n]

theorem txsEqv_expectedL (L L' : Layout) (j : Journal) : ∀ ln o ln' o',
    listEqv txEqv (expectedTxsL L j ln o) (expectedTxsL L' j ln' o') = true := by
  induction j with
  | nil => intro _ _ _ _; rfl
  | cons t ts ih =>
    intro ln o ln' o'
    simp only [expectedTxsL, listEqv, txEqv_expectedL, ih, Bool.and_self]

theorem journalEqv_expectedL (L L' : Layout) (j : Journal) :
    journalEqv (expectedL L j) (expectedL L' j) = true := by
  simp [journalEqv, expectedL, listEqv, txsEqv_expectedL]

end HL.GCore
