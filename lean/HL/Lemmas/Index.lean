/-
  The invariant of the workspace index (`IdxInv`, property C12's `index_is_sum`): every
  counter is the sum of the indexed files' contributions, stored counts are positive (so the
  derived name lists are the sorted supports and `decrementBy` never truncates), the
  transaction index holds exactly the files' entries, payee templates come from indexed files.
  Preserved by `addFileIndex` / `removeFileIndex` / `setFileIndex` / `removeFile`.
-/
import HL.Lemmas.Counter
namespace HL.Lemmas.Index
open HL.Index HL.Lemmas.AList HL.Lemmas.Counter HL.Spec.Rebuild

theorem getD_txAdd (m : AList (List Entry)) (es : List Entry) (key : String) :
    (txAdd m es).getD key [] = m.getD key [] ++ es.filter (fun e => e.key = key) := by
  induction es generalizing m with
  | nil => exact (List.append_nil _).symm
  | cons e r ih =>
    rw [txAdd, List.foldl_cons, ← txAdd, ih, getD_set, List.filter_cons]
    by_cases h : e.key = key
    · subst h; rw [if_pos rfl, if_pos (decide_eq_true rfl), List.append_assoc]; rfl
    · rw [if_neg h, if_neg (by simpa using h)]

theorem txAdd_nonempty (m : AList (List Entry)) (es : List Entry)
    (h : ∀ key l, m.get key = some l → l ≠ []) :
    ∀ key l, (txAdd m es).get key = some l → l ≠ [] :=
  foldl_inv (P := fun m => ∀ key l, m.get key = some l → l ≠ []) es m h fun m e _ hm key l hl => by
    rw [get_set] at hl
    by_cases e2 : e.key = key
    · rw [if_pos e2] at hl; cases hl; exact List.append_ne_nil_of_right_ne_nil _ (List.cons_ne_nil _ _)
    · rw [if_neg e2] at hl; exact hm key l hl

theorem nodup_txAdd (m : AList (List Entry)) (es : List Entry) (h : m.keys.Nodup) :
    (txAdd m es).keys.Nodup :=
  foldl_inv (P := fun m => m.keys.Nodup) es m h fun m e _ hm => nodup_keys_set m e.key _ hm

theorem getD_txRemove (m : AList (List Entry)) (path : String) (es : List Entry) (key : String) :
    (txRemove m path es).getD key [] =
      if key ∈ es.map (·.key) then (m.getD key []).filter (fun x => x.file ≠ path)
      else m.getD key [] := by
  change (es.foldl (fun m e => put m e.key ((m.getD e.key []).filter fun x => x.file ≠ path)) m).getD
    key [] = _
  induction es generalizing m with
  | nil => rfl
  | cons e r ih =>
    rw [List.foldl_cons, ih, getD_put, List.map_cons]
    by_cases e2 : e.key = key
    · subst e2
      rw [if_pos rfl, if_pos List.mem_cons_self]
      simp only [List.filter_filter, Bool.and_self, ite_self]
    · rw [if_neg e2]
      by_cases hr : key ∈ r.map (·.key)
      · rw [if_pos hr, if_pos (List.mem_cons_of_mem _ hr)]
      · rw [if_neg hr, if_neg fun h => (List.mem_cons.mp h).elim (fun h => e2 h.symm) hr]

theorem txRemove_nonempty (m : AList (List Entry)) (path : String) (es : List Entry)
    (h : ∀ key l, m.get key = some l → l ≠ []) :
    ∀ key l, (txRemove m path es).get key = some l → l ≠ [] :=
  foldl_inv (P := fun m => ∀ key l, m.get key = some l → l ≠ []) es m h fun m e _ hm key l hl => by
    change (put m e.key _).get key = some l at hl
    rw [get_put] at hl
    by_cases e2 : e.key = key
    · rw [if_pos e2] at hl
      by_cases hnil : (m.getD e.key []).filter (fun x => x.file ≠ path) = []
      · rw [if_pos hnil] at hl; cases hl
      · rw [if_neg hnil] at hl; cases hl; exact hnil
    · rw [if_neg e2] at hl; exact hm key l hl

theorem nodup_txRemove (m : AList (List Entry)) (path : String) (es : List Entry)
    (h : m.keys.Nodup) : (txRemove m path es).keys.Nodup :=
  foldl_inv (P := fun m => m.keys.Nodup) es m h fun m e _ hm => nodup_put m e.key _ hm
theorem foldl_min_spec (a : String) (r : List String) :
    List.foldl (fun b x => if x < b then x else b) a r ∈ a :: r ∧
      ∀ x ∈ a :: r, List.foldl (fun b x => if x < b then x else b) a r ≤ x := by
  induction r generalizing a with
  | nil => exact ⟨List.mem_cons_self, fun x hx => List.mem_singleton.mp hx ▸ String.le_refl _⟩
  | cons b r ih =>
    rw [List.foldl_cons]
    -- the minimum of `a` and `b` goes on
    have step : ∀ c, c ∈ [a, b] → c ≤ a → c ≤ b →
        List.foldl (fun b x => if x < b then x else b) c r ∈ a :: b :: r ∧
          ∀ x ∈ a :: b :: r, List.foldl (fun b x => if x < b then x else b) c r ≤ x := by
      intro c hc ha hb
      obtain ⟨h1, h2⟩ := ih c
      refine ⟨?_, fun x hx => ?_⟩
      · rcases List.mem_cons.mp h1 with h1 | h1
        · rw [h1]; exact List.mem_of_mem_take (i := 2) hc
        · exact List.mem_cons_of_mem _ (List.mem_cons_of_mem _ h1)
      · have hcc := h2 c List.mem_cons_self
        rcases List.mem_cons.mp hx with rfl | hx
        · exact String.le_trans hcc ha
        · rcases List.mem_cons.mp hx with rfl | hx
          · exact String.le_trans hcc hb
          · exact h2 x (List.mem_cons_of_mem _ hx)
    by_cases h : b < a
    · rw [if_pos h]
      exact step b (by simp) (String.not_lt.mp (String.lt_asymm h)) (String.le_refl _)
    · rw [if_neg h]
      exact step a (by simp) (String.le_refl _) (String.not_lt.mp h)

theorem minPath_mem (a : String) (r : List String) : minPath (a :: r) ∈ a :: r :=
  (foldl_min_spec a r).1

theorem minPath_le (a : String) (r : List String) : ∀ x ∈ a :: r, minPath (a :: r) ≤ x :=
  (foldl_min_spec a r).2
/-- what `restorePayeeTemplate` stores for a payee -/
def ptRestoreVal (files : AList FileIdx) (payee : String) : Option String :=
  match (files.filter fun e => (e.2.c.pts.get payee).isSome).map (·.1) with
  | [] => none
  | h :: t => (files.getD (minPath (h :: t)) default).c.pts.get payee

/-- `t` is the payee's template in the indexed file with the smallest path that has one -/
def IsMinTemplate (files : AList FileIdx) (p t : String) : Prop :=
  ∃ f fi, (files.get f = some fi ∧ fi.c.pts.get p = some t) ∧
    ∀ f' fi', (files.get f' = some fi' ∧ (fi'.c.pts.get p).isSome) → f ≤ f'

theorem ptRestoreVal_iff (files : AList FileIdx) (hn : files.keys.Nodup) (p t : String) :
    ptRestoreVal files p = some t ↔ IsMinTemplate files p t := by
  unfold ptRestoreVal
  have hhave : ∀ f, f ∈ (files.filter fun e => (e.2.c.pts.get p).isSome).map (·.1) ↔
      ∃ fi, files.get f = some fi ∧ (fi.c.pts.get p).isSome := by
    intro f
    simp only [List.mem_map, List.mem_filter]
    constructor
    · rintro ⟨e, ⟨he, hp⟩, rfl⟩
      exact ⟨e.2, mem_get_of_nodup files e.1 e.2 hn he, hp⟩
    · rintro ⟨fi, hg, hp⟩
      exact ⟨(f, fi), ⟨get_mem files f fi hg, hp⟩, rfl⟩
  cases hh : (files.filter fun e => (e.2.c.pts.get p).isSome).map (·.1) with
  | nil =>
    simp only
    constructor
    · intro h; simp at h
    · rintro ⟨f, fi, ⟨hg, hp⟩, _⟩
      have := (hhave f).mpr ⟨fi, hg, by rw [hp]; rfl⟩
      rw [hh] at this; simp at this
  | cons a r =>
    simp only
    have hm : minPath (a :: r) ∈ (files.filter fun e => (e.2.c.pts.get p).isSome).map (·.1) := by
      rw [hh]; exact minPath_mem a r
    obtain ⟨fi0, hg0, hp0⟩ := (hhave _).mp hm
    have hgd : files.getD (minPath (a :: r)) default = fi0 := by simp [AList.getD, hg0]
    rw [hgd]
    have hmin : ∀ f' fi', (files.get f' = some fi' ∧ (fi'.c.pts.get p).isSome) → minPath (a :: r) ≤ f' := by
      intro f' fi' h'
      have := (hhave f').mpr ⟨fi', h'.1, h'.2⟩
      rw [hh] at this
      exact minPath_le a r f' this
    constructor
    · intro h
      exact ⟨minPath (a :: r), fi0, ⟨hg0, h⟩, hmin⟩
    · rintro ⟨f, fi, ⟨hg, hp⟩, hle⟩
      have h1 : f ≤ minPath (a :: r) := hle _ fi0 ⟨hg0, hp0⟩
      have h2 : minPath (a :: r) ≤ f := hmin f fi ⟨hg, by rw [hp]; rfl⟩
      have : f = minPath (a :: r) := String.le_antisymm h1 h2
      subst this
      rw [hg0] at hg
      simp only [Option.some.injEq] at hg
      rw [hg]; exact hp

theorem isMinTemplate_congr (files files' : AList FileIdx) (p : String)
    (h : ∀ f fi, (files.get f = some fi ∧ (fi.c.pts.get p).isSome) ↔
      (files'.get f = some fi ∧ (fi.c.pts.get p).isSome)) (t : String) :
    IsMinTemplate files p t ↔ IsMinTemplate files' p t := by
  constructor
  · rintro ⟨f, fi, ⟨hg, hp⟩, hle⟩
    have := (h f fi).mp ⟨hg, by rw [hp]; rfl⟩
    exact ⟨f, fi, ⟨this.1, hp⟩, fun f' fi' h' => hle f' fi' ((h f' fi').mpr h')⟩
  · rintro ⟨f, fi, ⟨hg, hp⟩, hle⟩
    have := (h f fi).mpr ⟨hg, by rw [hp]; rfl⟩
    exact ⟨f, fi, ⟨this.1, hp⟩, fun f' fi' h' => hle f' fi' ((h f' fi').mp h')⟩

theorem ptRestoreVal_congr (files files' : AList FileIdx) (hn : files.keys.Nodup)
    (hn' : files'.keys.Nodup) (p : String)
    (h : ∀ f fi, (files.get f = some fi ∧ (fi.c.pts.get p).isSome) ↔
      (files'.get f = some fi ∧ (fi.c.pts.get p).isSome)) :
    ptRestoreVal files p = ptRestoreVal files' p :=
  Option.ext fun t => by
    rw [ptRestoreVal_iff _ hn, ptRestoreVal_iff _ hn', isMinTemplate_congr _ _ p h t]

theorem ptRestoreVal_sound (files : AList FileIdx) (hn : files.keys.Nodup) (payee t : String)
    (h : ptRestoreVal files payee = some t) :
    ∃ p fi, files.get p = some fi ∧ fi.c.pts.get payee = some t := by
  obtain ⟨f, fi, hg, _⟩ := (ptRestoreVal_iff files hn payee t).mp h
  exact ⟨f, fi, hg⟩

theorem ptRestoreVal_complete (files : AList FileIdx) (hn : files.keys.Nodup) (payee : String)
    (p : String) (fi : FileIdx) (hg : files.get p = some fi) (hp : (fi.c.pts.get payee).isSome) :
    (ptRestoreVal files payee).isSome := by
  unfold ptRestoreVal
  have hmem : p ∈ (files.filter fun e => (e.2.c.pts.get payee).isSome).map (·.1) :=
    List.mem_map.mpr ⟨(p, fi), List.mem_filter.mpr ⟨get_mem files p fi hg, hp⟩, rfl⟩
  cases hh : (files.filter fun e => (e.2.c.pts.get payee).isSome).map (·.1) with
  | nil => rw [hh] at hmem; simp at hmem
  | cons a r =>
    simp only
    have hm : minPath (a :: r) ∈ (files.filter fun e => (e.2.c.pts.get payee).isSome).map (·.1) := by
      rw [hh]; exact minPath_mem a r
    obtain ⟨e, he, heq⟩ := List.mem_map.mp hm
    have he' := List.mem_filter.mp he
    have hg2 : files.get e.1 = some e.2 := mem_get_of_nodup files e.1 e.2 hn he'.1
    have : files.getD (minPath (a :: r)) default = e.2 := by
      unfold AList.getD; rw [← heq, hg2]; rfl
    rw [this]; exact he'.2

/-- `restorePayeeTemplate`: the payee's entry becomes the minimal file's template if some
    indexed file has one, and is left alone otherwise -/
theorem get_ptRestore (files : AList FileIdx) (m : AList String) (payee p : String) :
    (ptRestore files m payee).get p =
      if payee = p then (match ptRestoreVal files payee with
        | some t => some t
        | none => m.get p) else m.get p := by
  unfold ptRestore ptRestoreVal
  cases hh : (files.filter fun e => (e.2.c.pts.get payee).isSome).map (·.1) with
  | nil => simp
  | cons h t =>
    simp only
    cases hv : (files.getD (minPath (h :: t)) default).c.pts.get payee with
    | none => simp
    | some v =>
      simp only
      rw [get_set]

theorem get_ptRestore_erase (files : AList FileIdx) (m : AList String) (payee p : String) :
    (ptRestore files (m.erase payee) payee).get p =
      if payee = p then ptRestoreVal files p else m.get p := by
  rw [get_ptRestore, get_erase]
  by_cases e : payee = p
  · subst e; rw [if_pos rfl, if_pos rfl, if_pos rfl]; cases ptRestoreVal files payee <;> rfl
  · rw [if_neg e, if_neg e, if_neg e]

theorem nodup_ptRestore (files : AList FileIdx) (m : AList String) (payee : String)
    (h : m.keys.Nodup) : (ptRestore files m payee).keys.Nodup := by
  unfold ptRestore
  simp only
  split
  · exact h
  · split
    · exact nodup_keys_set _ _ _ h
    · exact h

theorem get_foldl_keyed {α β : Type} (step : AList α → String → AList α)
    (G : Option α → String → Option α)
    (hstep : ∀ m k p, (step m k).get p = if k = p then G (m.get p) p else m.get p)
    (hG : ∀ x p, G (G x p) p = G x p) (l : AList β) (m : AList α) (p : String) :
    (l.foldl (fun m e => step m e.1) m).get p = if p ∈ l.keys then G (m.get p) p else m.get p := by
  induction l generalizing m with
  | nil => rfl
  | cons e r ih =>
    rw [List.foldl_cons, ih, hstep, show AList.keys (e :: r) = e.1 :: AList.keys r from rfl]
    by_cases he : e.1 = p
    · rw [if_pos he, hG, ite_self, if_pos (List.mem_cons.mpr (Or.inl he.symm))]
    · rw [if_neg he]
      by_cases hr : p ∈ AList.keys r
      · rw [if_pos hr, if_pos (List.mem_cons_of_mem _ hr)]
      · rw [if_neg hr, if_neg fun h => (List.mem_cons.mp h).elim (fun h => he h.symm) hr]

/-- the payee template loop of the repaired addFileIndex -/
theorem get_ptAdd_repaired (files : AList FileIdx) (m l : AList String) (p : String) :
    (ptAdd true files m l).get p =
      if p ∈ l.keys then (match ptRestoreVal files p with
        | some t => some t
        | none => m.get p) else m.get p :=
  get_foldl_keyed (fun m k => ptRestore files m k)
    (fun x p => match ptRestoreVal files p with | some t => some t | none => x)
    (fun m k p => by
      rw [get_ptRestore]
      by_cases h : k = p
      · subst h; rfl
      · rw [if_neg h, if_neg h])
    (fun x p => by cases ptRestoreVal files p <;> rfl) l m p

theorem get_ptRemove (fixT : Bool) (files : AList FileIdx) (m l : AList String) (p : String) :
    (ptRemove fixT files m l).get p =
      if p ∈ l.keys then (if fixT then ptRestoreVal files p else none) else m.get p :=
  get_foldl_keyed (fun m k => if fixT then ptRestore files (m.erase k) k else m.erase k)
    (fun _ p => if fixT then ptRestoreVal files p else none)
    (fun m k p => by
      cases fixT with
      | true => exact get_ptRestore_erase files m k p
      | false => exact get_erase m k p)
    (fun _ _ => rfl) l m p
/-- the payee template loop of the pinned addFileIndex: overwrite -/
theorem get_ptAdd_pinned (files : AList FileIdx) (m l : AList String) (hn : l.keys.Nodup) (p : String) :
    (ptAdd false files m l).get p = (l.get p <|> m.get p) := by
  simp only [ptAdd, Bool.false_eq_true, if_false]
  exact (get_foldl_set id l hn m p).trans (by rw [Option.map_id, id])

theorem nodup_ptAdd (fixT : Bool) (files : AList FileIdx) (m l : AList String) (h : m.keys.Nodup) :
    (ptAdd fixT files m l).keys.Nodup :=
  foldl_inv (P := fun m => m.keys.Nodup) l m h fun m e _ hm => by
    cases fixT with
    | true => exact nodup_ptRestore _ _ _ hm
    | false => exact nodup_keys_set _ _ _ hm

theorem nodup_ptRemove (fixT : Bool) (files : AList FileIdx) (m l : AList String)
    (h : m.keys.Nodup) : (ptRemove fixT files m l).keys.Nodup :=
  foldl_inv (P := fun m => m.keys.Nodup) l m h fun m e _ hm => by
    cases fixT with
    | true => exact nodup_ptRestore _ _ _ (nodup_keys_erase _ _ hm)
    | false => exact nodup_keys_erase _ _ hm

/-- the contributions of the indexed files -/
def contribsOf (files : AList FileIdx) : List Contrib := files.map (·.2.c)

/-- all transaction entries of the indexed files -/
def entriesOfFiles (files : AList FileIdx) : List Entry := files.flatMap (·.2.entries)

structure CounterOk (proj : Contrib → AList Nat) (files : AList FileIdx) (m : AList Nat) : Prop where
  sum : ∀ k, cnt m k = total proj (contribsOf files) k
  pos : Pos m
  nodup : m.keys.Nodup

structure TvOk (files : AList FileIdx) (m : AList (AList Nat)) : Prop where
  sum : ∀ t v, tvCnt m t v = total (tvFlat t) (contribsOf files) v
  canon : TvCanon m
  nodup : m.keys.Nodup

structure TxOk (files : AList FileIdx) (m : AList (List Entry)) : Prop where
  perm : ∀ key, (m.getD key []).Perm ((entriesOfFiles files).filter fun e => e.key = key)
  nonempty : ∀ key l, m.get key = some l → l ≠ []
  nodup : m.keys.Nodup

structure PtOk (fixT : Bool) (files : AList FileIdx) (m : AList String) : Prop where
  sound : ∀ p t, m.get p = some t → ∃ f fi, files.get f = some fi ∧ fi.c.pts.get p = some t
  complete : fixT = true → ∀ f fi p, files.get f = some fi → (fi.c.pts.get p).isSome → (m.get p).isSome
  /-- repaired code: the stored template is that of the smallest path having one -/
  exact : fixT = true → ∀ p, m.get p = ptRestoreVal files p
  nodup : m.keys.Nodup

/-- the derived fields are what `refreshDerived` computes from the counters -/
def Derived (idx : WIndex) : Prop :=
  idx.accounts = buildAccountIndex idx.ac ∧ idx.payees = sortedKeys idx.pc ∧
  idx.commodities = sortedKeys idx.cc ∧ idx.tags = sortedKeys idx.tc ∧
  idx.tagValues = buildTagValues idx.tvc ∧ idx.dates = sortedKeys idx.dc

/-- C12 `index_is_sum`. -/
structure IdxInv (fixT : Bool) (idx : WIndex) : Prop where
  nodup : idx.files.keys.Nodup
  wf : ∀ p fi, idx.files.get p = some fi → fi = mkFileIdx p fi.c ∧ contribOk fi.c = true
  ac : CounterOk (·.ac) idx.files idx.ac
  pc : CounterOk (·.pc) idx.files idx.pc
  cc : CounterOk (·.cc) idx.files idx.cc
  tc : CounterOk (·.tc) idx.files idx.tc
  dc : CounterOk dateCounts idx.files idx.dc
  tvc : TvOk idx.files idx.tvc
  txs : TxOk idx.files idx.txs
  pts : PtOk fixT idx.files idx.pts
  derived : Derived idx

theorem derived_refresh (idx : WIndex) : Derived (refreshDerived idx) := by
  simp [Derived, refreshDerived]

theorem counterOk_empty (proj : Contrib → AList Nat) : CounterOk proj [] [] :=
  ⟨fun k => by simp [cnt, contribsOf, total], fun k n h => by simp at h, by simp [AList.keys]⟩

theorem idxInv_empty (fixT : Bool) : IdxInv fixT {} where
  nodup := by simp [AList.keys]
  wf := by intro p fi h; simp at h
  ac := counterOk_empty _
  pc := counterOk_empty _
  cc := counterOk_empty _
  tc := counterOk_empty _
  dc := counterOk_empty _
  tvc := ⟨fun t v => by simp [tvCnt, AList.getD, cnt, contribsOf, total],
          fun t i h => by simp at h, by simp [AList.keys]⟩
  txs := ⟨fun key => by simp [AList.getD, entriesOfFiles], fun k l h => by simp at h,
          by simp [AList.keys]⟩
  pts := ⟨fun p t h => by simp at h, fun _ f fi p h => by simp at h,
          fun _ p => by simp [ptRestoreVal], by simp [AList.keys]⟩
  derived := by
    simp [Derived, buildAccountIndex, accountIndexOf, sortedKeys, isort, AList.keys, buildTagValues]

theorem contribsOf_set (files : AList FileIdx) (path : String) (fi : FileIdx) (hnew : path ∉ files.keys) :
    contribsOf (files.set path fi) = contribsOf files ++ [fi.c] := by
  rw [set_of_not_mem files path fi hnew, contribsOf, List.map_append]; rfl

theorem contribOk_parts (c : Contrib) (h : contribOk c = true) :
    posCounts c.ac = true ∧ posCounts c.pc = true ∧ posCounts c.cc = true ∧ posCounts c.tc = true ∧
    c.tvc.all (fun e => !e.2.isEmpty && posCounts e.2) = true ∧ c.pts.keys.Nodup := by
  simp only [contribOk, Bool.and_eq_true, decide_eq_true_eq] at h
  obtain ⟨⟨⟨⟨⟨h1, h2⟩, h3⟩, h4⟩, h5⟩, h6⟩ := h
  exact ⟨h1, h2, h3, h4, h5, nodup_of_dedup_eq _ h6⟩

theorem counterOk_add (proj : Contrib → AList Nat) (files : AList FileIdx) (m : AList Nat)
    (path : String) (fi : FileIdx) (h : CounterOk proj files m) (hnew : path ∉ files.keys)
    (hp : posCounts (proj fi.c) = true) :
    CounterOk proj (files.set path fi) (addAll m (proj fi.c)) where
  sum k := by
    rw [cnt_addAll, h.sum k, contribsOf_set files path fi hnew, total_append, total_cons, total_nil]; rfl
  pos := pos_addAll _ _ h.pos hp
  nodup := nodup_addAll _ _ h.nodup

theorem tvOk_add (files : AList FileIdx) (m : AList (AList Nat)) (path : String) (fi : FileIdx)
    (h : TvOk files m) (hnew : path ∉ files.keys)
    (hc : fi.c.tvc.all (fun e => !e.2.isEmpty && posCounts e.2) = true) :
    TvOk (files.set path fi) (tvAddAll m fi.c.tvc) where
  sum t v := by
    rw [tvCnt_tvAddAll, h.sum t v, contribsOf_set files path fi hnew, total_append, total_cons, total_nil]
    rfl
  canon := tvCanon_tvAddAll _ _ h.canon hc
  nodup := nodup_tvAddAll _ _ h.nodup

theorem txOk_add (files : AList FileIdx) (m : AList (List Entry)) (path : String) (fi : FileIdx)
    (h : TxOk files m) (hnew : path ∉ files.keys) :
    TxOk (files.set path fi) (txAdd m fi.entries) where
  perm key := by
    rw [getD_txAdd, set_of_not_mem files path fi hnew, entriesOfFiles, List.flatMap_append,
      List.filter_append, List.flatMap_singleton]
    exact (h.perm key).append (List.Perm.refl _)
  nonempty := txAdd_nonempty _ _ h.nonempty
  nodup := nodup_txAdd _ _ h.nodup

theorem ptOk_add (fixT : Bool) (files : AList FileIdx) (m : AList String) (path : String)
    (fi : FileIdx) (h : PtOk fixT files m) (hn : files.keys.Nodup) (hnew : files.get path = none)
    (hc : fi.c.pts.keys.Nodup) :
    PtOk fixT (files.set path fi) (ptAdd fixT (files.set path fi) m fi.c.pts) := by
  have hn' : (files.set path fi).keys.Nodup := nodup_keys_set _ _ _ hn
  have hne : ∀ f fi', files.get f = some fi' → ¬ path = f := fun f fi' hf e =>
    nomatch (e ▸ hnew).symm.trans hf
  have hkeep : ∀ f fi', files.get f = some fi' → (files.set path fi).get f = some fi' :=
    fun f fi' hf => by rw [get_set, if_neg (hne f fi' hf)]; exact hf
  cases fixT with
  | false =>
    refine ⟨fun p t hg => ?_, nofun, nofun, nodup_ptAdd _ _ _ _ h.nodup⟩
    rw [get_ptAdd_pinned _ _ _ hc] at hg
    cases e : fi.c.pts.get p with
    | some t' => rw [e] at hg; cases hg; exact ⟨path, fi, get_set_self _ _ _, e⟩
    | none =>
      rw [e] at hg
      obtain ⟨f, fi', hf, hfi⟩ := h.sound p t hg
      exact ⟨f, fi', hkeep f fi' hf, hfi⟩
  | true =>
    have hexact : ∀ p, (ptAdd true (files.set path fi) m fi.c.pts).get p =
        ptRestoreVal (files.set path fi) p := by
      intro p
      rw [get_ptAdd_repaired]
      by_cases hk : p ∈ fi.c.pts.keys
      · obtain ⟨t, ht⟩ := Option.isSome_iff_exists.mp (ptRestoreVal_complete _ hn' p path fi
          (get_set_self _ _ _) ((mem_keys_iff _ _).mp hk))
        rw [if_pos hk, ht]
      · rw [if_neg hk, h.exact rfl p]
        -- the new file has no template for `p`
        refine ptRestoreVal_congr _ _ hn hn' p fun f fi' => ⟨fun ⟨h1, h2⟩ => ⟨hkeep f fi' h1, h2⟩,
          fun ⟨h1, h2⟩ => ?_⟩
        rw [get_set] at h1
        by_cases e : path = f
        · rw [if_pos e] at h1; cases h1; exact absurd ((mem_keys_iff _ _).mpr h2) hk
        · rw [if_neg e] at h1; exact ⟨h1, h2⟩
    exact ⟨fun p t hg => ptRestoreVal_sound _ hn' p t (hexact p ▸ hg),
      fun _ f fi' p hg hp => hexact p ▸ ptRestoreVal_complete _ hn' p f fi' hg hp,
      fun _ => hexact, nodup_ptAdd _ _ _ _ h.nodup⟩

theorem idxInv_add (fixT : Bool) (idx : WIndex) (path : String) (c : Contrib)
    (h : IdxInv fixT idx) (hnew : idx.files.get path = none) (hc : contribOk c = true) :
    IdxInv fixT (addFileIndex fixT idx path (mkFileIdx path c)) := by
  have hnk : path ∉ idx.files.keys := (get_eq_none_iff _ _).mp hnew
  obtain ⟨c1, c2, c3, c4, c5, c6⟩ := contribOk_parts c hc
  exact
    { nodup := nodup_keys_set _ _ _ h.nodup
      wf := fun p fi hg => by
        rw [show (addFileIndex fixT idx path (mkFileIdx path c)).files = idx.files.set path _ from rfl,
          get_set] at hg
        by_cases e : path = p
        · rw [if_pos e] at hg; cases hg; exact ⟨e ▸ rfl, hc⟩
        · rw [if_neg e] at hg; exact h.wf p fi hg
      ac := counterOk_add (·.ac) _ _ path _ h.ac hnk c1
      pc := counterOk_add (·.pc) _ _ path _ h.pc hnk c2
      cc := counterOk_add (·.cc) _ _ path _ h.cc hnk c3
      tc := counterOk_add (·.tc) _ _ path _ h.tc hnk c4
      dc := counterOk_add dateCounts _ _ path _ h.dc hnk (by simp [posCounts, dateCounts])
      tvc := tvOk_add _ _ path _ h.tvc hnk c5
      txs := txOk_add _ _ path _ h.txs hnk
      pts := ptOk_add fixT _ _ path _ h.pts h.nodup hnew c6
      derived := derived_refresh _ }

theorem contribsOf_perm (files : AList FileIdx) (path : String) (fi : FileIdx)
    (hn : files.keys.Nodup) (hg : files.get path = some fi) :
    (contribsOf files).Perm (fi.c :: contribsOf (files.erase path)) :=
  (perm_erase_cons files path fi hn hg).map fun (e : String × FileIdx) => e.2.c

theorem counterOk_remove (proj : Contrib → AList Nat) (files : AList FileIdx) (m : AList Nat)
    (path : String) (fi : FileIdx) (h : CounterOk proj files m) (hn : files.keys.Nodup)
    (hg : files.get path = some fi) :
    CounterOk proj (files.erase path) (subAll m (proj fi.c)) where
  sum k := by
    rw [cnt_subAll, h.sum k, total_perm proj _ _ (contribsOf_perm files path fi hn hg) k, total_cons,
      Nat.add_sub_cancel_left]
  pos := pos_subAll _ _ h.pos
  nodup := nodup_subAll _ _ h.nodup

theorem tvOk_remove (files : AList FileIdx) (m : AList (AList Nat)) (path : String) (fi : FileIdx)
    (h : TvOk files m) (hn : files.keys.Nodup) (hg : files.get path = some fi) :
    TvOk (files.erase path) (tvSubAll m fi.c.tvc) where
  sum t v := by
    rw [tvCnt_tvSubAll, h.sum t v, total_perm _ _ _ (contribsOf_perm files path fi hn hg) v, total_cons]
    exact Nat.add_sub_cancel_left ..
  canon := tvCanon_tvSubAll _ _ h.canon
  nodup := nodup_tvSubAll _ _ h.nodup

theorem file_of_mem_entries (path : String) (c : Contrib) (x : Entry)
    (hx : x ∈ (mkFileIdx path c).entries) : x.file = path := by
  obtain ⟨kd, _, rfl⟩ := List.mem_map.mp hx; rfl

theorem txOk_remove (files : AList FileIdx) (m : AList (List Entry)) (path : String) (fi : FileIdx)
    (h : TxOk files m) (hn : files.keys.Nodup) (hg : files.get path = some fi)
    (hwf : ∀ p fi, files.get p = some fi → fi = mkFileIdx p fi.c) :
    TxOk (files.erase path) (txRemove m path fi.entries) where
  perm key := by
    rw [getD_txRemove]
    have hfile : ∀ x ∈ fi.entries, x.file = path := fun x hx =>
      file_of_mem_entries path fi.c x (hwf path fi hg ▸ hx)
    have hother : ∀ x ∈ entriesOfFiles (files.erase path), x.file ≠ path := by
      intro x hx
      obtain ⟨e, he, hxe⟩ := List.mem_flatMap.mp hx
      have hge := mem_get_of_nodup _ e.1 e.2 (nodup_keys_erase _ _ hn) he
      rw [get_erase] at hge
      by_cases hne : path = e.1
      · rw [if_pos hne] at hge; cases hge
      · rw [if_neg hne] at hge
        exact file_of_mem_entries e.1 e.2.c x (hwf e.1 e.2 hge ▸ hxe) ▸ fun h => hne h.symm
    -- the entries with this key: those of the removed file, then those of the others
    have hall : (entriesOfFiles files).Perm (fi.entries ++ entriesOfFiles (files.erase path)) :=
      (perm_erase_cons files path fi hn hg).flatMap_right fun (e : String × FileIdx) => e.2.entries
    have hp := (h.perm key).trans (hall.filter _)
    rw [List.filter_append] at hp
    by_cases hk : key ∈ fi.entries.map (·.key)
    · rw [if_pos hk]
      have e1 : (fi.entries.filter fun e => e.key = key).filter (fun x => x.file ≠ path) = [] :=
        List.filter_eq_nil_iff.mpr fun x hx => by simp [hfile x (List.mem_filter.mp hx).1]
      have e2 : ((entriesOfFiles (files.erase path)).filter fun e => e.key = key).filter
          (fun x => x.file ≠ path) = (entriesOfFiles (files.erase path)).filter fun e => e.key = key :=
        List.filter_eq_self.mpr fun x hx => by simp [hother x (List.mem_filter.mp hx).1]
      have hp3 := hp.filter fun x => x.file ≠ path
      rw [List.filter_append, e1, e2] at hp3
      exact hp3
    · rw [if_neg hk]
      have e1 : (fi.entries.filter fun e => e.key = key) = [] :=
        List.filter_eq_nil_iff.mpr fun x hx hkey => hk (List.mem_map.mpr ⟨x, hx, of_decide_eq_true hkey⟩)
      rw [e1] at hp
      exact hp
  nonempty := txRemove_nonempty _ _ _ h.nonempty
  nodup := nodup_txRemove _ _ _ h.nodup

theorem ptOk_remove (fixT : Bool) (files : AList FileIdx) (m : AList String) (path : String)
    (fi : FileIdx) (h : PtOk fixT files m) (hn : files.keys.Nodup) (hg : files.get path = some fi) :
    PtOk fixT (files.erase path) (ptRemove fixT (files.erase path) m fi.c.pts) := by
  have hn' : (files.erase path).keys.Nodup := nodup_keys_erase _ _ hn
  -- a file with a template for a payee the removed file has none for stays
  have hkeep : ∀ p, p ∉ fi.c.pts.keys → ∀ f fi', files.get f = some fi' → (fi'.c.pts.get p).isSome →
      (files.erase path).get f = some fi' := by
    intro p hk f fi' hf hp
    rw [get_erase, if_neg fun e => ?_]
    · exact hf
    · subst e
      cases hg.symm.trans hf
      exact hk ((mem_keys_iff _ _).mpr hp)
  have hback : ∀ f fi', (files.erase path).get f = some fi' → files.get f = some fi' := by
    intro f fi' hf
    rw [get_erase] at hf
    by_cases e : path = f
    · rw [if_pos e] at hf; cases hf
    · rw [if_neg e] at hf; exact hf
  refine ⟨fun p t hgp => ?_, fun hfix f fi' p hgf hp => ?_, fun hfix p => ?_, nodup_ptRemove _ _ _ _ h.nodup⟩
  · rw [get_ptRemove] at hgp
    by_cases hk : p ∈ fi.c.pts.keys
    · rw [if_pos hk] at hgp
      cases fixT with
      | true => exact ptRestoreVal_sound _ hn' p t hgp
      | false => cases hgp
    · rw [if_neg hk] at hgp
      obtain ⟨f, fi', hf, hfi⟩ := h.sound p t hgp
      exact ⟨f, fi', hkeep p hk f fi' hf (hfi ▸ rfl), hfi⟩
  · rw [get_ptRemove]
    by_cases hk : p ∈ fi.c.pts.keys
    · rw [if_pos hk, hfix]; exact ptRestoreVal_complete _ hn' p f fi' hgf hp
    · rw [if_neg hk]; exact h.complete hfix f fi' p (hback f fi' hgf) hp
  · rw [get_ptRemove]
    by_cases hk : p ∈ fi.c.pts.keys
    · rw [if_pos hk, hfix]; rfl
    · rw [if_neg hk, h.exact hfix p]
      exact ptRestoreVal_congr _ _ hn hn' p fun f fi' =>
        ⟨fun ⟨h1, h2⟩ => ⟨hkeep p hk f fi' h1 h2, h2⟩, fun ⟨h1, h2⟩ => ⟨hback f fi' h1, h2⟩⟩

theorem idxInv_remove (fixT : Bool) (idx : WIndex) (path : String) (fi : FileIdx)
    (h : IdxInv fixT idx) (hg : idx.files.get path = some fi) :
    IdxInv fixT (removeFileIndex fixT idx path fi) where
  nodup := nodup_keys_erase _ _ h.nodup
  wf p fi' hg' := by
    rw [show (removeFileIndex fixT idx path fi).files = idx.files.erase path from rfl, get_erase] at hg'
    by_cases e : path = p
    · rw [if_pos e] at hg'; cases hg'
    · rw [if_neg e] at hg'; exact h.wf p fi' hg'
  ac := counterOk_remove (·.ac) _ _ path fi h.ac h.nodup hg
  pc := counterOk_remove (·.pc) _ _ path fi h.pc h.nodup hg
  cc := counterOk_remove (·.cc) _ _ path fi h.cc h.nodup hg
  tc := counterOk_remove (·.tc) _ _ path fi h.tc h.nodup hg
  dc := counterOk_remove dateCounts _ _ path fi h.dc h.nodup hg
  tvc := tvOk_remove _ _ path fi h.tvc h.nodup hg
  txs := txOk_remove _ _ path fi h.txs h.nodup hg fun p fi hp => (h.wf p fi hp).1
  pts := ptOk_remove fixT _ _ path fi h.pts h.nodup hg
  derived := derived_refresh _

theorem idxInv_removeFile (fixT : Bool) (idx : WIndex) (path : String) (h : IdxInv fixT idx) :
    IdxInv fixT (removeFile fixT idx path) := by
  unfold removeFile
  cases e : idx.files.get path with
  | none => exact h
  | some fi => exact idxInv_remove fixT idx path fi h e

theorem files_removeFile (fixT : Bool) (idx : WIndex) (path : String) :
    (removeFile fixT idx path).files = idx.files.erase path := by
  unfold removeFile
  cases e : idx.files.get path with
  | none => simp only; exact (erase_of_not_mem _ _ ((get_eq_none_iff _ _).mp e)).symm
  | some fi => rfl

theorem files_setFileIndex (fixT : Bool) (idx : WIndex) (path : String) (fi : FileIdx)
    (hp : path ≠ "") : (setFileIndex fixT idx path fi).files = (idx.files.erase path).set path fi := by
  unfold setFileIndex
  simp only [hp, if_false]
  cases e : idx.files.get path with
  | none =>
    simp only [addFileIndex, refreshDerived]
    rw [erase_of_not_mem _ _ ((get_eq_none_iff _ _).mp e)]
  | some old => rfl

theorem get_files_setFileIndex (fixT : Bool) (idx : WIndex) (path : String) (fi : FileIdx)
    (hp : path ≠ "") (p : String) :
    (setFileIndex fixT idx path fi).files.get p = if path = p then some fi else idx.files.get p := by
  rw [files_setFileIndex fixT idx path fi hp, get_set, get_erase]
  by_cases e : path = p <;> simp [e]

theorem idxInv_setFileIndex (fixT : Bool) (idx : WIndex) (path : String) (c : Contrib)
    (h : IdxInv fixT idx) (hc : contribOk c = true) :
    IdxInv fixT (setFileIndex fixT idx path (mkFileIdx path c)) := by
  unfold setFileIndex
  by_cases hp : path = ""
  · simp [hp, h]
  · simp only [hp, if_false]
    cases e : idx.files.get path with
    | none => exact idxInv_add fixT idx path c h e hc
    | some old =>
      simp only
      apply idxInv_add fixT _ path c (idxInv_remove fixT idx path old h e) _ hc
      show (idx.files.erase path).get path = none
      exact get_erase_self _ _

end HL.Lemmas.Index
