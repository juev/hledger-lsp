/-
  Helper lemmas for C10 / C11 about the model `HL.Loader`: the cache as an association list;
  `single` split into what it does before it descends (`fetch`, independent of the recursive
  call) and `descend`; termination of `loadF` (`loadF_some`); the cache stays consistent with
  the disk and `Files` agrees with `FileOrder` (`loadF_inv`); with the cache-descent repair the
  result of a load does not depend on a consistent cache (`loadF_rel`); more fuel never changes
  a result (`loadF_mono`).
-/
import HL.Model.Loader
namespace HL.Lemmas.Loader
open HL HL.Loader

theorem find_filter_ne (c : Cache) (p q : Path) (h : q ≠ p) :
    (c.filter (·.1 != p)).find? (·.1 == q) = c.find? (·.1 == q) := by
  rw [List.find?_filter]
  congr 1
  funext x
  by_cases hx : x.1 = q
  · simp [hx, h]
  · simp [hx]

theorem find_filter_eq (c : Cache) (p : Path) :
    (c.filter (·.1 != p)).find? (·.1 == p) = none := by
  rw [List.find?_filter, List.find?_eq_none]
  intro x _
  by_cases hx : x.1 = p <;> simp [hx]

theorem get_set (c : Cache) (p q : Path) (f : File) :
    (c.set p f).get q = if q = p then some f else c.get q := by
  unfold Cache.set Cache.get
  by_cases h : q = p
  · subst h; simp
  · have hb : (p == q) = false := by simp only [beq_eq_false_iff_ne]; exact fun e => h e.symm
    simp only [List.find?_cons, hb, h, if_false]
    rw [find_filter_ne c p q h]

theorem get_del (c : Cache) (p q : Path) :
    (c.del p).get q = if q = p then none else c.get q := by
  unfold Cache.del Cache.get
  by_cases h : q = p
  · subst h; simp only [if_true]; rw [find_filter_eq]; rfl
  · simp only [h, if_false]; rw [find_filter_ne c p q h]

theorem get_mem (c : Cache) (p : Path) (f : File) (h : c.get p = some f) : (p, f) ∈ c := by
  unfold Cache.get at h
  cases hf : c.find? (·.1 == p) with
  | none => rw [hf] at h; simp at h
  | some kv =>
    rw [hf] at h
    simp only [Option.map_some, Option.some.injEq] at h
    have h1 := List.mem_of_find?_eq_some hf
    have h2 := List.find?_some hf
    simp only [beq_iff_eq] at h2
    obtain ⟨k, v⟩ := kv
    simp only at h h2
    subst h; subst h2
    exact h1

theorem mem_get (c : Cache) (p : Path) (f : File) (h : (p, f) ∈ c) : (c.get p).isSome = true := by
  unfold Cache.get
  cases hf : c.find? (·.1 == p) with
  | none =>
    have := List.find?_eq_none.mp hf (p, f) h
    simp at this
  | some kv => rfl

section
variable (fs : FS) (lim : Limits) (m : Mode)

/-- Every cache entry is the parse of the file as it is on disk, and within the size limit. -/
def Cons (c : Cache) : Prop := ∀ p f, c.get p = some f → fs p = some f ∧ f.size ≤ lim.maxSize

theorem Cons.set {c : Cache} (h : Cons fs lim c) {p : Path} {f : File} (h1 : fs p = some f)
    (h2 : f.size ≤ lim.maxSize) : Cons fs lim (c.set p f) := by
  intro q g hq
  rw [get_set] at hq
  by_cases e : q = p
  · simp only [e, if_true, Option.some.injEq] at hq; subst hq; subst e; exact ⟨h1, h2⟩
  · simp only [e, if_false] at hq; exact h q g hq

/-- every entry (visible or shadowed) is the file on disk -/
def AllOK (c : Cache) : Prop := ∀ kv ∈ c, fs kv.1 = some kv.2 ∧ kv.2.size ≤ lim.maxSize

theorem AllOK.set {c : Cache} (h : AllOK fs lim c) {p : Path} {f : File} (h1 : fs p = some f)
    (h2 : f.size ≤ lim.maxSize) : AllOK fs lim (c.set p f) := by
  intro kv hkv
  unfold Cache.set at hkv
  simp only [List.mem_cons, List.mem_filter] at hkv
  rcases hkv with hkv | hkv
  · subst hkv; exact ⟨h1, h2⟩
  · exact h kv hkv.1

theorem AllOK.toCons {c : Cache} (h : AllOK fs lim c) : Cons fs lim c := by
  intro p f hp
  exact h (p, f) (get_mem c p f hp)

theorem AllOK.foldl (l : Cache) (hl : AllOK fs lim l) (c : Cache) (hc : AllOK fs lim c) :
    AllOK fs lim (l.foldl (fun c kv => c.set kv.1 kv.2) c) := by
  induction l generalizing c with
  | nil => exact hc
  | cons kv rest ih =>
    simp only [List.foldl_cons]
    apply ih (fun x hx => hl x (List.mem_cons_of_mem _ hx))
    exact hc.set fs lim (hl kv List.mem_cons_self).1 (hl kv List.mem_cons_self).2

theorem isSome_foldl (l : Cache) (c : Cache) (q : Path) :
    ((l.foldl (fun c kv => c.set kv.1 kv.2) c).get q).isSome = true ↔
      (c.get q).isSome = true ∨ ∃ f, (q, f) ∈ l := by
  induction l generalizing c with
  | nil => simp
  | cons kv rest ih =>
    simp only [List.foldl_cons, ih, get_set, List.mem_cons]
    constructor
    · rintro (h | ⟨f, hf⟩)
      · by_cases e : q = kv.1
        · exact Or.inr ⟨kv.2, Or.inl (by rw [e])⟩
        · simp only [e, if_false] at h; exact Or.inl h
      · exact Or.inr ⟨f, Or.inr hf⟩
    · rintro (h | ⟨f, hf | hf⟩)
      · by_cases e : q = kv.1
        · left; simp [e]
        · left; simp only [e, if_false]; exact h
      · left
        have : q = kv.1 := by rw [← hf]
        simp [this]
      · exact Or.inr ⟨f, hf⟩

/-- `Files` has an entry exactly for the files of `FileOrder` -/
def KeysEq (r : Res) : Prop := ∀ q, (r.files.get q).isSome = true ↔ q ∈ r.order

def FilesInv (r : Res) : Prop := AllOK fs lim r.files ∧ KeysEq r

theorem merge_inv (r : Res) (p : Path) (f : File) (sub : Res) (hr : FilesInv fs lim r)
    (hs : FilesInv fs lim sub) (hf : fs p = some f ∧ f.size ≤ lim.maxSize) :
    FilesInv fs lim (r.merge p f sub) := by
  refine ⟨?_, ?_⟩
  · exact AllOK.foldl fs lim sub.files hs.1 _ (hr.1.set fs lim hf.1 hf.2)
  · intro q
    simp only [Res.merge, isSome_foldl, get_set, List.mem_append, List.mem_cons]
    constructor
    · rintro (h | ⟨g, hg⟩)
      · by_cases e : q = p
        · exact Or.inr (Or.inl e)
        · simp only [e, if_false] at h; exact Or.inl ((hr.2 q).mp h)
      · exact Or.inr (Or.inr ((hs.2 q).mp (mem_get _ _ _ hg)))
    · rintro (h | h | h)
      · left
        by_cases e : q = p
        · simp [e]
        · simp only [e, if_false]; exact (hr.2 q).mpr h
      · left; simp [h]
      · right
        have := (hs.2 q).mpr h
        cases hg : sub.files.get q with
        | none => rw [hg] at this; simp at this
        | some g => exact ⟨g, get_mem _ _ _ hg⟩

abbrev Rec := Path → File → List Path → Nat → St → Option LoadOut

/-- What `single` does before it descends, which does not depend on the recursive call: the
    accumulator it returns at once (a diagnostic, a file skipped, a cache hit that is not
    followed), or the file to enter and the accumulator to enter it with. -/
def fetch (base : Path) (rng : Rng) (p : Path) (stk : List Path) (a : Acc) : Acc ⊕ File × Acc :=
  let cyc : Err := ⟨.cycle, p, "", rng, some base⟩
  if m.stack && stk.contains p then .inl (a.addErr cyc)
  else if m.stack && a.st.seen.contains p then .inl a
  else if !m.stack && a.st.seen.contains p then .inl (a.addErr cyc)
  else
    match a.st.cache.get p with
    | some cf =>
      if m.descend then .inr (cf, a)
      else .inl { a with res := { a.res with files := a.res.files.set p cf, order := a.res.order ++ [p] } }
    | none =>
      match fs p with
      | none => .inl (a.addErr ⟨.notFound, p, "", rng, none⟩)
      | some f =>
        if f.size > lim.maxSize then .inl (a.addErr ⟨.tooLarge, p, "", rng, none⟩)
        else .inr (f, if m.descend then { a with st := { a.st with cache := a.st.cache.set p f } } else a)

theorem single_eq (rec : Rec) (base : Path) (rng : Rng) (p : Path) (stk : List Path) (depth : Nat)
    (a : Acc) : single fs lim m rec base rng p stk depth a =
      match fetch fs lim m base rng p stk a with
      | .inl a' => some a'
      | .inr (f, a0) => descend lim m rec rng p f stk depth a0 := by
  unfold single fetch
  dsimp only
  by_cases h1 : (m.stack && stk.contains p) = true
  · rw [if_pos h1, if_pos h1]
  rw [if_neg h1, if_neg h1]
  by_cases h2 : (m.stack && a.st.seen.contains p) = true
  · rw [if_pos h2, if_pos h2]
  rw [if_neg h2, if_neg h2]
  by_cases h3 : (!m.stack && a.st.seen.contains p) = true
  · rw [if_pos h3, if_pos h3]
  rw [if_neg h3, if_neg h3]
  cases a.st.cache.get p with
  | some cf =>
    dsimp only
    by_cases h4 : m.descend = true
    · rw [if_pos h4, if_pos h4]
    · rw [if_neg h4, if_neg h4]
  | none =>
    cases fs p with
    | none => rfl
    | some f =>
      dsimp only
      by_cases h5 : f.size > lim.maxSize
      · rw [if_pos h5, if_pos h5]
      · rw [if_neg h5, if_neg h5]

theorem fetch_spec (base : Path) (rng : Rng) (p : Path) (stk : List Path) (a : Acc) :
    match fetch fs lim m base rng p stk a with
    | .inl a' => a'.st = a.st ∧ a'.res.primary = a.res.primary ∧
        (Cons fs lim a.st.cache → FilesInv fs lim a.res → FilesInv fs lim a'.res)
    | .inr (f, a0) => a0.res = a.res ∧ a0.errs = a.errs ∧ a0.st.seen = a.st.seen ∧
        (Cons fs lim a.st.cache → (fs p = some f ∧ f.size ≤ lim.maxSize) ∧ Cons fs lim a0.st.cache) := by
  have err : ∀ e, (a.addErr e).st = a.st ∧ (a.addErr e).res.primary = a.res.primary ∧
      (Cons fs lim a.st.cache → FilesInv fs lim a.res → FilesInv fs lim (a.addErr e).res) :=
    fun _ => ⟨rfl, rfl, fun _ hi => hi⟩
  unfold fetch
  dsimp only
  by_cases h1 : (m.stack && stk.contains p) = true
  · rw [if_pos h1]; exact err _
  rw [if_neg h1]
  by_cases h2 : (m.stack && a.st.seen.contains p) = true
  · rw [if_pos h2]; exact ⟨rfl, rfl, fun _ hi => hi⟩
  rw [if_neg h2]
  by_cases h3 : (!m.stack && a.st.seen.contains p) = true
  · rw [if_pos h3]; exact err _
  rw [if_neg h3]
  cases hcf : a.st.cache.get p with
  | some cf =>
    dsimp only
    by_cases h4 : m.descend = true
    · rw [if_pos h4]; exact ⟨rfl, rfl, rfl, fun ha => ⟨ha p cf hcf, ha⟩⟩
    · rw [if_neg h4]
      refine ⟨rfl, rfl, fun ha hi => ?_⟩
      obtain ⟨c1, c2⟩ := ha p cf hcf
      refine ⟨hi.1.set fs lim c1 c2, fun q => ?_⟩
      simp only [get_set, List.mem_append, List.mem_singleton]
      by_cases eq : q = p
      · simp [eq]
      · simp only [eq, if_false, or_false]; exact hi.2 q
  | none =>
    cases hf : fs p with
    | none => exact err _
    | some f =>
      dsimp only
      by_cases h5 : f.size > lim.maxSize
      · rw [if_pos h5]; exact err _
      · rw [if_neg h5]
        have hs := Nat.le_of_not_lt h5
        by_cases h4 : m.descend = true
        · rw [if_pos h4]; exact ⟨rfl, rfl, rfl, fun ha => ⟨⟨rfl, hs⟩, ha.set fs lim hf hs⟩⟩
        · rw [if_neg h4]; exact ⟨rfl, rfl, rfl, fun ha => ⟨⟨rfl, hs⟩, ha⟩⟩

variable {fs lim m} in
theorem fetch_inl {base : Path} {rng : Rng} {p : Path} {stk : List Path} {a a' : Acc}
    (e : fetch fs lim m base rng p stk a = .inl a') :
    a'.st = a.st ∧ a'.res.primary = a.res.primary ∧
      (Cons fs lim a.st.cache → FilesInv fs lim a.res → FilesInv fs lim a'.res) := by
  have := fetch_spec fs lim m base rng p stk a
  rwa [e] at this

variable {fs lim m} in
theorem fetch_inr {base : Path} {rng : Rng} {p : Path} {stk : List Path} {a a0 : Acc} {f : File}
    (e : fetch fs lim m base rng p stk a = .inr (f, a0)) :
    a0.res = a.res ∧ a0.errs = a.errs ∧ a0.st.seen = a.st.seen ∧
      (Cons fs lim a.st.cache → (fs p = some f ∧ f.size ≤ lim.maxSize) ∧ Cons fs lim a0.st.cache) := by
  have := fetch_spec fs lim m base rng p stk a
  rwa [e] at this

/-- the recursive call terminates (and only adds to `seen`) whenever it is actually made -/
def Good (rec : Rec) (depth K : Nat) : Prop :=
  ∀ p f stk st1, K ≤ st1.seen.length → ¬ (m.depth = true ∧ depth + 1 ≥ lim.maxDepth) →
    ∃ r es st', rec p f stk (depth + 1) st1 = some (r, es, st') ∧ st1.seen.length ≤ st'.seen.length

theorem descend_some (rec : Rec) (depth K : Nat) (h : Good lim m rec depth K)
    (rng : Rng) (p : Path) (f : File) (stk : List Path) (a : Acc) (ha : K ≤ a.st.seen.length) :
    ∃ a', descend lim m rec rng p f stk depth a = some a' ∧ a.st.seen.length ≤ a'.st.seen.length := by
  unfold descend
  by_cases hc : (m.depth && decide (depth + 1 ≥ lim.maxDepth)) = true
  · rw [if_pos hc]; exact ⟨_, rfl, Nat.le_refl _⟩
  · rw [if_neg hc]
    obtain ⟨r, es, st', e, hle⟩ := h p f stk a.st ha (by simpa using hc)
    rw [e]
    cases r with
    | none => exact ⟨_, rfl, hle⟩
    | some sub =>
      refine ⟨_, rfl, ?_⟩
      dsimp only
      by_cases hd : m.descend = true
      · rw [if_pos hd]; exact hle
      · rw [if_neg hd]; exact hle

theorem single_some (rec : Rec) (depth K : Nat) (h : Good lim m rec depth K)
    (base : Path) (rng : Rng) (p : Path) (stk : List Path) (a : Acc) (ha : K ≤ a.st.seen.length) :
    ∃ a', single fs lim m rec base rng p stk depth a = some a' ∧ a.st.seen.length ≤ a'.st.seen.length := by
  rw [single_eq]
  cases e : fetch fs lim m base rng p stk a with
  | inl a' => exact ⟨a', rfl, by rw [(fetch_inl e).1]; exact Nat.le_refl _⟩
  | inr x =>
    have hs := (fetch_inr e).2.2.1
    rw [← hs] at ha ⊢
    exact descend_some lim m rec depth K h rng p x.1 stk x.2 ha

theorem runItems_some (rec : Rec) (depth K : Nat) (h : Good lim m rec depth K)
    (base : Path) (stk : List Path) (its : List Item) (a : Acc) (ha : K ≤ a.st.seen.length) :
    ∃ a', runItems fs lim m rec base stk depth its a = some a' ∧ a.st.seen.length ≤ a'.st.seen.length := by
  induction its generalizing a with
  | nil => exact ⟨a, rfl, Nat.le_refl _⟩
  | cons it rest ih =>
    cases it with
    | err e => exact ih (a.addErr e) ha
    | tgt rng p =>
      obtain ⟨a1, e1, h1⟩ := single_some fs lim m rec depth K h base rng p stk a ha
      obtain ⟨a2, e2, h2⟩ := ih a1 (Nat.le_trans ha h1)
      exact ⟨a2, by rw [runItems, e1]; exact e2, Nat.le_trans h1 h2⟩

/-- the termination measure: nesting depth (repaired) or number of files visited (pinned) -/
def depthMeasure (depth : Nat) (st : St) : Nat := if m.depth then depth else st.seen.length

theorem loadF_some : ∀ (fuel : Nat) (path : Path) (file : File) (stk : List Path) (depth : Nat) (st : St),
    1 ≤ fuel → lim.maxDepth + 1 ≤ fuel + depthMeasure m depth st →
    ∃ r es st', loadF fs lim m fuel path file stk depth st = some (r, es, st') ∧
      st.seen.length ≤ st'.seen.length := by
  intro fuel
  induction fuel with
  | zero => intro _ _ _ _ _ h; omega
  | succ fuel ih =>
    intro path file stk depth st _ hmu
    unfold loadF
    by_cases hc : (!m.depth && decide (st.seen.length ≥ lim.maxDepth)) = true
    · rw [if_pos hc]; exact ⟨_, _, _, rfl, Nat.le_refl _⟩
    · rw [if_neg hc]
      have good : Good lim m (loadF fs lim m fuel) depth (st.seen.length + 1) := by
        intro p f stk' st1 hK hd
        have : 1 ≤ fuel ∧ lim.maxDepth + 1 ≤ fuel + depthMeasure m (depth + 1) st1 := by
          unfold depthMeasure at hmu ⊢
          cases hm : m.depth <;> simp [hm] at hmu hc hd ⊢ <;> omega
        exact ih p f stk' (depth + 1) st1 this.1 this.2
      obtain ⟨a', e, hle⟩ := runItems_some fs lim m (loadF fs lim m fuel) depth (st.seen.length + 1) good
        path (path :: stk) (items fs path file)
        ⟨⟨file, [], []⟩, file.perrs.map (parseErr path), { st with seen := path :: st.seen }⟩
        (Nat.le_of_eq (List.length_cons).symm)
      dsimp only
      rw [e]
      exact ⟨_, _, _, rfl, Nat.le_trans (Nat.le_succ _) hle⟩

/-- the recursive call keeps the cache consistent and returns the file it was given as
    `Primary`, with `Files` as they are on disk and an entry exactly for the files of `FileOrder` -/
def RecInv (rec : Rec) : Prop :=
  ∀ p f stk d st r es st', Cons fs lim st.cache → rec p f stk d st = some (r, es, st') →
    Cons fs lim st'.cache ∧ ∀ sub, r = some sub → sub.primary = f ∧ FilesInv fs lim sub

theorem descend_inv (rec : Rec) (h : RecInv fs lim rec) (rng : Rng) (p : Path) (f : File)
    (stk : List Path) (depth : Nat) (a a' : Acc) (hf : fs p = some f ∧ f.size ≤ lim.maxSize)
    (ha : Cons fs lim a.st.cache) (e : descend lim m rec rng p f stk depth a = some a') :
    Cons fs lim a'.st.cache ∧ a'.res.primary = a.res.primary ∧
      (FilesInv fs lim a.res → FilesInv fs lim a'.res) := by
  unfold descend at e
  by_cases hc : (m.depth && decide (depth + 1 ≥ lim.maxDepth)) = true
  · rw [if_pos hc] at e; cases e; exact ⟨ha, rfl, id⟩
  · rw [if_neg hc] at e
    cases er : rec p f stk (depth + 1) a.st with
    | none => rw [er] at e; cases e
    | some out =>
      obtain ⟨r, es, st'⟩ := out
      obtain ⟨hc', hsub⟩ := h _ _ _ _ _ _ _ _ ha er
      rw [er] at e
      cases r with
      | none => cases e; exact ⟨hc', rfl, id⟩
      | some sub =>
        cases e
        obtain ⟨hp, hi⟩ := hsub sub rfl
        refine ⟨?_, rfl, fun hia => hp ▸ merge_inv fs lim a.res p f sub hia hi hf⟩
        dsimp only
        by_cases hd : m.descend = true
        · rw [if_pos hd]; exact hc'
        · rw [if_neg hd, hp]; exact hc'.set fs lim hf.1 hf.2

theorem single_inv (rec : Rec) (h : RecInv fs lim rec) (base : Path) (rng : Rng) (p : Path)
    (stk : List Path) (depth : Nat) (a a' : Acc)
    (ha : Cons fs lim a.st.cache) (e : single fs lim m rec base rng p stk depth a = some a') :
    Cons fs lim a'.st.cache ∧ a'.res.primary = a.res.primary ∧
      (FilesInv fs lim a.res → FilesInv fs lim a'.res) := by
  rw [single_eq] at e
  cases ef : fetch fs lim m base rng p stk a with
  | inl b =>
    rw [ef] at e; cases e
    obtain ⟨h1, h2, h3⟩ := fetch_inl ef
    exact ⟨h1 ▸ ha, h2, h3 ha⟩
  | inr x =>
    rw [ef] at e
    obtain ⟨h1, _, _, h4⟩ := fetch_inr ef
    rw [← h1]
    exact descend_inv fs lim m rec h rng p x.1 stk depth x.2 a' (h4 ha).1 (h4 ha).2 e

theorem runItems_inv (rec : Rec) (h : RecInv fs lim rec) (base : Path) (stk : List Path) (depth : Nat)
    (its : List Item) (a a' : Acc) (ha : Cons fs lim a.st.cache)
    (e : runItems fs lim m rec base stk depth its a = some a') :
    Cons fs lim a'.st.cache ∧ a'.res.primary = a.res.primary ∧
      (FilesInv fs lim a.res → FilesInv fs lim a'.res) := by
  induction its generalizing a with
  | nil => cases e; exact ⟨ha, rfl, id⟩
  | cons it rest ih =>
    cases it with
    | err x => exact ih (a.addErr x) ha e
    | tgt rng p =>
      rw [runItems] at e
      cases e1 : single fs lim m rec base rng p stk depth a with
      | none => rw [e1] at e; cases e
      | some a1 =>
        rw [e1] at e
        obtain ⟨c1, p1, i1⟩ := single_inv fs lim m rec h base rng p stk depth a a1 ha e1
        obtain ⟨c2, p2, i2⟩ := ih a1 c1 e
        exact ⟨c2, p2.trans p1, i2 ∘ i1⟩

theorem loadF_inv : ∀ fuel, RecInv fs lim (loadF fs lim m fuel) := by
  intro fuel
  induction fuel with
  | zero => intro p f stk d st r es st' _ e; cases e
  | succ fuel ih =>
    intro p f stk d st r es st' hc e
    unfold loadF at e
    by_cases hd : (!m.depth && decide (st.seen.length ≥ lim.maxDepth)) = true
    · rw [if_pos hd] at e; cases e; exact ⟨hc, fun _ h => nomatch h⟩
    · rw [if_neg hd] at e
      dsimp only at e
      cases ea : runItems fs lim m (loadF fs lim m fuel) p (p :: stk) d (items fs p f)
          ⟨⟨f, [], []⟩, f.perrs.map (parseErr p), { st with seen := p :: st.seen }⟩ with
      | none => rw [ea] at e; cases e
      | some a =>
        rw [ea] at e; cases e
        obtain ⟨c1, p1, i1⟩ := runItems_inv fs lim m _ ih _ _ _ _ _ a hc ea
        refine ⟨c1, fun sub hs => ?_⟩
        cases hs
        exact ⟨p1, i1 ⟨fun _ hkv => (nomatch hkv), fun _ => ⟨fun hq => (nomatch hq), fun hq => (nomatch hq)⟩⟩⟩

def AccRel (a1 a2 : Acc) : Prop := a1.res = a2.res ∧ a1.errs = a2.errs ∧ a1.st.seen = a2.st.seen

def RelAcc : Option Acc → Option Acc → Prop
  | none, none => True
  | some a1, some a2 => AccRel a1 a2
  | _, _ => False

def RelOut : Option LoadOut → Option LoadOut → Prop
  | none, none => True
  | some (r1, e1, s1), some (r2, e2, s2) => r1 = r2 ∧ e1 = e2 ∧ s1.seen = s2.seen
  | _, _ => False

def RecRel (rec : Rec) : Prop :=
  ∀ p f stk d s1 s2, s1.seen = s2.seen → Cons fs lim s1.cache → Cons fs lim s2.cache →
    RelOut (rec p f stk d s1) (rec p f stk d s2)

theorem RelAcc.refl_of {a1 a2 : Acc} (h : AccRel a1 a2) : RelAcc (some a1) (some a2) := h

theorem RelAcc.inv {x y : Option Acc} (h : RelAcc x y) :
    x = none ∧ y = none ∨ ∃ a1 a2, x = some a1 ∧ y = some a2 ∧ AccRel a1 a2 := by
  cases x <;> cases y
  case none.none => exact Or.inl ⟨rfl, rfl⟩
  case some.some a1 a2 => exact Or.inr ⟨a1, a2, rfl, rfl, h⟩
  all_goals exact h.elim

theorem RelOut.inv {x y : Option LoadOut} (h : RelOut x y) :
    x = none ∧ y = none ∨ ∃ r es s1 s2, x = some (r, es, s1) ∧ y = some (r, es, s2) ∧ s1.seen = s2.seen := by
  cases x <;> cases y
  case none.none => exact Or.inl ⟨rfl, rfl⟩
  case some.some a b =>
    obtain ⟨r1, e1, s1⟩ := a
    obtain ⟨r2, e2, s2⟩ := b
    obtain ⟨rfl, rfl, h3⟩ := h
    exact Or.inr ⟨_, _, _, _, rfl, rfl, h3⟩
  case some.none a => obtain ⟨r1, e1, s1⟩ := a; exact h.elim
  case none.some => exact h.elim

theorem descend_rel (rec : Rec) (h : RecRel fs lim rec) (rng : Rng) (p : Path) (f : File)
    (stk : List Path) (depth : Nat) (a1 a2 : Acc) (hr : AccRel a1 a2)
    (c1 : Cons fs lim a1.st.cache) (c2 : Cons fs lim a2.st.cache) :
    RelAcc (descend lim m rec rng p f stk depth a1) (descend lim m rec rng p f stk depth a2) := by
  obtain ⟨r1, r2, r3⟩ := hr
  unfold descend
  by_cases hc : (m.depth && decide (depth + 1 ≥ lim.maxDepth)) = true
  · rw [if_pos hc, if_pos hc]; exact ⟨r1, congrArg (· ++ _) r2, r3⟩
  · rw [if_neg hc, if_neg hc]
    rcases (h p f stk (depth + 1) a1.st a2.st r3 c1 c2).inv with ⟨e1, e2⟩ | ⟨r, es, s1, s2, e1, e2, h3⟩
    · rw [e1, e2]; trivial
    · rw [e1, e2]
      cases r with
      | none => exact ⟨r1, congrArg (· ++ _) r2, h3⟩
      | some sub =>
        refine ⟨congrArg (Res.merge · p sub.primary sub) r1, congrArg (· ++ _) r2, ?_⟩
        dsimp only
        cases m.descend <;> exact h3

/-- with the repair the file entered is the one on disk whether or not the cache has it, so
    `fetch` answers alike on related accumulators with consistent caches -/
theorem fetch_rel (hm : m.descend = true) (base : Path) (rng : Rng) (p : Path) (stk : List Path)
    (a1 a2 : Acc) (hr : AccRel a1 a2) (c1 : Cons fs lim a1.st.cache) (c2 : Cons fs lim a2.st.cache) :
    match fetch fs lim m base rng p stk a1, fetch fs lim m base rng p stk a2 with
    | .inl b1, .inl b2 => AccRel b1 b2
    | .inr (f1, b1), .inr (f2, b2) => f1 = f2 ∧ AccRel b1 b2
    | _, _ => False := by
  obtain ⟨r1, r2, r3⟩ := hr
  have err : ∀ e, AccRel (a1.addErr e) (a2.addErr e) := fun e => ⟨r1, congrArg (· ++ [e]) r2, r3⟩
  unfold fetch
  simp only [hm, if_true, congrArg (·.contains p) r3]
  by_cases h1 : (m.stack && stk.contains p) = true
  · rw [if_pos h1, if_pos h1]; exact err _
  rw [if_neg h1, if_neg h1]
  by_cases h2 : (m.stack && a2.st.seen.contains p) = true
  · rw [if_pos h2, if_pos h2]; exact ⟨r1, r2, r3⟩
  rw [if_neg h2, if_neg h2]
  by_cases h3 : (!m.stack && a2.st.seen.contains p) = true
  · rw [if_pos h3, if_pos h3]; exact err _
  rw [if_neg h3, if_neg h3]
  -- a cached file is the file on disk and within the limit
  have hit : ∀ (a : Acc) cf, Cons fs lim a.st.cache → a.st.cache.get p = some cf →
      fs p = some cf ∧ ¬ cf.size > lim.maxSize := fun a cf c h => ⟨(c p cf h).1, Nat.not_lt.mpr (c p cf h).2⟩
  cases h1 : a1.st.cache.get p <;> cases h2 : a2.st.cache.get p
  case some.some cf1 cf2 =>
    have := (hit a1 cf1 c1 h1).1.symm.trans (hit a2 cf2 c2 h2).1
    exact ⟨Option.some.inj this, r1, r2, r3⟩
  case some.none cf =>
    obtain ⟨hf, hs⟩ := hit a1 cf c1 h1
    rw [hf]; dsimp only; rw [if_neg hs]
    exact ⟨rfl, r1, r2, r3⟩
  case none.some cf =>
    obtain ⟨hf, hs⟩ := hit a2 cf c2 h2
    rw [hf]; dsimp only; rw [if_neg hs]
    exact ⟨rfl, r1, r2, r3⟩
  case none.none =>
    cases hf : fs p with
    | none => exact err _
    | some f =>
      dsimp only
      by_cases hs : f.size > lim.maxSize
      · rw [if_pos hs, if_pos hs]; exact err _
      · rw [if_neg hs, if_neg hs]; exact ⟨rfl, r1, r2, r3⟩

theorem single_rel (hm : m.descend = true) (rec : Rec) (h : RecRel fs lim rec)
    (base : Path) (rng : Rng) (p : Path) (stk : List Path) (depth : Nat) (a1 a2 : Acc) (hr : AccRel a1 a2)
    (c1 : Cons fs lim a1.st.cache) (c2 : Cons fs lim a2.st.cache) :
    RelAcc (single fs lim m rec base rng p stk depth a1) (single fs lim m rec base rng p stk depth a2) := by
  have hf := fetch_rel fs lim m hm base rng p stk a1 a2 hr c1 c2
  rw [single_eq, single_eq]
  cases e1 : fetch fs lim m base rng p stk a1 <;> cases e2 : fetch fs lim m base rng p stk a2 <;>
    rw [e1, e2] at hf
  case inl.inl => exact hf
  case inr.inr x y =>
    obtain ⟨f1, b1⟩ := x
    obtain ⟨f2, b2⟩ := y
    obtain ⟨rfl, hr'⟩ := hf
    obtain ⟨_, _, _, k1⟩ := fetch_inr e1
    obtain ⟨_, _, _, k2⟩ := fetch_inr e2
    exact descend_rel fs lim m rec h rng p _ stk depth _ _ hr' (k1 c1).2 (k2 c2).2
  all_goals exact hf.elim

theorem runItems_rel (hm : m.descend = true) (rec : Rec) (h : RecRel fs lim rec) (hc : RecInv fs lim rec)
    (base : Path) (stk : List Path) (depth : Nat) (its : List Item) (a1 a2 : Acc) (hr : AccRel a1 a2)
    (c1 : Cons fs lim a1.st.cache) (c2 : Cons fs lim a2.st.cache) :
    RelAcc (runItems fs lim m rec base stk depth its a1) (runItems fs lim m rec base stk depth its a2) := by
  induction its generalizing a1 a2 with
  | nil => exact hr
  | cons it rest ih =>
    cases it with
    | err x => exact ih _ _ ⟨hr.1, congrArg (· ++ [x]) hr.2.1, hr.2.2⟩ c1 c2
    | tgt rng p =>
      rw [runItems, runItems]
      rcases (single_rel fs lim m hm rec h base rng p stk depth a1 a2 hr c1 c2).inv with
        ⟨e1, e2⟩ | ⟨b1, b2, e1, e2, hb⟩
      · rw [e1, e2]; trivial
      · rw [e1, e2]
        exact ih b1 b2 hb (single_inv fs lim m rec hc base rng p stk depth a1 b1 c1 e1).1
          (single_inv fs lim m rec hc base rng p stk depth a2 b2 c2 e2).1

theorem loadF_rel (hm : m.descend = true) : ∀ fuel, RecRel fs lim (loadF fs lim m fuel) := by
  intro fuel
  induction fuel with
  | zero => intro p f stk d s1 s2 _ _ _; trivial
  | succ fuel ih =>
    intro p f stk d s1 s2 hs c1 c2
    unfold loadF
    rw [hs]
    by_cases hd : (!m.depth && decide (s2.seen.length ≥ lim.maxDepth)) = true
    · rw [if_pos hd, if_pos hd]; exact ⟨rfl, rfl, hs⟩
    · rw [if_neg hd, if_neg hd]
      rcases (runItems_rel fs lim m hm _ ih (loadF_inv fs lim m fuel) p (p :: stk) d (items fs p f)
        ⟨⟨f, [], []⟩, f.perrs.map (parseErr p), { s1 with seen := p :: s2.seen }⟩
        ⟨⟨f, [], []⟩, f.perrs.map (parseErr p), { s2 with seen := p :: s2.seen }⟩
        ⟨rfl, rfl, rfl⟩ c1 c2).inv with ⟨e1, e2⟩ | ⟨b1, b2, e1, e2, hb⟩
      · dsimp only; rw [e1, e2]; trivial
      · dsimp only; rw [e1, e2]; exact ⟨congrArg some hb.1, hb.2.1, hb.2.2⟩

def RecLe (rec rec' : Rec) : Prop := ∀ p f stk d st r, rec p f stk d st = some r → rec' p f stk d st = some r

theorem descend_le (rec rec' : Rec) (h : RecLe rec rec') (rng : Rng) (p : Path) (f : File)
    (stk : List Path) (depth : Nat) (a a' : Acc) (e : descend lim m rec rng p f stk depth a = some a') :
    descend lim m rec' rng p f stk depth a = some a' := by
  unfold descend at e ⊢
  by_cases hc : (m.depth && decide (depth + 1 ≥ lim.maxDepth)) = true
  · rw [if_pos hc] at e ⊢; exact e
  · rw [if_neg hc] at e ⊢
    cases hr : rec p f stk (depth + 1) a.st with
    | none => rw [hr] at e; cases e
    | some r => rw [hr] at e; rw [h _ _ _ _ _ _ hr]; exact e

theorem single_le (rec rec' : Rec) (h : RecLe rec rec') (base : Path) (rng : Rng) (p : Path)
    (stk : List Path) (depth : Nat) (a a' : Acc)
    (e : single fs lim m rec base rng p stk depth a = some a') :
    single fs lim m rec' base rng p stk depth a = some a' := by
  rw [single_eq] at e ⊢
  cases ef : fetch fs lim m base rng p stk a with
  | inl b => rw [ef] at e; exact e
  | inr x => rw [ef] at e; exact descend_le lim m rec rec' h rng p x.1 stk depth x.2 a' e

theorem runItems_le (rec rec' : Rec) (h : RecLe rec rec') (base : Path) (stk : List Path) (depth : Nat)
    (its : List Item) (a a' : Acc) (e : runItems fs lim m rec base stk depth its a = some a') :
    runItems fs lim m rec' base stk depth its a = some a' := by
  induction its generalizing a with
  | nil => exact e
  | cons it rest ih =>
    cases it with
    | err x => exact ih _ e
    | tgt rng p =>
      rw [runItems] at e ⊢
      cases hs : single fs lim m rec base rng p stk depth a with
      | none => rw [hs] at e; cases e
      | some a1 =>
        rw [hs] at e
        rw [single_le fs lim m rec rec' h base rng p stk depth a a1 hs]
        exact ih a1 e

theorem loadF_succ : ∀ fuel, RecLe (loadF fs lim m fuel) (loadF fs lim m (fuel + 1)) := by
  intro fuel
  induction fuel with
  | zero => intro p f stk d st r e; cases e
  | succ fuel ih =>
    intro p f stk d st r e
    unfold loadF at e ⊢
    by_cases hc : (!m.depth && decide (st.seen.length ≥ lim.maxDepth)) = true
    · rw [if_pos hc] at e ⊢; exact e
    · rw [if_neg hc] at e ⊢
      dsimp only at e ⊢
      cases hr : runItems fs lim m (loadF fs lim m fuel) p (p :: stk) d (items fs p f)
          ⟨⟨f, [], []⟩, f.perrs.map (parseErr p), { st with seen := p :: st.seen }⟩ with
      | none => rw [hr] at e; cases e
      | some a =>
        rw [hr] at e
        rw [runItems_le fs lim m _ _ ih p (p :: stk) d _ _ a hr]
        exact e

theorem loadF_mono (fuel fuel' : Nat) (hle : fuel ≤ fuel') : RecLe (loadF fs lim m fuel) (loadF fs lim m fuel') := by
  induction hle with
  | refl => intro _ _ _ _ _ _ e; exact e
  | step _ ih => intro p f stk d st r e; exact loadF_succ fs lim m _ p f stk d st r (ih p f stk d st r e)
end
end HL.Lemmas.Loader
