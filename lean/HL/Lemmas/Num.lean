import HL.Model.Num
import HL.Spec.Number
import HL.Lemmas.Dec

/-! Lemmas for `normalize_value`: the scanning loops of `normalizeMantissa`, what it returns for
    each number of marks, digit grouping, `NewFromString` on canonical digit strings, and the
    arithmetic of `G.value`. -/
namespace HL
namespace Num

theorem scan_not_mem (c : UInt8) (s : Bytes) (i : Nat) (acc : Nat × Nat) (h : c ∉ s) :
    scan c s i acc = acc := by
  induction s generalizing i with
  | nil => rfl
  | cons x r ih =>
    have hx : (x == c) = false := beq_false_of_ne fun e => h (e ▸ List.mem_cons_self)
    simp only [scan, hx, Bool.false_eq_true, if_false]
    exact ih _ fun hr => h (List.mem_cons_of_mem _ hr)

theorem scan_fst (c : UInt8) (s : Bytes) (i cnt last : Nat) :
    (scan c s i (cnt, last)).1 = cnt + s.count c := by
  induction s generalizing i cnt last with
  | nil => rfl
  | cons x r ih =>
    simp only [scan, List.count_cons]
    split <;> rw [ih] <;> omega

theorem scan_snd (c : UInt8) (A B : Bytes) (i : Nat) (acc : Nat × Nat) (h : c ∉ B) :
    (scan c (A ++ c :: B) i acc).2 = i + A.length := by
  induction A generalizing i acc with
  | nil => simp only [List.nil_append, scan, beq_self_eq_true, if_true, scan_not_mem c B _ _ h]; rfl
  | cons x r ih =>
    simp only [List.cons_append, scan, List.length_cons]
    split <;> rw [ih] <;> omega

theorem countOf_eq (c : UInt8) (s : Bytes) : countOf c s = s.count c := by
  unfold countOf; rw [scan_fst]; omega

theorem lastOf_split (c : UInt8) (A B : Bytes) (h : c ∉ B) : lastOf c (A ++ c :: B) = A.length := by
  unfold lastOf; rw [scan_snd c A B 0 _ h]; omega

def isMark (c : UInt8) : Bool := c == DOT || c == COMMA

theorem rebuild_past (p : Nat) (s : Bytes) (i : Nat) (h : p < i) :
    rebuild p s i = s.filter fun c => !isMark c := by
  induction s generalizing i with
  | nil => rfl
  | cons x r ih =>
    have hne : (i == p) = false := beq_false_of_ne (by omega)
    simp only [rebuild, List.filter_cons, isMark, hne, ih (i + 1) (by omega)]
    cases (x == DOT || x == COMMA) <;> rfl

theorem rebuild_split (A B : Bytes) (x : UInt8) (hx : isMark x = true) (i : Nat) :
    rebuild (i + A.length) (A ++ x :: B) i =
      (A.filter fun c => !isMark c) ++ DOT :: (B.filter fun c => !isMark c) := by
  induction A generalizing i with
  | nil =>
    simp only [List.nil_append, List.length_nil, Nat.add_zero, rebuild, show (x == DOT || x == COMMA) = true from hx,
      if_true, beq_self_eq_true, rebuild_past i B (i + 1) (by omega), List.filter_nil]
  | cons a r ih =>
    have hne : (i == i + (r.length + 1)) = false := beq_false_of_ne (by omega)
    have e : i + (r.length + 1) = (i + 1) + r.length := by omega
    simp only [List.cons_append, rebuild, List.length_cons, List.filter_cons, isMark, hne]
    rw [e, ih (i + 1)]
    cases (a == DOT || a == COMMA) <;> rfl

theorem digitByte_isDigit : ∀ d : G.Digit, Dec.isDigit (G.digitByte d) = true := by decide

theorem isDigit_ne {b c : UInt8} (h : Dec.isDigit b = true) (hc : Dec.isDigit c = false) : b ≠ c := by
  intro e; rw [e, hc] at h; cases h

def AllDigits (s : Bytes) : Prop := ∀ b ∈ s, Dec.isDigit b = true

theorem allDigits_digitsBytes (ds : List G.Digit) : AllDigits (G.digitsBytes ds) := by
  intro b hb
  obtain ⟨d, _, rfl⟩ := List.mem_map.1 hb
  exact digitByte_isDigit d

theorem AllDigits.not_mem {s : Bytes} (h : AllDigits s) {c : UInt8} (hc : Dec.isDigit c = false) : c ∉ s :=
  fun hm => isDigit_ne (h c hm) hc rfl

theorem AllDigits.append {a b : Bytes} (ha : AllDigits a) (hb : AllDigits b) : AllDigits (a ++ b) :=
  List.forall_mem_append.2 ⟨ha, hb⟩

theorem AllDigits.reverse {a : Bytes} (ha : AllDigits a) : AllDigits a.reverse :=
  fun x hx => ha x (List.mem_reverse.1 hx)

def NoMarks (s : Bytes) : Prop := ∀ b ∈ s, isMark b = false

theorem isMark_iff {c : UInt8} : isMark c = true ↔ c = DOT ∨ c = COMMA := by
  simp only [isMark, Bool.or_eq_true, beq_iff_eq]

theorem isMark_digit {b : UInt8} (h : Dec.isDigit b = true) : isMark b = false :=
  Bool.eq_false_iff.2 fun hm => by
    rcases isMark_iff.1 hm with e | e <;> exact isDigit_ne h (by decide) e

theorem AllDigits.noMarks {s : Bytes} (h : AllDigits s) : NoMarks s :=
  fun b hb => isMark_digit (h b hb)

theorem NoMarks.append {a b : Bytes} (ha : NoMarks a) (hb : NoMarks b) : NoMarks (a ++ b) :=
  List.forall_mem_append.2 ⟨ha, hb⟩

theorem NoMarks.filter {s : Bytes} (h : NoMarks s) : (s.filter fun c => !isMark c) = s := by
  rw [List.filter_eq_self]
  intro b hb
  simp [h b hb]

theorem NoMarks.not_mem {s : Bytes} (h : NoMarks s) {c : UInt8} (hc : isMark c = true) : c ∉ s :=
  fun hm => by rw [h c hm] at hc; cases hc

def hasNZ (X : Bytes) : Bool := X.any fun c => c != ZERO && c != MINUS

theorem hasNonZero_prefix (X Y : Bytes) : hasNonZero (X ++ Y) X.length = hasNZ X := by
  unfold hasNonZero hasNZ
  rw [List.take_left']
  rfl

theorem mantissa_plain (s : Bytes) (h : NoMarks s) : normalizeMantissa s = s := by
  simp [normalizeMantissa, countOf_eq, List.count_eq_zero_of_not_mem (h.not_mem (c := DOT) rfl),
    List.count_eq_zero_of_not_mem (h.not_mem (c := COMMA) rfl)]

theorem mantissa_single (X F : Bytes) (m : UInt8) (hm : isMark m = true) (hX : NoMarks X) (hF : NoMarks F) :
    normalizeMantissa (X ++ m :: F) =
      if X.length ≥ 1 ∧ F.length = 3 ∧ hasNZ X = true then X ++ F else X ++ DOT :: F := by
  have hl := lastOf_split m X F (hF.not_mem hm)
  have hcount : ∀ c, isMark c = true → (X ++ m :: F).count c = if m == c then 1 else 0 := fun c hc => by
    rw [List.count_append, List.count_cons, List.count_eq_zero_of_not_mem (hX.not_mem hc),
      List.count_eq_zero_of_not_mem (hF.not_mem hc), Nat.zero_add, Nat.zero_add]
  have hd := hcount DOT (by decide)
  have hc := hcount COMMA (by decide)
  have dot_ne_comma : DOT ≠ COMMA := by decide
  have h4 : (X ++ m :: F).length - X.length - 1 = F.length := by simp
  have ht : (X ++ m :: F).take X.length = X := List.take_left' rfl
  have hdr : (X ++ m :: F).drop (X.length + 1) = F := by
    rw [← List.drop_drop, List.drop_left' rfl]; rfl
  have hnz := hasNonZero_prefix X (m :: F)
  rcases isMark_iff.1 hm with rfl | rfl
  · generalize X ++ DOT :: F = s at *
    simp [normalizeMantissa, countOf_eq, hd, hc, hl, h4, ht, hdr, hnz, dot_ne_comma, and_assoc]
  · generalize X ++ COMMA :: F = s at *
    simp [normalizeMantissa, countOf_eq, hd, hc, hl, h4, ht, hdr, hnz, dot_ne_comma.symm, and_assoc]

theorem mantissa_many (s : Bytes) (m : UInt8) (hm : isMark m = true) (hk : s.count m ≥ 2)
    (ho : ∀ c ∈ s, isMark c = true → c = m) : normalizeMantissa s = s.filter fun c => !isMark c := by
  have hf : removeSeparator s m = s.filter fun c => !isMark c := by
    apply List.filter_congr
    intro x hx
    by_cases h : isMark x = true
    · simp [ho x hx h, hm]
    · have : x ≠ m := fun e => h (e ▸ hm)
      simp [h, this]
  have h0 : ∀ c, isMark c = true → c ≠ m → s.count c = 0 := fun c hc hne =>
    List.count_eq_zero_of_not_mem fun hmem => hne (ho c hmem hc)
  have e1 : (s.count m == 0) = false := beq_false_of_ne (by omega)
  have e2 : (s.count m == 1) = false := beq_false_of_ne (by omega)
  have e3 : ¬ s.count m ≤ 1 := by omega
  rw [← hf]
  rcases isMark_iff.1 hm with rfl | rfl
  · simp [normalizeMantissa, countOf_eq, h0 COMMA (by decide) (by decide), e1, e2, e3]
  · simp [normalizeMantissa, countOf_eq, h0 DOT (by decide) (by decide), e1, e2, e3]

theorem mantissa_mixed (A B F : Bytes) (m o : UInt8) (hm : isMark m = true) (ho : isMark o = true) (hne : o ≠ m)
    (hA : m ∉ A) (hB : NoMarks B) (hF : NoMarks F) :
    normalizeMantissa (A ++ o :: B ++ m :: F) = (A.filter fun c => !isMark c) ++ B ++ DOT :: F := by
  have hmB : m ∉ A ++ o :: B := by
    simp only [List.mem_append, List.mem_cons, not_or]
    exact ⟨hA, fun e => hne e.symm, hB.not_mem hm⟩
  have hlm : lastOf m (A ++ o :: B ++ m :: F) = (A ++ o :: B).length := lastOf_split m _ F (hF.not_mem hm)
  have hlo : lastOf o (A ++ o :: B ++ m :: F) = A.length := by
    rw [List.append_assoc, List.cons_append]
    apply lastOf_split
    simp only [List.mem_append, List.mem_cons, not_or]
    exact ⟨hB.not_mem ho, hne, hF.not_mem ho⟩
  have hcm : (A ++ o :: B ++ m :: F).count m = 1 := by
    rw [List.count_append, List.count_cons_self, List.count_eq_zero_of_not_mem hmB,
      List.count_eq_zero_of_not_mem (hF.not_mem hm)]
  have hco : (A ++ o :: B ++ m :: F).count o > 0 := List.count_pos_iff.2 (by simp)
  have hr := rebuild_split (A ++ o :: B) F m hm 0
  rw [Nat.zero_add, List.filter_append, List.filter_cons, hB.filter, hF.filter] at hr
  simp only [ho, Bool.not_true, Bool.false_eq_true, if_false] at hr
  rw [← hr]
  have hlen : A.length < (A ++ o :: B).length := by simp
  generalize (A ++ o :: B).length = n at *
  generalize A ++ o :: B ++ m :: F = s at *
  have e0 : (s.count o == 0) = false := beq_false_of_ne (by omega)
  rcases isMark_iff.1 hm with rfl | rfl <;> rcases isMark_iff.1 ho with rfl | rfl
  · exact absurd rfl hne
  · simp [normalizeMantissa, countOf_eq, hcm, hlm, hlo, e0, hco, hlen, Nat.lt_asymm hlen]
  · simp [normalizeMantissa, countOf_eq, hcm, hlm, hlo, e0, hco, hlen]
  · exact absurd rfl hne

theorem groupRev_long (g a b c : UInt8) (t : Bytes) (ht : t ≠ []) :
    G.groupRev g (a :: b :: c :: t) = a :: b :: c :: g :: G.groupRev g t := by
  cases t with
  | nil => exact absurd rfl ht
  | cons x r => simp [G.groupRev]

theorem filter_groupRev (p : UInt8 → Bool) (g : UInt8) (R : Bytes) (hg : p g = false)
    (hR : ∀ b ∈ R, p b = true) : (G.groupRev g R).filter p = R := by
  induction R using G.groupRev.induct with
  | case1 a b c t ht =>
    cases List.isEmpty_iff.1 ht
    exact List.filter_eq_self.2 hR
  | case2 a b c t ht ih =>
    simp only [G.groupRev, ht]
    simp only [List.mem_cons, forall_eq_or_imp] at hR
    simp only [List.filter_cons, hR.1, hR.2.1, hR.2.2.1, hg, if_true, Bool.false_eq_true, if_false, ih hR.2.2.2]
  | case3 l hl =>
    rw [show G.groupRev g l = l by unfold G.groupRev; split; exact (hl _ _ _ _ rfl).elim; rfl]
    exact List.filter_eq_self.2 hR

theorem renderInt_filter (p : UInt8 → Bool) (g : UInt8) (ds : List G.Digit) (hg : p g = false)
    (hd : ∀ b, Dec.isDigit b = true → p b = true) :
    (G.renderInt (some g) ds).filter p = G.digitsBytes ds := by
  simp only [G.renderInt, List.filter_reverse]
  rw [filter_groupRev p g _ hg fun b hb => hd b (allDigits_digitsBytes ds b (List.mem_reverse.1 hb)),
    List.reverse_reverse]

theorem renderInt_mem (g x : UInt8) (ds : List G.Digit) (hg : Dec.isDigit g = false)
    (h : x ∈ G.renderInt (some g) ds) : Dec.isDigit x = true ∨ x = g := by
  by_cases hx : x = g
  · exact Or.inr hx
  · have := List.mem_filter (p := (· != g)).2 ⟨h, bne_iff_ne.2 hx⟩
    rw [renderInt_filter _ g ds (by simp) fun b hb => bne_iff_ne.2 (isDigit_ne hb hg)] at this
    exact Or.inl (allDigits_digitsBytes ds x this)

theorem renderInt_short (g : UInt8) (ds : List G.Digit) (h : ds.length ≤ 3) :
    G.renderInt (some g) ds = G.digitsBytes ds := by
  have : G.groupRev g (G.digitsBytes ds).reverse = (G.digitsBytes ds).reverse := by
    match ds, h with
    | [], _ | [_], _ | [_, _], _ | [_, _, _], _ => rfl
  simp only [G.renderInt, this, List.reverse_reverse]

theorem renderInt_long (g : UInt8) (ts ls : List G.Digit) (hts : ts ≠ []) (hls : ls.length = 3) :
    G.renderInt (some g) (ts ++ ls) = G.renderInt (some g) ts ++ g :: G.digitsBytes ls := by
  match ls, hls with
  | [x, y, z], _ =>
    have hne : (G.digitsBytes ts).reverse ≠ [] := by
      cases ts with
      | nil => exact absurd rfl hts
      | cons _ _ => simp [G.digitsBytes]
    simp only [G.renderInt, G.digitsBytes, List.map_append, List.reverse_append, List.map_cons, List.map_nil,
      List.reverse_cons, List.reverse_nil, List.nil_append, List.cons_append]
    rw [groupRev_long g _ _ _ _ (by simpa [G.digitsBytes] using hne)]
    simp

theorem digitByte_val : ∀ d : G.Digit, (G.digitByte d).toNat - 48 = d.val := by decide

theorem parseNatAux_digits (ds : List G.Digit) (acc : Nat) :
    Dec.parseNatAux (G.digitsBytes ds) acc = some (ds.foldl (fun a d => a * 10 + d.val) acc) := by
  induction ds generalizing acc with
  | nil => rfl
  | cons d r ih =>
    simp only [G.digitsBytes, List.map_cons, Dec.parseNatAux, digitByte_isDigit d, if_true, digitByte_val d,
      List.foldl_cons]
    exact ih _

theorem parseNat_digits (ds : List G.Digit) (h : ds ≠ []) :
    Dec.parseNat (G.digitsBytes ds) = some (G.natOf ds) := by
  cases ds with
  | nil => exact absurd rfl h
  | cons d r => exact parseNatAux_digits (d :: r) 0

theorem digitsBytes_append (a b : List G.Digit) : G.digitsBytes (a ++ b) = G.digitsBytes a ++ G.digitsBytes b :=
  List.map_append

theorem parseInt_digits (sign : Bytes) (ds : List G.Digit) (h : ds ≠ [])
    (hs : sign = [] ∨ sign = [43] ∨ sign = [45]) :
    Dec.parseInt (sign ++ G.digitsBytes ds) =
      some (if sign = [45] then -(G.natOf ds : Int) else (G.natOf ds : Int)) := by
  rcases hs with rfl | rfl | rfl
  · cases ds with
    | nil => exact absurd rfl h
    | cons d r =>
      have hd := digitByte_isDigit d
      have h1 : (G.digitByte d == 43) = false := beq_false_of_ne (isDigit_ne hd (by decide))
      have h2 : (G.digitByte d == 45) = false := beq_false_of_ne (isDigit_ne hd (by decide))
      have := parseNat_digits (d :: r) h
      simp only [G.digitsBytes, List.map_cons] at this
      simp [G.digitsBytes, Dec.parseInt, h1, h2, this]
  · simp [Dec.parseInt, parseNat_digits ds h]
  · simp [Dec.parseInt, parseNat_digits ds h]

theorem splitAt1_append (p : UInt8 → Bool) (M R : Bytes) (hM : ∀ b ∈ M, p b = false)
    (hR : ∀ c ∈ R.head?, p c = true) : Dec.splitAt1 p (M ++ R) = (M, R.tail?) := by
  induction M with
  | nil =>
    cases R with
    | nil => rfl
    | cons c r => simp only [List.nil_append, Dec.splitAt1, hR c rfl, if_true, List.tail?_cons]
  | cons x r ih =>
    simp only [List.cons_append, Dec.splitAt1, hM x List.mem_cons_self, Bool.false_eq_true, if_false,
      ih fun b hb => hM b (List.mem_cons_of_mem _ hb)]

theorem foldl_base10 {α} (f : α → Nat) (l : List α) (A : Nat) :
    l.foldl (fun a x => a * 10 + f x) A = A * 10 ^ l.length + l.foldl (fun a x => a * 10 + f x) 0 := by
  induction l generalizing A with
  | nil => simp
  | cons d r ih =>
    rw [List.foldl_cons, ih, List.foldl_cons, ih (0 * 10 + f d), List.length_cons, Nat.pow_succ, Nat.zero_mul,
      Nat.zero_add, Nat.add_mul, Nat.mul_assoc, Nat.mul_comm 10, Nat.add_assoc]

theorem natOf_append (a b : List G.Digit) : G.natOf (a ++ b) = G.natOf a * 10 ^ b.length + G.natOf b := by
  unfold G.natOf
  rw [List.foldl_append, foldl_base10]

def signBytes (neg : Bool) : Bytes := if neg then [MINUS] else []

def expSignBytes (e : G.Exponent) : Bytes := match e.sign with | .none => [] | .plus => [43] | .minus => [45]

theorem renderExp_some (e : G.Exponent) :
    G.renderExp (some e) = (if e.upper then 69 else 101) :: (expSignBytes e ++ G.digitsBytes e.digits) := rfl

theorem renderExp_head (exp : Option G.Exponent) : ∀ c ∈ (G.renderExp exp).head?, isE c = true := by
  cases exp with
  | none => simp [G.renderExp]
  | some e => cases h : e.upper <;> simp [renderExp_some, h, isE]

theorem parseExp_render (exp : Option G.Exponent)
    (hexp : ∀ e, exp = some e → e.digits ≠ [] ∧ G.natOf e.digits ≤ 2147483647) :
    Dec.parseExp (G.renderExp exp).tail? = some (G.expValue exp) := by
  cases exp with
  | none => rfl
  | some e =>
    obtain ⟨h1, h2⟩ := hexp e rfl
    obtain ⟨up, sg, digits⟩ := e
    have hv : Dec.parseInt (expSignBytes ⟨up, sg, digits⟩ ++ G.digitsBytes digits) =
        some (G.expValue (some ⟨up, sg, digits⟩)) := by
      rw [parseInt_digits _ _ h1 (by cases sg <;> simp [expSignBytes])]
      cases sg <;> simp [expSignBytes, G.expValue]
    have hb : ¬ (G.expValue (some ⟨up, sg, digits⟩) < Dec.int32Min ∨
        G.expValue (some ⟨up, sg, digits⟩) > Dec.int32Max) := by
      simp only [G.expValue, Dec.int32Min, Dec.int32Max] at h2 ⊢
      cases sg <;> simp only <;> omega
    simp only [renderExp_some, List.tail?_cons, Dec.parseExp, hv, hb, if_false]

def fracBytes (hasMark : Bool) (fs : List G.Digit) : Bytes := if hasMark then DOT :: G.digitsBytes fs else []

theorem mem_signBytes {neg : Bool} {b : UInt8} (h : b ∈ signBytes neg) : b = MINUS := by
  cases neg
  · cases h
  · exact List.mem_singleton.1 h

theorem noMarks_sign (neg : Bool) : NoMarks (signBytes neg) := fun b hb => by
  rw [mem_signBytes hb]; rfl

theorem ofMantissa_canon (neg : Bool) (ds fs : List G.Digit) (hasMark : Bool) (e0 : Int)
    (hds : ds ≠ []) (hm : hasMark = false → fs = [])
    (hlo : Dec.int32Min ≤ e0 - (fs.length : Int)) (hhi : e0 - (fs.length : Int) ≤ Dec.int32Max) :
    Dec.ofMantissa (signBytes neg ++ G.digitsBytes ds ++ fracBytes hasMark fs) e0 =
      some ⟨(if neg then -(G.natOf (ds ++ fs) : Int) else (G.natOf (ds ++ fs) : Int)), e0 - fs.length⟩ := by
  have hX : NoMarks (signBytes neg ++ G.digitsBytes ds) :=
    (noMarks_sign neg).append (allDigits_digitsBytes ds).noMarks
  have hsplit : Dec.splitAt1 (· == 46) (signBytes neg ++ G.digitsBytes ds ++ fracBytes hasMark fs) =
      (signBytes neg ++ G.digitsBytes ds, (fracBytes hasMark fs).tail?) :=
    splitAt1_append _ _ _ (fun b hb => beq_false_of_ne fun e => hX.not_mem (c := 46) rfl (e ▸ hb))
      (by cases hasMark <;> simp [fracBytes, DOT])
  have hF : (fracBytes hasMark fs).tail?.getD [] = G.digitsBytes fs := by
    cases hasMark
    · rw [hm rfl]; rfl
    · rfl
  have hcount : ¬ (signBytes neg ++ G.digitsBytes ds ++ fracBytes hasMark fs).count 46 > 1 := by
    rw [List.count_append, List.count_eq_zero_of_not_mem (hX.not_mem (c := 46) rfl), Nat.zero_add]
    cases hasMark
    · exact Nat.not_succ_le_zero 1
    · show ¬ List.count DOT (DOT :: G.digitsBytes fs) > 1
      rw [List.count_cons_self,
        List.count_eq_zero_of_not_mem ((allDigits_digitsBytes fs).noMarks.not_mem (c := DOT) rfl)]
      exact Nat.lt_irrefl 1
  have hparse : Dec.parseInt (signBytes neg ++ G.digitsBytes ds ++ G.digitsBytes fs) =
      some (if neg then -(G.natOf (ds ++ fs) : Int) else (G.natOf (ds ++ fs) : Int)) := by
    rw [List.append_assoc, ← digitsBytes_append]
    have hne : ds ++ fs ≠ [] := by simp [hds]
    cases neg
    · exact parseInt_digits [] _ hne (Or.inl rfl)
    · exact parseInt_digits [45] _ hne (Or.inr (Or.inr rfl))
  have hr : ¬ (e0 - (fs.length : Int) < Dec.int32Min ∨ e0 - (fs.length : Int) > Dec.int32Max) := by omega
  have hl : (G.digitsBytes fs).length = fs.length := List.length_map _
  simp only [Dec.ofMantissa, hcount, if_false, hsplit, hF, hparse, hl, hr]

theorem isE_mantissa {b : UInt8} (h : Dec.isDigit b = true ∨ isMark b = true ∨ b = MINUS) : isE b = false := by
  have : b ≠ 69 ∧ b ≠ 101 := by
    rcases h with h | h | rfl
    · exact ⟨isDigit_ne h (by decide), isDigit_ne h (by decide)⟩
    · rcases isMark_iff.1 h with rfl | rfl <;> decide
    · decide
  simp [isE, this]

theorem ofString_canon (neg : Bool) (ds fs : List G.Digit) (hasMark : Bool) (exp : Option G.Exponent)
    (hds : ds ≠ []) (hm : hasMark = false → fs = [])
    (hexp : ∀ e, exp = some e → e.digits ≠ [] ∧ G.natOf e.digits ≤ 2147483647)
    (hlo : Dec.int32Min ≤ G.expValue exp - (fs.length : Int)) (hhi : G.expValue exp - (fs.length : Int) ≤ Dec.int32Max) :
    Dec.ofString (signBytes neg ++ G.digitsBytes ds ++ fracBytes hasMark fs ++ G.renderExp exp) =
      some ⟨(if neg then -(G.natOf (ds ++ fs) : Int) else (G.natOf (ds ++ fs) : Int)), G.expValue exp - fs.length⟩ := by
  have hM : ∀ b ∈ signBytes neg ++ G.digitsBytes ds ++ fracBytes hasMark fs, Dec.isE b = false := by
    intro b hb
    apply isE_mantissa
    simp only [List.mem_append] at hb
    rcases hb with (hb | hb) | hb
    · exact Or.inr (Or.inr (mem_signBytes hb))
    · exact Or.inl (allDigits_digitsBytes ds b hb)
    · cases hasMark
      · cases hb
      · rcases List.mem_cons.1 hb with rfl | hb
        · exact Or.inr (Or.inl rfl)
        · exact Or.inl (allDigits_digitsBytes fs b hb)
  have hsplit := splitAt1_append Dec.isE _ (G.renderExp exp) hM (renderExp_head exp)
  simp only [Dec.ofString, hsplit, parseExp_render exp hexp]
  exact ofMantissa_canon neg ds fs hasMark _ hds hm hlo hhi

theorem toRat_canon (neg : Bool) (ds fs : List G.Digit) (e0 : Int) :
    Dec.toRat ⟨(if neg then -(G.natOf (ds ++ fs) : Int) else (G.natOf (ds ++ fs) : Int)), e0 - fs.length⟩ =
      (if neg then -(((G.natOf ds : Rat) + (G.natOf fs : Rat) / (10 : Rat) ^ fs.length) * (10 : Rat) ^ e0)
       else ((G.natOf ds : Rat) + (G.natOf fs : Rat) / (10 : Rat) ^ fs.length) * (10 : Rat) ^ e0) := by
  have h : Dec.toRat ⟨(G.natOf (ds ++ fs) : Int), e0 - fs.length⟩ =
      ((G.natOf ds : Rat) + (G.natOf fs : Rat) / (10 : Rat) ^ fs.length) * (10 : Rat) ^ e0 := by
    rw [natOf_append]; exact Dec.toRat_split _ _ _ _
  cases neg
  · exact h
  · exact (Dec.neg_exact ⟨_, _⟩).trans (congrArg _ h)

theorem natOf_cons (d : G.Digit) (r : List G.Digit) : G.natOf (d :: r) = d.val * 10 ^ r.length + G.natOf r := by
  have := natOf_append [d] r
  simpa [G.natOf] using this

theorem natOf_eq_zero (ds : List G.Digit) (h : G.natOf ds = 0) : ∀ d ∈ ds, d = 0 := by
  induction ds with
  | nil => intro d hd; cases hd
  | cons x r ih =>
    rw [natOf_cons, Nat.add_eq_zero_iff, Nat.mul_eq_zero] at h
    intro d hd
    rcases List.mem_cons.1 hd with rfl | hd
    · exact Fin.ext (h.1.resolve_right (Nat.ne_of_gt (Nat.pow_pos (by decide))))
    · exact ih h.2 d hd

theorem hasNZ_false_of_zero (neg : Bool) (ds : List G.Digit) (h : G.natOf ds = 0) :
    hasNZ (signBytes neg ++ G.digitsBytes ds) = false := by
  unfold hasNZ
  rw [List.any_eq_false]
  intro x hx
  rcases List.mem_append.1 hx with hx | hx
  · rw [mem_signBytes hx]; decide
  · obtain ⟨d, hd, rfl⟩ := List.mem_map.1 hx
    rw [natOf_eq_zero ds h d hd]; decide

theorem digitByte_nonzero : ∀ d : G.Digit, d ≠ 0 → G.digitByte d ≠ ZERO := by decide

theorem hasNZ_of_head (neg : Bool) (ds : List G.Digit) (hne : ds ≠ []) (hhead : ds.head? ≠ some 0) :
    hasNZ (signBytes neg ++ G.digitsBytes ds) = true := by
  cases ds with
  | nil => exact absurd rfl hne
  | cons d r =>
    have h1 := digitByte_nonzero d fun e => hhead (e ▸ rfl)
    have h2 : G.digitByte d ≠ MINUS := isDigit_ne (digitByte_isDigit d) (by decide)
    simp [hasNZ, G.digitsBytes, h1, h2]

theorem mantissa_soft (neg : Bool) (ds fs : List G.Digit) (mark : Option UInt8)
    (hnone : mark.isSome = false → fs = []) (hsome : ∀ m, mark = some m → isMark m = true)
    (hA : mark.isSome = true → fs.length = 3 → G.natOf ds = 0) :
    normalizeMantissa (signBytes neg ++ G.digitsBytes ds ++ G.renderFrac mark fs) =
      signBytes neg ++ G.digitsBytes ds ++ fracBytes mark.isSome fs := by
  have hX : NoMarks (signBytes neg ++ G.digitsBytes ds) :=
    (noMarks_sign neg).append (allDigits_digitsBytes ds).noMarks
  cases mark with
  | none =>
    cases hnone rfl
    simp only [G.renderFrac, fracBytes, Option.isSome_none, Bool.false_eq_true, if_false, List.append_nil]
    exact mantissa_plain _ hX
  | some m =>
    rw [G.renderFrac, mantissa_single _ _ m (hsome m rfl) hX (allDigits_digitsBytes fs).noMarks, if_neg]
    · rfl
    · rintro ⟨_, h3, hnz⟩
      rw [hasNZ_false_of_zero neg ds (hA rfl (by simpa [G.digitsBytes] using h3))] at hnz
      cases hnz

theorem mantissa_hard (neg : Bool) (ts ls fs : List G.Digit) (g : UInt8) (mark : Option UInt8)
    (hg : isMark g = true) (hts : ts ≠ []) (hls : ls.length = 3) (hhead : ts.head? ≠ some 0)
    (hnone : mark.isSome = false → fs = []) (hsome : ∀ m, mark = some m → isMark m = true ∧ m ≠ g) :
    normalizeMantissa (signBytes neg ++ G.renderInt (some g) (ts ++ ls) ++ G.renderFrac mark fs) =
      signBytes neg ++ G.digitsBytes (ts ++ ls) ++ fracBytes mark.isSome fs := by
  have hgd : Dec.isDigit g = false := by rcases isMark_iff.1 hg with rfl | rfl <;> rfl
  have hL := (allDigits_digitsBytes ls).noMarks
  have hF := (allDigits_digitsBytes fs).noMarks
  have hmem : ∀ x ∈ signBytes neg ++ G.renderInt (some g) ts, isMark x = true → x = g := by
    intro x hx hm
    rcases List.mem_append.1 hx with h | h
    · rw [noMarks_sign neg x h] at hm; cases hm
    · rcases renderInt_mem g x ts hgd h with h | h
      · rw [isMark_digit h] at hm; cases hm
      · exact h
  have hfilt : (signBytes neg ++ G.renderInt (some g) ts).filter (fun c => !isMark c) =
      signBytes neg ++ G.digitsBytes ts := by
    rw [List.filter_append, (noMarks_sign neg).filter,
      renderInt_filter _ g ts (by simp [hg]) fun b hb => by simp [isMark_digit hb]]
  rw [renderInt_long g ts ls hts hls, digitsBytes_append, ← List.append_assoc, ← List.append_assoc]
  cases mark with
  | none =>
    cases hnone rfl
    simp only [G.renderFrac, fracBytes, Option.isSome_none, Bool.false_eq_true, if_false, List.append_nil]
    by_cases hgI : g ∈ G.renderInt (some g) ts
    · -- two or more group marks
      rw [mantissa_many _ g hg, List.filter_append, hfilt, List.filter_cons, hL.filter]
      · simp [hg]
      · rw [List.count_append, List.count_cons_self]
        have := List.count_pos_iff.2 (List.mem_append_right (signBytes neg) hgI)
        omega
      · intro c hc hm
        rcases List.mem_append.1 hc with h | h
        · exact hmem c h hm
        · rcases List.mem_cons.1 h with h | h
          · exact h
          · rw [hL c h] at hm; cases hm
    · -- one group mark
      have hN : NoMarks (signBytes neg ++ G.renderInt (some g) ts) := fun x hx =>
        Bool.eq_false_iff.2 fun hm => hgI (by
          have := hmem x hx hm
          subst this
          exact (List.mem_append.1 hx).resolve_left fun h => by rw [noMarks_sign neg _ h] at hm; cases hm)
      rw [hN.filter] at hfilt
      rw [hfilt, mantissa_single _ _ g hg (hfilt ▸ hN) hL, if_pos]
      exact ⟨List.length_pos_iff.2 (by simp [G.digitsBytes, hts]), by simpa [G.digitsBytes] using hls,
        hasNZ_of_head neg ts hts hhead⟩
  | some m =>
    obtain ⟨hm, hne⟩ := hsome m rfl
    have := mantissa_mixed (signBytes neg ++ G.renderInt (some g) ts) (G.digitsBytes ls) (G.digitsBytes fs) m g
      hm hg (Ne.symm hne) (fun h => hne (hmem m h hm)) hL hF
    rw [hfilt] at this
    exact this

theorem stripBlanks_eq_self (s : Bytes) (h : SPACE ∉ s) : stripBlanks s = s :=
  List.filter_eq_self.2 fun _ hx => bne_iff_ne.2 fun e => h (e ▸ hx)

theorem stripBlanks_append (a b : Bytes) : stripBlanks (a ++ b) = stripBlanks a ++ stripBlanks b :=
  List.filter_append ..

theorem splitExp_append (M R : Bytes) (hM : ∀ b ∈ M, isE b = false) (hR : ∀ c ∈ R.head?, isE c = true) :
    splitExp (M ++ R) = (M, R) := by
  induction M with
  | nil =>
    cases R with
    | nil => rfl
    | cons c r => simp only [List.nil_append, splitExp, hR c rfl, if_true]
  | cons x r ih =>
    simp only [List.cons_append, splitExp, hM x List.mem_cons_self, Bool.false_eq_true, if_false,
      ih fun b hb => hM b (List.mem_cons_of_mem _ hb)]

theorem renderExp_no_blank (exp : Option G.Exponent) : SPACE ∉ G.renderExp exp := by
  cases exp with
  | none => exact List.not_mem_nil
  | some e =>
    obtain ⟨up, sg, digits⟩ := e
    have := (allDigits_digitsBytes digits).not_mem (c := SPACE) rfl
    cases up <;> cases sg <;> simpa [renderExp_some, expSignBytes, SPACE] using this

theorem signed_eq (neg : Bool) (I rest : Bytes) (hne : I ≠ []) (hI : MINUS ∉ I) :
    signed neg (I ++ rest) = signBytes neg ++ (I ++ rest) := by
  cases I with
  | nil => exact absurd rfl hne
  | cons y ys =>
    have : y ≠ MINUS := fun e => hI (e ▸ List.mem_cons_self)
    cases neg <;> simp [signed, signBytes, this]

theorem renderInt_wf (group : Option UInt8) (ds : List G.Digit) (hds : ds ≠ [])
    (hgroup : ∀ g, group = some g → isMark g = true ∨ g = SPACE) :
    G.renderInt group ds ≠ [] ∧
    (∀ x ∈ G.renderInt group ds, Dec.isDigit x = true ∨ isMark x = true ∨ x = SPACE) ∧
    ((stripBlanks (G.renderInt group ds) = G.digitsBytes ds ∧
        (group.isSome && decide (ds.length > 3) && group != some SPACE) = false) ∨
      ∃ g, group = some g ∧ isMark g = true ∧ ds.length > 3 ∧
        stripBlanks (G.renderInt group ds) = G.renderInt group ds) := by
  have hD := allDigits_digitsBytes ds
  have hDne : G.digitsBytes ds ≠ [] := by simpa [G.digitsBytes] using hds
  have hplain := stripBlanks_eq_self _ (hD.not_mem (c := SPACE) rfl)
  cases group with
  | none => exact ⟨hDne, fun x hx => Or.inl (hD x hx), Or.inl ⟨hplain, rfl⟩⟩
  | some g =>
    have hgd : Dec.isDigit g = false := by
      rcases hgroup g rfl with h | rfl
      · exact Bool.eq_false_iff.2 fun hd => by rw [isMark_digit hd] at h; cases h
      · rfl
    have hfilt := renderInt_filter (· != g) g ds (by simp) fun b hb => bne_iff_ne.2 (isDigit_ne hb hgd)
    refine ⟨fun e => hDne (by rw [← hfilt, e]; rfl),
      fun x hx => (renderInt_mem g x ds hgd hx).imp_right fun (e : x = g) => e ▸ hgroup g rfl, ?_⟩
    by_cases hlen : ds.length ≤ 3
    · rw [renderInt_short g ds hlen]
      exact Or.inl ⟨hplain, by simp [Nat.not_lt.2 hlen]⟩
    · rcases hgroup g rfl with hg | rfl
      · refine Or.inr ⟨g, rfl, hg, Nat.lt_of_not_le hlen, stripBlanks_eq_self _ fun hm => ?_⟩
        rcases renderInt_mem g SPACE ds hgd hm with h | h
        · cases h
        · rw [← h] at hg; cases hg
      · exact Or.inl ⟨hfilt, by simp⟩

theorem wf_parts {n : G.Number} (h : G.wf n = true) :
    n.intDigits ≠ [] ∧ (∀ g, n.group = some g → isMark g = true ∨ g = SPACE) ∧
    (n.mark.isSome = false → n.frac = []) ∧ (∀ m, n.mark = some m → isMark m = true) ∧
    (∀ g, n.group = some g → n.mark ≠ some g) ∧ (G.grouped n = true → n.intDigits.head? ≠ some 0) ∧
    (∀ e, n.exp = some e → e.digits ≠ [] ∧ G.natOf e.digits ≤ 2147483647) ∧
    -1000 ≤ G.expValue n.exp - (n.frac.length : Int) ∧ G.expValue n.exp - (n.frac.length : Int) ≤ 1000 := by
  simp only [G.wf, Bool.and_eq_true, decide_eq_true_eq] at h
  obtain ⟨⟨⟨⟨⟨⟨⟨w1, w2⟩, w3⟩, w4⟩, w5⟩, w6⟩, w7⟩, w8⟩ := h
  refine ⟨w1, ?_, ?_, ?_, ?_, ?_, ?_, w7, w8⟩
  · intro g hg; rw [hg] at w2; simpa [isMark, DOT, COMMA, SPACE, or_comm, or_assoc] using w2
  · intro hm; cases hk : n.mark with
    | none => rw [hk] at w3; simpa using w3
    | some m => rw [hk] at hm; cases hm
  · intro m hm; rw [hm] at w3; simpa [isMark, DOT, COMMA] using w3
  · intro g hg hm; rw [hg, hm] at w4; simp at w4
  · intro hg; simpa [hg] using w5
  · intro e he; rw [he] at w6; simpa using w6

/-- the string `NewFromString` receives for a well-formed notation. -/
def canon (n : G.Number) : Bytes :=
  signBytes n.neg ++ G.digitsBytes n.intDigits ++ fracBytes n.mark.isSome n.frac ++ G.renderExp n.exp

theorem prepare_render (n : G.Number) (hwf : G.wf n = true) (hA : G.shapeA n = false) :
    prepare n.neg (G.render n) = canon n := by
  obtain ⟨w1, hgroup, hnone, hsome, w4, w5, _⟩ := wf_parts hwf
  obtain ⟨neg, ds, group, mark, fs, exp⟩ := n
  obtain ⟨hIne, hI, hJ⟩ := renderInt_wf group ds w1 hgroup
  have hFr : ∀ x ∈ G.renderFrac mark fs, Dec.isDigit x = true ∨ isMark x = true := by
    intro x hx
    cases mark with
    | none => cases hx
    | some m =>
      rcases List.mem_cons.1 hx with rfl | h
      · exact Or.inr (hsome _ rfl)
      · exact Or.inl (allDigits_digitsBytes fs x h)
  have hmant : normalizeMantissa (signBytes neg ++ stripBlanks (G.renderInt group ds) ++ G.renderFrac mark fs) =
      signBytes neg ++ G.digitsBytes ds ++ fracBytes mark.isSome fs := by
    rcases hJ with ⟨hs, hh⟩ | ⟨g, rfl, hg, hlen, hs⟩
    · rw [hs]
      refine mantissa_soft neg ds fs mark hnone hsome fun hm h3 => ?_
      have : G.hardGrouped ⟨neg, ds, group, mark, fs, exp⟩ = false := hh
      simpa [G.shapeA, this, hm, h3] using hA
    · rw [hs, ← List.take_append_drop (ds.length - 3) ds]
      have hts : ds.take (ds.length - 3) ≠ [] := fun e => by
        have := congrArg List.length e
        simp at this; omega
      refine mantissa_hard neg _ _ fs g mark hg hts (by simp; omega) ?_ hnone ?_
      · rw [List.head?_take, if_neg (by omega)]
        exact w5 (by simp [G.grouped, hlen])
      · exact fun m hm => ⟨hsome m hm, fun e => w4 g rfl (e ▸ hm)⟩
  have hME : ∀ b ∈ signBytes neg ++ stripBlanks (G.renderInt group ds) ++ G.renderFrac mark fs, isE b = false := by
    intro b hb
    apply isE_mantissa
    simp only [List.mem_append] at hb
    rcases hb with (hb | hb) | hb
    · exact Or.inr (Or.inr (mem_signBytes hb))
    · obtain ⟨h1, h2⟩ := List.mem_filter.1 hb
      rcases hI b h1 with h | h | rfl
      · exact Or.inl h
      · exact Or.inr (Or.inl h)
      · simp at h2
    · exact (hFr b hb).imp_right Or.inl
  have hstrip : stripBlanks (signBytes neg ++ G.render ⟨neg, ds, group, mark, fs, exp⟩) =
      signBytes neg ++ stripBlanks (G.renderInt group ds) ++ G.renderFrac mark fs ++ G.renderExp exp := by
    simp only [G.render, stripBlanks_append, List.append_assoc]
    rw [stripBlanks_eq_self (signBytes neg) (fun h => by cases mem_signBytes h),
      stripBlanks_eq_self (G.renderFrac mark fs) (fun h => by rcases hFr _ h with h | h <;> cases h),
      stripBlanks_eq_self _ (renderExp_no_blank exp)]
  have hsigned : signed neg (G.render ⟨neg, ds, group, mark, fs, exp⟩) =
      signBytes neg ++ G.render ⟨neg, ds, group, mark, fs, exp⟩ := by
    rw [G.render, List.append_assoc]
    exact signed_eq neg _ _ hIne fun h => by rcases hI _ h with h | h | h <;> cases h
  rw [prepare, hsigned, hstrip, normalizeNumber, splitExp_append _ _ hME (renderExp_head exp)]
  exact congrArg (· ++ G.renderExp exp) hmant

end Num
end HL
