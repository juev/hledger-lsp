import HL.Lemmas.LexGCoreL
/-!
  The bytes of a printed `GCore` journal: every line consists of digits, letters, blanks and
  `- . :` only (`coreByte`: ASCII, no line end, no double quote) and ends in a word.  Used for the
  line structure of the text (HL/Lemmas/FormatGCore.lean) and for its CR LF form
  (HL/Lemmas/GCoreCrlf.lean).  Built on the well-formedness facts of HL/Lemmas/LexGCoreL.lean.
-/
namespace HL.GCore
open HL HL.Lex

/-- a byte of a line of the core grammar -/
def coreByte (c : UInt8) : Bool :=
  isDigitB c || isLowerB c || isUpperB c || c == 0x20 || c == 0x2D || c == 0x2E || c == 0x3A

/-- a byte of a word: not a blank -/
def inkByte (c : UInt8) : Bool :=
  isDigitB c || isLowerB c || isUpperB c || c == 0x2D || c == 0x2E || c == 0x3A

theorem coreByte_eq (c : UInt8) : coreByte c = (inkByte c || c == 0x20) := by
  unfold coreByte inkByte; ac_rfl

theorem inkByte_facts : ∀ c : UInt8, (!inkByte c ||
    (decide (c < 0x80) && c != 0x0A && c != 0x0D && c != 0x22 && !isBlank c)) = true :=
  forall_uint8 _ (by decide +kernel)

theorem coreByte_spec {c : UInt8} (h : coreByte c = true) : c < 0x80 ∧ c ≠ 0x0A ∧ c ≠ 0x0D ∧ c ≠ 0x22 := by
  rcases Bool.or_eq_true _ _ |>.mp (coreByte_eq c ▸ h) with h | h
  · have := inkByte_facts c
    simp only [h, Bool.not_true, Bool.false_or, Bool.and_eq_true, decide_eq_true_eq, bne_iff_ne, ne_eq] at this
    exact ⟨this.1.1.1.1, this.1.1.1.2, this.1.1.2, this.1.2⟩
  · rw [beq_iff_eq.mp h]; decide

theorem inkByte_spec {c : UInt8} (h : inkByte c = true) : coreByte c = true ∧ isBlank c = false := by
  have := inkByte_facts c
  simp only [h, Bool.not_true, Bool.false_or, Bool.and_eq_true, Bool.not_eq_true'] at this
  exact ⟨by rw [coreByte_eq, h, Bool.true_or], this.2⟩

theorem ink_digit {c : UInt8} (h : isDigitB c = true) : inkByte c = true := by simp [inkByte, h]
theorem ink_lower {c : UInt8} (h : isLowerB c = true) : inkByte c = true := by simp [inkByte, h]
theorem ink_upper {c : UInt8} (h : isUpperB c = true) : inkByte c = true := by simp [inkByte, h]

theorem core_blank : coreByte 0x20 = true := by decide

theorem joinWith_bytes {P : UInt8 → Prop} {sep : UInt8} {ws : List Bytes} (hs : P sep)
    (hw : ∀ w ∈ ws, ∀ c ∈ w, P c) : ∀ c ∈ joinWith sep ws, P c := by
  intro c hc
  rcases mem_joinWith hc with h | ⟨w, hw', hcw⟩
  · rw [h]; exact hs
  · exact hw w hw' c hcw

theorem acct_ink {p : Posting} (hp : p.wf = true) : p.acct ≠ [] ∧ ∀ c ∈ p.acct, inkByte c = true := by
  obtain ⟨⟨c, t, hc, _⟩, hb, _⟩ := Posting.wf_spec hp
  exact ⟨by rw [hc]; exact List.cons_ne_nil _ _, fun c hc => (hb c hc).elim ink_lower (fun h => h ▸ by decide)⟩

theorem signNum_ink {a : Amount} (h : a.wf = true) :
    a.signText ++ a.numText ≠ [] ∧ ∀ c ∈ a.signText ++ a.numText, inkByte c = true := by
  obtain ⟨⟨c, t, hc, _⟩, hb⟩ := numText_spec h
  refine ⟨by rw [hc]; exact List.append_ne_nil_of_right_ne_nil _ (List.cons_ne_nil _ _), fun c hc => ?_⟩
  rcases List.mem_append.mp hc with hc | hc
  · unfold Amount.signText at hc
    split at hc
    · rw [List.mem_singleton.mp hc]; decide
    · cases hc
  · exact (hb c hc).elim ink_digit (fun h => h ▸ by decide)

theorem com_ink {a : Amount} (h : a.wf = true) {w : Bytes} (hw : a.com = some w) :
    w ≠ [] ∧ ∀ c ∈ w, inkByte c = true :=
  ⟨((Amount.wf_spec h).2.2 w hw).1, fun c hc => ink_upper (((Amount.wf_spec h).2.2 w hw).2 c hc)⟩

/-- the last word of an amount: `print = m ++ w`, `w` non-empty without blanks -/
theorem amount_tail {a : Amount} (h : a.wf = true) :
    ∃ m w, a.print = m ++ w ∧ w ≠ [] ∧ (∀ c ∈ w, inkByte c = true) ∧ (∀ c ∈ m, coreByte c = true) := by
  obtain ⟨hne, hink⟩ := signNum_ink h
  cases hc : a.com with
  | none =>
    exact ⟨[], a.signText ++ a.numText, by simp [Amount.print, Amount.comText, hc], hne, hink, by simp⟩
  | some w =>
    obtain ⟨hw, hwi⟩ := com_ink h hc
    refine ⟨a.signText ++ a.numText ++ [0x20], w, by simp [Amount.print, Amount.comText, hc], hw, hwi, ?_⟩
    intro c hc'
    rcases List.mem_append.mp hc' with h' | h'
    · exact (inkByte_spec (hink c h')).1
    · simp at h'; rw [h']; decide

theorem amount_core {a : Amount} (h : a.wf = true) : ∀ c ∈ a.print, coreByte c = true := by
  obtain ⟨m, w, he, _, hw, hm⟩ := amount_tail h
  intro c hc
  rw [he] at hc
  rcases List.mem_append.mp hc with h' | h'
  · exact hm c h'
  · exact (inkByte_spec (hw c h')).1

theorem mem_blanks_core {n : Nat} {c : UInt8} (h : c ∈ blanks n) : coreByte c = true := by
  rw [mem_blanks h]; decide

/-- What every line of a printed journal that is not empty satisfies: bytes of the grammar only,
    and the line ends in a word (so it has no trailing blank). -/
def CoreLine (l : Bytes) : Prop :=
  (∀ c ∈ l, coreByte c = true) ∧ ∃ m w, l = m ++ w ∧ w ≠ [] ∧ ∀ c ∈ w, inkByte c = true

theorem posting_line {p : Posting} (hp : p.wf = true) (L : Layout) : CoreLine (p.printL L) := by
  obtain ⟨hane, haink⟩ := acct_ink hp
  have hamt := (Posting.wf_spec hp).2.2.2
  cases ha : p.amount with
  | none =>
    have e : p.printL L = blanks L.indent ++ p.acct := by simp [Posting.printL, Posting.amtTextL, ha]
    rw [e]
    refine ⟨?_, _, _, rfl, hane, haink⟩
    intro c hc
    rcases List.mem_append.mp hc with h | h
    · exact mem_blanks_core h
    · exact (inkByte_spec (haink c h)).1
  | some a =>
    obtain ⟨m, w, he, hw, hwi, hm⟩ := amount_tail (hamt a ha)
    have e : p.printL L = (blanks L.indent ++ p.acct ++ blanks (L.gap p) ++ m) ++ w := by
      simp [Posting.printL, Posting.amtTextL, ha, he]
    rw [e]
    refine ⟨?_, _, _, rfl, hw, hwi⟩
    intro c hc
    simp only [List.mem_append] at hc
    rcases hc with ((((h | h) | h) | h) | h)
    · exact mem_blanks_core h
    · exact (inkByte_spec (haink c h)).1
    · exact mem_blanks_core h
    · exact hm c h
    · exact (inkByte_spec (hwi c h)).1

theorem header_line {t : Tx} (ht : t.wf = true) : CoreLine t.header := by
  obtain ⟨hd, hne, hws, _⟩ := Tx.wf_spec ht
  obtain ⟨_, _, _, _, _, hyd, hmd, hdd⟩ := Date.wf_spec hd
  have hdescr : ∀ c ∈ t.descr, coreByte c = true :=
    joinWith_bytes (P := fun c => coreByte c = true) (by decide)
      (fun w hw c hc => (inkByte_spec (ink_lower ((word_spec (hws w hw)).2 c hc))).1)
  constructor
  · intro c hc
    simp only [Tx.header, Date.print, List.mem_append, List.mem_cons] at hc
    rcases hc with ((h | h | h) | h | h) | h | h
    · exact (inkByte_spec (ink_digit (hyd c h))).1
    · rw [h]; decide
    · exact (inkByte_spec (ink_digit (hmd c h))).1
    · rw [h]; decide
    · exact (inkByte_spec (ink_digit (hdd c h))).1
    · rw [h]; decide
    · exact hdescr c h
  · obtain ⟨m, d, w, hw, hdw, he⟩ := joinWith_last 0x20 t.words hne (fun w hw => (word_spec (hws w hw)).1)
    refine ⟨t.date.print ++ 0x20 :: m, [d], ?_, by simp, ?_⟩
    · simp only [Tx.header, Tx.descr, he]; simp
    · intro c hc
      rw [List.mem_singleton.mp hc]
      exact ink_lower ((word_spec (hws w hw)).2 d hdw)

theorem printPostingsL_bytes (L : Layout) (ps : List Posting) (hps : ∀ p ∈ ps, p.wf = true) :
    ∀ c ∈ printPostingsL L ps, coreByte c = true ∨ c = 0x0A := by
  induction ps with
  | nil => intro c hc; cases hc
  | cons p ps ih =>
    intro c hc
    simp only [printPostingsL, List.mem_append, List.mem_cons] at hc
    rcases hc with h | h | h
    · exact .inl ((posting_line (hps p (by simp)) L).1 c h)
    · exact .inr h
    · exact ih (fun q hq => hps q (by simp [hq])) c h

theorem Tx.printL_bytes (L : Layout) {t : Tx} (ht : t.wf = true) :
    ∀ c ∈ t.printL L, coreByte c = true ∨ c = 0x0A := by
  intro c hc
  simp only [Tx.printL, List.mem_append, List.mem_cons] at hc
  rcases hc with h | h | h
  · exact .inl ((header_line ht).1 c h)
  · exact .inr h
  · exact printPostingsL_bytes L _ (Tx.wf_spec ht).2.2.2 c h

theorem printL_bytes (L : Layout) (j : Journal) (hj : WF j = true) :
    ∀ c ∈ printL L j, coreByte c = true ∨ c = 0x0A := by
  induction j with
  | nil => intro c hc; cases hc
  | cons t ts ih =>
    rw [WF_cons] at hj
    intro c hc
    cases ts with
    | nil => exact Tx.printL_bytes L hj.1 c hc
    | cons t2 ts =>
      simp only [printL, List.mem_append, List.mem_cons] at hc
      rcases hc with h | h | h
      · exact Tx.printL_bytes L hj.1 c h
      · exact .inr h
      · exact ih hj.2 c h

end HL.GCore
