import HL.Lemmas.ParserReach
/-
  Progress and fuel: for every token source whose bound `rem` strictly decreases on every
  non-EOF token (`Decr`), every parser loop consumes at least one token per iteration and
  therefore never reaches its fuel-exhausted case with work left: each `…F n` agrees with the
  run on any other fuel `m` as soon as both are at least `measure st` (`…_fuel`).
-/
namespace HL.Parser
open HL HL.Ast

variable {σ : Type} (E : Env σ)

section
variable (hd : Decr E)
include hd

theorem L_le {α : Type} {F : PState σ → α × PState σ} {st : PState σ} (hF : LineInternal E F st) :
    measure E (F st).2 ≤ measure E st := by
  obtain ⟨C, r, _⟩ := LineInternal.reachL E hF (ReachL.refl E st)
  have := r.measure_le E hd; omega

theorem RC_le {a b : PState σ} {tl} (h : RC E a tl b) : measure E b ≤ measure E a := (RC.any E h).measure_le E hd

theorem parseDate_le (st : PState σ) : measure E (parseDate E st).2 ≤ measure E st := L_le E hd (parseDate_line E)
theorem parseStatus_le (st : PState σ) : measure E (parseStatus E st).2 ≤ measure E st := L_le E hd (parseStatus_line E)
theorem parseAmount_le (st : PState σ) : measure E (parseAmount E st).2 ≤ measure E st := L_le E hd (parseAmount_line E)
theorem parseCost_le (st : PState σ) (h : st.current.ty = .at ∨ st.current.ty = .atAt) :
    measure E (parseCost E st).2 ≤ measure E st := L_le E hd (parseCost_line E h)
theorem parseBalanceAssertion_le (st : PState σ) (h : st.current.ty = .equals ∨ st.current.ty = .doubleEquals) :
    measure E (parseBalanceAssertion E st).2 ≤ measure E st := L_le E hd (parseBalanceAssertion_line E h)
theorem postingOpen_le (st : PState σ) : measure E (postingOpen E st).2 ≤ measure E st := L_le E hd (postingOpen_line E)
theorem postingTail_le {cl} (hc : ClosingOk cl) (st : PState σ) : measure E (postingTail E cl st).2 ≤ measure E st :=
  L_le E hd (postingTail_line E hc)
theorem txDescription_le (st : PState σ) : measure E (txDescription E st).2 ≤ measure E st := L_le E hd (txDescription_line E)
theorem skipLoopF_le (n) (st : PState σ) : measure E (skipLoopF E n st) ≤ measure E st := L_le E hd (skipLoopF_line E n)
theorem skipUntilF_le (b n) (st : PState σ) : measure E (skipUntilF E b n st) ≤ measure E st := L_le E hd (skipUntilF_line E b n)
theorem subValueF_le (n acc) (st : PState σ) : measure E (subValueF E n st acc).2 ≤ measure E st := L_le E hd (subValueF_line E n acc)
theorem includePathF_le (n acc) (st : PState σ) : measure E (includePathF E n st acc).2 ≤ measure E st := L_le E hd (includePathF_line E n acc)
theorem skipToNextLine_le (st : PState σ) : measure E (skipToNextLine E st) ≤ measure E st :=
  RC_le E hd (skipToNextLine_RC E (RC.refl E st))
theorem txHeader_le (st : PState σ) : measure E (txHeader E st).2 ≤ measure E st := RC_le E hd (txHeader_RC E (RC.refl E st))
theorem postingsF_le (n) (st : PState σ) : measure E (postingsF E n st).2 ≤ measure E st :=
  RC_le E hd (postingsF_RC E n (RC.refl E st) (by omega))
theorem parseSubdirectives_le (st : PState σ) : measure E (parseSubdirectives E st).2 ≤ measure E st :=
  RC_le E hd (parseSubdirectives_RC E (RC.refl E st))
theorem parseAccountDirective_le (p) (st : PState σ) : measure E (parseAccountDirective E p st).2 ≤ measure E st :=
  RC_le E hd (parseAccountDirective_RC E p (RC.refl E st))
theorem parseCommodityDirective_le (p) (st : PState σ) : measure E (parseCommodityDirective E p st).2 ≤ measure E st :=
  RC_le E hd (parseCommodityDirective_RC E p (RC.refl E st))
theorem parseIncludeDirective_le (p) (st : PState σ) : measure E (parseIncludeDirective E p st).2 ≤ measure E st :=
  RC_le E hd (parseIncludeDirective_RC E p (RC.refl E st))
theorem parsePriceDirective_le (p) (st : PState σ) : measure E (parsePriceDirective E p st).2 ≤ measure E st :=
  RC_le E hd (parsePriceDirective_RC E p (RC.refl E st))
theorem parseDefaultCommodityDirective_le (p) (st : PState σ) :
    measure E (parseDefaultCommodityDirective E p st).2 ≤ measure E st :=
  RC_le E hd (parseDefaultCommodityDirective_RC E p (RC.refl E st))
theorem parseYearDirective_le (p) (st : PState σ) : measure E (parseYearDirective E p st).2 ≤ measure E st :=
  RC_le E hd (parseYearDirective_RC E p (RC.refl E st))
theorem journalStep_le (st : PState σ) : measure E (journalStep E st).2 ≤ measure E st :=
  RC_le E hd (journalStep_RC E st)

theorem parsePosting_lt (st : PState σ) (h : st.current.ty = .indent) :
    measure E (parsePosting E st).2 < measure E st := by
  have h1 := advance_lt E hd st (by simp [h])
  have h2 := RC_le E hd (parsePosting_RC' E (RC.refl E (advance E st)) h)
  omega

theorem parseDirective_lt (st : PState σ) (h : st.current.ty ≠ .eof) :
    measure E (parseDirective E st).2 < measure E st := by
  have h1 := advance_lt E hd st h
  have h2 := RC_le E hd (parseDirective_RC' E (RC.refl E (advance E st)))
  omega

theorem parseDate_lt (st : PState σ) (h : st.current.ty = .date) :
    measure E (parseDate E st).2 < measure E st := by
  have h1 := advance_lt E hd st (by simp [h])
  unfold parseDate
  grind [measure_errorAt]

theorem parseTransaction_lt (st : PState σ) (h : st.current.ty = .date) :
    measure E (parseTransaction E st).2 < measure E st := by
  have h1 := parseDate_lt E hd st h
  unfold parseTransaction
  split
  · rename_i st1 heq
    rw [heq] at h1
    have := skipToNextLine_le E hd st1
    simp only at *; omega
  · rename_i d st1 heq
    rw [heq] at h1
    have h2 := txHeader_le E hd st1
    have h3 := postingsF_le E hd (fuelOf E (txHeader E st1).2) (txHeader E st1).2
    simp only at *; omega

theorem skipLoopF_succ_lt (n) (st : PState σ) (h : ¬ isLineEnd st.current = true) :
    measure E (skipLoopF E (n+1) st) < measure E st := by
  have h1 := advance_lt E hd st (isLineEnd_false h).2
  have h2 := skipLoopF_le E hd n (advance E st)
  unfold skipLoopF
  simp only [h]
  simp only [Bool.false_eq_true, if_false]
  omega

theorem skipToNextLine_lt (st : PState σ) (h : st.current.ty ≠ .eof) :
    measure E (skipToNextLine E st) < measure E st := by
  unfold skipToNextLine
  by_cases hl : isLineEnd st.current = true
  · have hnl : st.current.ty = .newline := by
      unfold isLineEnd at hl; simp at hl; rcases hl with h1 | h1
      · exact h1
      · exact absurd h1 h
    have : skipLoopF E (fuelOf E st) st = st := by
      unfold fuelOf skipLoopF; simp [hl]
    simp only [this, hnl, if_true]
    exact advance_lt E hd st h
  · have h1 : measure E (skipLoopF E (fuelOf E st) st) < measure E st := skipLoopF_succ_lt E hd _ st hl
    simp only
    split
    · rename_i h2
      have := advance_lt E hd (skipLoopF E (fuelOf E st) st) (by simp [h2])
      omega
    · exact h1

theorem journalStep_lt (st : PState σ) (h : st.current.ty ≠ .eof) :
    measure E (journalStep E st).2 < measure E st := by
  unfold journalStep
  split
  · exact advance_lt E hd st h
  · split
    · exact advance_lt E hd st h
    · split
      · rename_i hdt
        have := parseTransaction_lt E hd st hdt
        split <;> (rename_i heq; rw [heq] at this; exact this)
      · split
        · have := parseDirective_lt E hd st h
          split <;> (rename_i heq; rw [heq] at this; exact this)
        · exact skipToNextLine_lt E hd (error st _) h

omit hd in
theorem eof_of_measure_le_zero {st : PState σ} (h : measure E st ≤ 0) : st.current.ty = .eof :=
  (measure_zero_iff E st).1 (by omega)

omit hd in
theorem isLineEnd_of_eof {t : Token} (h : t.ty = .eof) : isLineEnd t = true := by
  unfold isLineEnd; simp [h]

omit hd in
/-- A loop on fuel that does nothing at EOF and whose body calls the loop only on states with
    fewer tokens left gives the same result for every fuel that is at least the number of tokens
    left. -/
theorem fuel_irrelevant {β : Type} {L : Nat → PState σ → β}
    (h0 : ∀ n st, st.current.ty = .eof → L n st = L 0 st)
    (hs : ∀ n m st, st.current.ty ≠ .eof →
      (∀ st', measure E st' < measure E st → L n st' = L m st') → L (n + 1) st = L (m + 1) st)
    (n m : Nat) (st : PState σ) (hn : measure E st ≤ n) (hm : measure E st ≤ m) : L n st = L m st := by
  induction n generalizing m st with
  | zero => have he := eof_of_measure_le_zero E hn; rw [h0 m st he]
  | succ n ih =>
    by_cases he : st.current.ty = .eof
    · rw [h0 _ st he, h0 m st he]
    · have : 0 < measure E st := Nat.pos_of_ne_zero fun h => he ((measure_zero_iff E st).1 h)
      obtain ⟨m, rfl⟩ : ∃ k, m = k + 1 := ⟨m - 1, by omega⟩
      exact hs n m st he fun st' hlt => ih m st' (by omega) (by omega)

theorem skipLoopF_fuel (n m : Nat) (st : PState σ) (hn : measure E st ≤ n) (hm : measure E st ≤ m) :
    skipLoopF E n st = skipLoopF E m st := by
  refine fuel_irrelevant E (fun n st he => ?_) (fun n m st _ ih => ?_) n m st hn hm
  · cases n <;> simp [skipLoopF, isLineEnd_of_eof he]
  · unfold skipLoopF
    exact ite_congr rfl (fun _ => rfl) fun h => ih _ (advance_lt E hd st (isLineEnd_false h).2)

theorem skipUntilF_fuel (b : Bool) (n m : Nat) (st : PState σ) (hn : measure E st ≤ n) (hm : measure E st ≤ m) :
    skipUntilF E b n st = skipUntilF E b m st := by
  refine fuel_irrelevant E (fun n st he => ?_) (fun n m st _ ih => ?_) n m st hn hm
  · cases n <;> simp [skipUntilF, isLineEnd_of_eof he]
  · unfold skipUntilF
    exact ite_congr rfl (fun _ => rfl) fun h => ih _ (advance_lt E hd st (isLineEnd_false (not_or.1 h).1).2)

theorem subValueF_fuel (n m : Nat) (st : PState σ) (acc) (hn : measure E st ≤ n) (hm : measure E st ≤ m) :
    subValueF E n st acc = subValueF E m st acc := by
  refine congrFun (fuel_irrelevant E (L := fun n st acc => subValueF E n st acc) (fun n st he => ?_)
    (fun n m st _ ih => ?_) n m st hn hm) acc
  · funext acc; cases n <;> simp [subValueF, isLineEnd_of_eof he]
  · funext acc
    unfold subValueF
    exact ite_congr rfl (fun _ => rfl) fun h =>
      congrFun (ih _ (advance_lt E hd st (isLineEnd_false (not_or.1 h).1).2)) _

theorem includePathF_fuel (n m : Nat) (st : PState σ) (acc) (hn : measure E st ≤ n) (hm : measure E st ≤ m) :
    includePathF E n st acc = includePathF E m st acc := by
  refine congrFun (fuel_irrelevant E (L := fun n st acc => includePathF E n st acc) (fun n st he => ?_)
    (fun n m st _ ih => ?_) n m st hn hm) acc
  · funext acc; cases n <;> simp [includePathF, isLineEnd_of_eof he]
  · funext acc
    unfold includePathF
    exact ite_congr rfl (fun _ => rfl) fun h =>
      congrFun (ih _ (advance_lt E hd st (isLineEnd_false (not_or.1 h).1).2)) _

theorem postingsF_fuel (n m : Nat) (st : PState σ) (hn : measure E st ≤ n) (hm : measure E st ≤ m) :
    postingsF E n st = postingsF E m st := by
  refine fuel_irrelevant E (fun n st he => ?_) (fun n m st _ ih => ?_) n m st hn hm
  · cases n <;> simp [postingsF, he]
  · unfold postingsF
    refine ite_congr rfl (fun _ => rfl) fun h => ?_
    have h1 := parsePosting_lt E hd st (by simpa using h)
    have h2 : measure E (if (parsePosting E st).2.current.ty = .newline then advance E (parsePosting E st).2
        else (parsePosting E st).2) < measure E st := by
      split
      · rename_i hnl; have := advance_lt E hd (parsePosting E st).2 (by simp [hnl]); omega
      · exact h1
    simp only [ih _ h2]

theorem parseSubdirectivesF_fuel (n m : Nat) (st : PState σ) (mp) (hn : measure E st ≤ n) (hm : measure E st ≤ m) :
    parseSubdirectivesF E n st mp = parseSubdirectivesF E m st mp := by
  refine congrFun (fuel_irrelevant E (L := fun n st mp => parseSubdirectivesF E n st mp) (fun n st he => ?_)
    (fun n m st _ ih => ?_) n m st hn hm) mp
  · funext mp; cases n <;> simp [parseSubdirectivesF, he]
  · funext mp
    unfold parseSubdirectivesF
    refine ite_congr rfl (fun _ => rfl) fun h => ?_
    have h1 := advance_lt E hd st (by simp at h; simp [h])
    refine ite_congr rfl (fun _ => rfl) fun h => ?_
    have h2 := advance_lt E hd (advance E st) (by simp at h; simp [h])
    have h3 : ∀ c : TokType, c ≠ .eof → (advance E (advance E st)).current.ty = c →
        measure E (advance E (advance E (advance E st))) < measure E st := fun c hc h => by
      have := advance_lt E hd (advance E (advance E st)) (by rw [h]; exact hc); omega
    refine ite_congr rfl (fun h => congrFun (ih _ (h3 _ (by simp) h)) _) fun _ => ?_
    refine ite_congr rfl (fun _ => congrFun (ih _ (by omega)) _) fun _ => ?_
    refine ite_congr rfl (fun h => congrFun (ih _ (h3 _ (by simp) h)) _) fun _ => ?_
    have h4 := fun h => Nat.lt_of_le_of_lt
      (subValueF_le E hd (fuelOf E (advance E (advance E (advance E st)))) [] _) (h3 .directive (by simp) h)
    have h5 := Nat.lt_of_le_of_lt (skipToNextLine_le E hd (advance E (advance E st))) (Nat.lt_trans h2 h1)
    exact ite_congr rfl (fun h => congrFun (ih _ (h4 h)) _) fun _ => congrFun (ih _ h5) _

theorem parseJournalF_fuel (n m : Nat) (st : PState σ) (hn : measure E st ≤ n) (hm : measure E st ≤ m) :
    parseJournalF E n st = parseJournalF E m st := by
  refine fuel_irrelevant E (fun n st he => ?_) (fun n m st he ih => ?_) n m st hn hm
  · cases n <;> simp [parseJournalF, he]
  · simp only [parseJournalF, ih _ (journalStep_lt E hd st he)]

end
end HL.Parser
