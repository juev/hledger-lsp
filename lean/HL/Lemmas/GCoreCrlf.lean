import HL.Lemmas.LexGCoreP
import HL.Lemmas.GCoreBytes
import HL.Lemmas.LexCrlfFile
import HL.Lemmas.ParserShift
/-!
  `GCore` journals printed with CR LF line ends (`GCore.printC true`) and the tree they were
  written from (`GCore.expectedC true`):
    * `printC_true`      the text is `toCrlf (print j)`: the LF text with every LF made CR LF;
    * `print_noCR`       the LF text of a well-formed journal contains no carriage return;
    * `expectedC_true`   the tree is `crlfShift.journal (expected j)`: the LF tree with every
                         offset grown by the number of line ends in front of it;
    * `printC_false`, `expectedC_false`: with LF line ends both are the originals.
-/
namespace HL.Parser

theorem crShift_eq_tok (x : Token) : HL.Lex.crShift x = crlfShift.tok x := by
  cases x with
  | mk ty v p e =>
    simp only [HL.Lex.crShift, HL.Lex.crLine, Shift.tok, crlfShift_pos]

end HL.Parser

namespace HL.GCore
open HL HL.Lex HL.Parser

local notation "CR" => (0x0D : UInt8)

theorem noLF_of_core {s : Bytes} (h : ∀ c ∈ s, coreByte c = true) : LF ∉ s :=
  fun m => (coreByte_spec (h _ m)).2.1 rfl

theorem eolB_false : eolB false = [LF] := rfl
theorem eolB_true : eolB true = [CR, LF] := rfl

theorem printPostingsC_false (ps : List Posting) : printPostingsC false ps = printPostings ps := by
  induction ps with
  | nil => rfl
  | cons p ps ih => simp [printPostingsC, printPostings, eolB_false, ih]

theorem Tx.printC_false (t : Tx) : t.printC false = t.print := by
  simp [Tx.printC, Tx.print, eolB_false, printPostingsC_false]

theorem printC_false (j : Journal) : printC false j = print j := by
  induction j with
  | nil => rfl
  | cons t ts ih =>
    cases ts with
    | nil => simp [printC, print, Tx.printC_false]
    | cons t2 ts => simp only [printC, print, Tx.printC_false, eolB_false, ih]; simp

theorem toCrlf_line {a : Bytes} (ha : LF ∉ a) (b : Bytes) : toCrlf (a ++ LF :: b) = a ++ CR :: LF :: toCrlf b := by
  rw [toCrlf_append, toCrlf_noLF ha]; simp [toCrlf]

theorem printPostingsC_true (ps : List Posting) (h : ∀ p ∈ ps, p.wf = true) :
    printPostingsC true ps = toCrlf (printPostings ps) := by
  induction ps with
  | nil => rfl
  | cons p ps ih =>
    have hp : LF ∉ p.print := noLF_of_core (posting_line (h p (by simp)) Layout.std).1
    simp only [printPostingsC, printPostings, eolB_true]
    rw [toCrlf_line hp, ih (fun q hq => h q (by simp [hq]))]
    simp

theorem Tx.printC_true {t : Tx} (h : t.wf = true) : t.printC true = toCrlf t.print := by
  have hh := noLF_of_core (header_line h).1
  simp only [Tx.printC, Tx.print, eolB_true]
  rw [toCrlf_line hh, printPostingsC_true _ (Tx.wf_spec h).2.2.2]
  simp

theorem printC_true (j : Journal) (h : WF j = true) : printC true j = toCrlf (print j) := by
  induction j with
  | nil => rfl
  | cons t ts ih =>
    rw [WF_cons] at h
    cases ts with
    | nil => simp only [printC, print]; exact Tx.printC_true h.1
    | cons t2 ts =>
      simp only [printC, print, eolB_true]
      rw [toCrlf_append, ← Tx.printC_true h.1]
      have : toCrlf (LF :: print (t2 :: ts)) = CR :: LF :: toCrlf (print (t2 :: ts)) := by simp [toCrlf]
      rw [this, ih h.2]
      simp

theorem Tx.print_noCR {t : Tx} (h : t.wf = true) : CR ∉ t.print := fun m =>
  (Tx.printL_bytes Layout.std h CR (Tx.printL_std t ▸ m)).elim (fun h => (coreByte_spec h).2.2.1 rfl) (by decide)

theorem print_noCR (j : Journal) (h : WF j = true) : CR ∉ print j := fun m =>
  (printL_bytes Layout.std j h CR (printL_std j ▸ m)).elim (fun h => (coreByte_spec h).2.2.1 rfl) (by decide)

theorem expectedPostingsC_false (ps : List Posting) :
    ∀ ln o, expectedPostingsC false ps ln o = expectedPostings ps ln o := by
  induction ps with
  | nil => intro _ _; rfl
  | cons p ps ih => intro ln o; simp [expectedPostingsC, expectedPostings, eolB_false, ih]

theorem Tx.expectedC_false (t : Tx) (ln o : Nat) : t.expectedC false ln o = t.expected ln o := by
  simp [Tx.expectedC, Tx.expected, expectedPostingsC_false, Tx.printC_false, eolB_false]

theorem expectedTxsC_false (ts : List Tx) : ∀ ln o, expectedTxsC false ts ln o = expectedTxs ts ln o := by
  induction ts with
  | nil => intro _ _; rfl
  | cons t ts ih =>
    intro ln o
    simp [expectedTxsC, expectedTxs, Tx.expectedC_false, Tx.printC_false, eolB_false, ih]

theorem expectedC_false (j : Journal) : expectedC false j = expected j := by
  simp [expectedC, expected, expectedTxsC_false]

theorem sh_pos (ln c o : Nat) : crlfShift.pos ⟨ln, c, o⟩ = ⟨ln, c, o + (ln - 1)⟩ := crlfShift_pos _

/-- moves the shift `ln - 1` of an offset outwards, so that both sides of the equations below
    get the same shape -/
theorem shift_out (x k ln : Nat) : x + (ln - 1) + k = x + k + (ln - 1) := Nat.add_right_comm ..

theorem sh_amount (a : Amount) (ln c o : Nat) :
    crlfShift.amount (a.expected ln c o) = a.expected ln c (o + (ln - 1)) := by
  cases hc : a.com <;> simp only [Amount.expected, hc, Shift.amount, Shift.commodity, Shift.rng_zero] <;>
    simp only [Shift.rng, sh_pos, shift_out]

theorem sh_posting (p : Posting) (ln o : Nat) :
    crlfShift.posting (p.expected ln o) = p.expected ln (o + (ln - 1)) := by
  simp only [Posting.expected, Shift.posting, Shift.account, Shift.rng, sh_pos, Option.map_none, List.map_nil,
    Option.map_map, Function.comp_def, sh_amount, shift_out]

theorem next_line (x ln : Nat) (h : 1 ≤ ln) : x + 1 + (ln + 1 - 1) = x + 2 + (ln - 1) := by omega

theorem sh_postings (ps : List Posting) : ∀ (ln o : Nat), 1 ≤ ln →
    (expectedPostings ps ln o).map crlfShift.posting = expectedPostingsC true ps ln (o + (ln - 1)) := by
  induction ps with
  | nil => intro _ _ _; rfl
  | cons p ps ih =>
    intro ln o h
    simp only [expectedPostings, expectedPostingsC, List.map_cons, sh_posting, eolB_true, List.length_cons,
      List.length_nil, ih (ln + 1) _ (Nat.le_add_left ..), shift_out]
    rw [next_line _ _ h]

theorem printPostingsC_true_length (ps : List Posting) :
    (printPostingsC true ps).length = (printPostings ps).length + ps.length := by
  induction ps with
  | nil => rfl
  | cons p ps ih => simp [printPostingsC, printPostings, eolB_true, ih]; omega

theorem Tx.printC_true_length (t : Tx) : (t.printC true).length = t.print.length + 1 + t.postings.length := by
  simp [Tx.printC, Tx.print, eolB_true, printPostingsC_true_length]; omega

theorem sh_tx (t : Tx) (ln o : Nat) (h : 1 ≤ ln) :
    crlfShift.tx (t.expected ln o) = t.expectedC true ln (o + (ln - 1)) := by
  simp only [Tx.expected, Tx.expectedC, Shift.tx, Shift.date, Shift.rng, sh_pos, Option.map_none, List.map_nil,
    sh_postings t.postings (ln + 1) _ (Nat.le_add_left ..), Tx.printC_true_length, eolB_true, List.length_cons,
    List.length_nil, shift_out]
  rw [next_line _ _ h, show o + t.print.length + (ln + 1 + t.postings.length - 1) =
      o + (t.print.length + 1 + t.postings.length) + (ln - 1) by omega]

theorem sh_txs (ts : List Tx) : ∀ (ln o : Nat), 1 ≤ ln →
    (expectedTxs ts ln o).map crlfShift.tx = expectedTxsC true ts ln (o + (ln - 1)) := by
  induction ts with
  | nil => intro _ _ _; rfl
  | cons t ts ih =>
    intro ln o h
    simp only [expectedTxs, expectedTxsC, List.map_cons, sh_tx t ln o h, eolB_true, List.length_cons,
      List.length_nil, ih _ _ (Nat.le_add_left ..), Tx.printC_true_length, shift_out]
    rw [show o + t.print.length + 1 + (ln + t.postings.length + 2 - 1) =
      o + (t.print.length + 1 + t.postings.length) + (0 + 1 + 1) + (ln - 1) by omega]

theorem expectedC_true (j : Journal) : expectedC true j = crlfShift.journal (expected j) := by
  simp only [expectedC, expected, Shift.journal, List.map_nil]
  rw [sh_txs j 1 0 (Nat.le_refl _)]

end HL.GCore
