import HL.Lemmas.ParserSync
/-
  Twin runs: two token lists that share a prefix ending in a Newline and go on differently.
  As long as both continuations start with a token in column 1 at the same position, every
  parse function does the same thing on both lists until the common prefix is used up.
-/
namespace HL.Parser
open HL HL.Ast

variable (num : NumDeps) (cls : Classes)

/-- Two runs of the parser on token lists that share a prefix ending in a Newline and then go
    on differently (`y0 :: Y'` / `z0 :: Z'`). -/
structure Tails where
  y0 : Token
  Y' : List Token
  z0 : Token
  Z' : List Token
  pos_eq : y0.pos = z0.pos
  y_ind : y0.ty ≠ .indent
  y_nl : y0.ty ≠ .newline
  z_ind : z0.ty ≠ .indent
  z_nl : z0.ty ≠ .newline

variable (T : Tails)

/-- Both runs are inside the common prefix: same current token, same errors and default year;
    the sources are `P ++ y0 :: Y'` / `P ++ z0 :: Z'`, and the token in front of the tails is a Newline. -/
def In (s1 s2 : PState (List Token)) : Prop :=
  s2.current = s1.current ∧ s2.errors = s1.errors ∧ s2.defaultYear = s1.defaultYear ∧
  ∃ P, s1.src = P ++ T.y0 :: T.Y' ∧ s2.src = P ++ T.z0 :: T.Z' ∧
    (lastNL (s1.current.ty = .newline) P = true)

/-- Both runs have just consumed the Newline that ends the common prefix. -/
def AtB (s1 s2 : PState (List Token)) : Prop :=
  s2.errors = s1.errors ∧ s2.defaultYear = s1.defaultYear ∧
  s1.current = T.y0 ∧ s1.src = T.Y' ∧ s2.current = T.z0 ∧ s2.src = T.Z'

def Tw (s1 s2 : PState (List Token)) : Prop := In T s1 s2 ∨ AtB T s1 s2

theorem In.fuel {s1 s2} (h : In T s1 s2) :
    ∃ k, fuelOf (listEnv num cls) s1 = k + T.Y'.length ∧ fuelOf (listEnv num cls) s2 = k + T.Z'.length := by
  obtain ⟨hc, he, hd, P, h1, h2, hl⟩ := h
  exact ⟨P.length + 2, by simp [fuelOf, listEnv, listSrc, h1]; omega, by simp [fuelOf, listEnv, listSrc, h2]; omega⟩

variable {T} {s1 s2 : PState (List Token)}

theorem In.cur (h : In T s1 s2) : s2.current = s1.current := h.1
theorem In.dy (h : In T s1 s2) : s2.defaultYear = s1.defaultYear := h.2.2.1

theorem In.adv (h : In T s1 s2) (hn : s1.current.ty ≠ .newline) :
    In T (advance (listEnv num cls) s1) (advance (listEnv num cls) s2) := by
  obtain ⟨hc, he, hd, P, h1, h2, hl⟩ := h
  cases P with
  | nil => simp [lastNL, hn] at hl
  | cons t P' =>
    exact ⟨by simp [advance, listEnv, listSrc, h1, h2], he, hd, P', by simp [advance, listEnv, listSrc, h1],
      by simp [advance, listEnv, listSrc, h2], by simpa [advance, listEnv, listSrc, h1, lastNL] using hl⟩

theorem In.advNL (h : In T s1 s2) : Tw T (advance (listEnv num cls) s1) (advance (listEnv num cls) s2) := by
  by_cases hn : s1.current.ty = .newline
  · obtain ⟨hc, he, hd, P, h1, h2, hl⟩ := h
    cases P with
    | nil => exact Or.inr ⟨he, hd, by simp [advance, listEnv, listSrc, h1], by simp [advance, listEnv, listSrc, h1],
        by simp [advance, listEnv, listSrc, h2], by simp [advance, listEnv, listSrc, h2]⟩
    | cons t P' =>
      exact Or.inl ⟨by simp [advance, listEnv, listSrc, h1, h2], he, hd, P', by simp [advance, listEnv, listSrc, h1],
        by simp [advance, listEnv, listSrc, h2], by simpa [advance, listEnv, listSrc, h1, lastNL] using hl⟩
  · exact Or.inl (h.adv num cls hn)

theorem In.errorAt (h : In T s1 s2) (p m) : In T (errorAt s1 p m) (errorAt s2 p m) := by
  obtain ⟨hc, he, hd, P, h1, h2, hl⟩ := h
  exact ⟨hc, by simp [HL.Parser.errorAt, he], hd, P, h1, h2, hl⟩

theorem In.error (h : In T s1 s2) (m) : In T (error s1 m) (error s2 m) := by
  unfold HL.Parser.error
  rw [h.cur]
  exact h.errorAt _ _

theorem In.setYear (h : In T s1 s2) (y : Int) :
    In T { s1 with defaultYear := y } { s2 with defaultYear := y } := by
  obtain ⟨hc, he, hd, P, h1, h2, hl⟩ := h
  exact ⟨hc, he, rfl, P, h1, h2, hl⟩

theorem AtB.facts (h : AtB T s1 s2) :
    s1.current.ty ≠ .indent ∧ s1.current.ty ≠ .newline ∧ s2.current.ty ≠ .indent ∧ s2.current.ty ≠ .newline ∧
    s2.current.pos = s1.current.pos ∧ s2.errors = s1.errors ∧ s2.defaultYear = s1.defaultYear := by
  obtain ⟨he, hd, c1, _, c2, _⟩ := h
  rw [c1, c2]
  exact ⟨T.y_ind, T.y_nl, T.z_ind, T.z_nl, T.pos_eq.symm, he, hd⟩

theorem Tw.pos (h : Tw T s1 s2) : s2.current.pos = s1.current.pos := by
  rcases h with h | h
  · rw [h.cur]
  · exact h.facts.2.2.2.2.1

theorem In.sim : LineSim (listEnv num cls) (In T) where
  cur := In.cur
  dy := In.dy
  adv r h _ := r.adv num cls h
  err r m := r.error m
  advErr r h _ m := (r.adv num cls h).errorAt _ m

/-- The twins run a loop each on the fuel of its own state: both fuels can be replaced by their sum. -/
theorem twin_fuel {β : Type} {L : Nat → PState (List Token) → β} {Q : β → β → Prop}
    (hL : ∀ n m st, measure (listEnv num cls) st ≤ n → measure (listEnv num cls) st ≤ m → L n st = L m st)
    (s1 s2 : PState (List Token)) (h : ∀ n, Q (L n s1) (L n s2)) :
    Q (L (fuelOf (listEnv num cls) s1) s1) (L (fuelOf (listEnv num cls) s2) s2) := by
  have a := measure_le_fuelOf (listEnv num cls) s1
  have b := measure_le_fuelOf (listEnv num cls) s2
  rw [hL _ (fuelOf (listEnv num cls) s1 + fuelOf (listEnv num cls) s2) s1 a (by omega),
      hL _ (fuelOf (listEnv num cls) s1 + fuelOf (listEnv num cls) s2) s2 b (by omega)]
  exact h _

theorem optNL_tw (h : Tw T s1 s2) :
    Tw T (if s1.current.ty = .newline then advance (listEnv num cls) s1 else s1)
         (if s2.current.ty = .newline then advance (listEnv num cls) s2 else s2) := by
  rcases h with h | h
  · rw [h.cur]
    split
    · exact h.advNL num cls
    · exact Or.inl h
  · rw [if_neg h.facts.2.1, if_neg h.facts.2.2.2.1]
    exact Or.inr h

theorem optComment_tw (h : In T s1 s2) :
    In T (if s1.current.ty = .comment then advance (listEnv num cls) s1 else s1)
         (if s2.current.ty = .comment then advance (listEnv num cls) s2 else s2) := by
  rw [h.cur]
  split
  · rename_i c
    exact h.adv num cls (by simp [c])
  · exact h

theorem skipToNextLine_tw (h : In T s1 s2) :
    Tw T (skipToNextLine (listEnv num cls) s1) (skipToNextLine (listEnv num cls) s2) :=
  optNL_tw num cls (Or.inl (twin_fuel num cls (skipLoopF_fuel _ (listEnv_decr num cls)) s1 s2
    fun n => (skipLoopF_line _ n (In.sim num cls) h).2))

theorem parsePosting_tw (h : In T s1 s2) (hi : s1.current.ty = .indent) :
    Agree (Tw T) (parsePosting (listEnv num cls) s1) (parsePosting (listEnv num cls) s2) := by
  have a := h.adv num cls (by simp [hi])
  simp only [parsePosting, h.cur, a.cur]
  refine .ite _ (fun _ => .mk' (Or.inl h)) fun _ => ?_
  refine .ite _ (fun c => .mk' (Or.inl (parseComment_line _ c (In.sim num cls) a).2)) fun _ => ?_
  refine .ite _ (fun _ => .mk' (Or.inl a)) fun _ => ?_
  have hcl := postingOpen_closing (listEnv num cls) (advance (listEnv num cls) s1)
  obtain ⟨o, _, _, o1, o2, b⟩ := (postingOpen_line _ (In.sim num cls) a).cases
  rw [o1] at hcl
  simp only [o1, o2, b.cur]
  refine .ite _ (fun _ => .mk' (skipToNextLine_tw num cls (b.error _))) fun c => ?_
  obtain ⟨r, _, _, r1, r2, e⟩ :=
    (postingTail_line _ hcl (In.sim num cls) (b.adv num cls (by simp at c; simp [c]))).cases
  simp only [r1, r2, e.cur]
  exact .mk' (Or.inl e)

theorem postingsF_tw (n : Nat) (h : Tw T s1 s2) :
    Agree (Tw T) (postingsF (listEnv num cls) n s1) (postingsF (listEnv num cls) n s2) := by
  induction n generalizing s1 s2 with
  | zero => exact .mk' h
  | succ n ih =>
    rcases h with h | h
    · simp only [postingsF, h.cur]
      refine .ite _ (fun _ => .mk' (Or.inl h)) fun c => ?_
      obtain ⟨p, _, _, p1, p2, a⟩ := (parsePosting_tw num cls h (by simpa using c)).cases
      obtain ⟨ps, _, _, q1, q2, b⟩ := (ih (optNL_tw num cls a)).cases
      simp only [p1, p2, q1, q2]
      exact .mk' b
    · have f := h.facts
      unfold postingsF
      rw [if_pos f.1, if_pos f.2.2.1]
      exact .mk' (Or.inr h)

theorem txHeader_tw (h : In T s1 s2) :
    Agree (Tw T) (txHeader (listEnv num cls) s1) (txHeader (listEnv num cls) s2) := by
  obtain ⟨a, _, _, a1, a2, h⟩ := (txDate2_line _ (In.sim num cls) h).cases
  obtain ⟨b, _, _, b1, b2, h⟩ := (txStatus_line _ (In.sim num cls) h).cases
  obtain ⟨c, _, _, c1, c2, h⟩ := (txCode_line _ (In.sim num cls) h).cases
  obtain ⟨d, _, _, d1, d2, h⟩ := (txDescription_line _ (In.sim num cls) h).cases
  obtain ⟨e, _, _, e1, e2, h⟩ := (txComment_line _ (In.sim num cls) h).cases
  simp only [txHeader, a1, a2, b1, b2, c1, c2, d1, d2, e1, e2]
  exact .mk' (optNL_tw num cls (Or.inl h))

theorem parseTransaction_tw (h : In T s1 s2) :
    Agree (Tw T) (parseTransaction (listEnv num cls) s1) (parseTransaction (listEnv num cls) s2) := by
  obtain ⟨dt, _, _, a1, a2, a⟩ := (parseDate_line _ (In.sim num cls) h).cases
  simp only [parseTransaction, h.cur, a1, a2]
  cases dt
  · exact .mk' (skipToNextLine_tw num cls a)
  · obtain ⟨hd, t1, t2, b1, b2, b⟩ := (txHeader_tw num cls a).cases
    obtain ⟨ps, _, _, c1, c2, c⟩ := (twin_fuel num cls (postingsF_fuel _ (listEnv_decr num cls)) t1 t2
      fun n => postingsF_tw num cls n b).cases
    simp only [b1, b2, c1, c2, c.pos]
    exact .mk' c

theorem parseSubdirectivesF_tw (n : Nat) (m : Subdirs) (h : Tw T s1 s2) :
    Agree (Tw T) (parseSubdirectivesF (listEnv num cls) n s1 m) (parseSubdirectivesF (listEnv num cls) n s2 m) := by
  induction n generalizing s1 s2 m with
  | zero => exact .mk' h
  | succ n ih =>
    rcases h with h | h
    · simp only [parseSubdirectivesF, h.cur]
      refine .ite _ (fun _ => .mk' (Or.inl h)) fun _ => ?_
      rcases h.advNL num cls with a | a
      · -- still inside the common prefix
        rw [a.cur]
        refine .ite _ (fun _ => .mk' (Or.inl a)) fun c => ?_
        have b := a.adv num cls (by simp at c; simp [c])
        rw [b.cur]
        refine .ite _ (fun c => ih _ (Or.inl (b.adv num cls (by simp [c])))) fun _ => ?_
        refine .ite _ (fun _ => ih _ (Or.inl b)) fun _ => ?_
        refine .ite _ (fun c => ih _ (Or.inl (b.adv num cls (by simp [c])))) fun _ => ?_
        refine .ite _ (fun c => ?_) fun _ => ih _ (skipToNextLine_tw num cls b)
        have e := b.adv num cls (by simp [c])
        obtain ⟨v, _, _, v1, v2, e⟩ := (twin_fuel num cls
          (fun n m st => subValueF_fuel _ (listEnv_decr num cls) n m st []) _ _ fun n => subValueF_line _ n [] (In.sim num cls) e).cases
        rw [v1, v2]
        exact ih _ (Or.inl e)
      · -- the Newline was the last token of the common prefix
        have f := a.facts
        rw [if_pos f.1, if_pos f.2.2.1]
        exact .mk' (Or.inr a)
    · have f := h.facts
      unfold parseSubdirectivesF
      rw [if_pos f.2.1, if_pos f.2.2.2.1]
      exact .mk' (Or.inr h)

theorem parseSubdirectives_tw (h : Tw T s1 s2) :
    Agree (Tw T) (parseSubdirectives (listEnv num cls) s1) (parseSubdirectives (listEnv num cls) s2) :=
  twin_fuel num cls (fun n m st => parseSubdirectivesF_fuel _ (listEnv_decr num cls) n m st []) s1 s2
    fun n => parseSubdirectivesF_tw num cls n [] h

theorem parseAccountDirective_tw (sp : Pos) (h : In T s1 s2) :
    Agree (Tw T) (parseAccountDirective (listEnv num cls) sp s1) (parseAccountDirective (listEnv num cls) sp s2) := by
  simp only [parseAccountDirective, h.cur]
  refine .ite _ (fun _ => .mk' (skipToNextLine_tw num cls (h.error _))) fun c => ?_
  obtain ⟨nm, _, _, a1, a2, a⟩ :=
    (accountNameRest_line _ s1.current.val (In.sim num cls) (h.adv num cls (fun hn => c (by simp [hn])))).cases
  obtain ⟨l, t1, t2, b1, b2, b⟩ := (lineComment_line _ (In.sim num cls) a).cases
  obtain ⟨sub, _, _, e1, e2, e⟩ := (parseSubdirectives_tw num cls (Or.inl (twin_fuel num cls
    (skipUntilF_fuel _ (listEnv_decr num cls) false) t1 t2 fun n => (skipUntilF_line _ false n (In.sim num cls) b).2))).cases
  simp only [a1, a2, b1, b2, e1, e2, e.pos]
  exact .mk' e

theorem parseCommodityDirective_tw (sp : Pos) (h : In T s1 s2) :
    Agree (Tw T) (parseCommodityDirective (listEnv num cls) sp s1) (parseCommodityDirective (listEnv num cls) sp s2) := by
  obtain ⟨c, t1, t2, a1, a2, a⟩ := (commodityInline_line _ (In.sim num cls) h).cases
  obtain ⟨sub, _, _, e1, e2, e⟩ := (parseSubdirectives_tw num cls (Or.inl (optComment_tw num cls
    (twin_fuel num cls (skipUntilF_fuel _ (listEnv_decr num cls) true) t1 t2 fun n => (skipUntilF_line _ true n (In.sim num cls) a).2)))).cases
  simp only [parseCommodityDirective, a1, a2, e1, e2, e.pos]
  exact .mk' e

theorem parseIncludeDirective_tw (sp : Pos) (h : In T s1 s2) :
    Agree (Tw T) (parseIncludeDirective (listEnv num cls) sp s1) (parseIncludeDirective (listEnv num cls) sp s2) := by
  obtain ⟨path, _, _, a1, a2, a⟩ := (twin_fuel num cls
    (fun n m st => includePathF_fuel _ (listEnv_decr num cls) n m st []) s1 s2 fun n => includePathF_line _ n [] (In.sim num cls) h).cases
  simp only [parseIncludeDirective, a1, a2, a.cur]
  exact .ite _ (fun _ => .mk' (skipToNextLine_tw num cls (a.error _))) fun _ => .mk' (skipToNextLine_tw num cls a)

theorem parsePriceDirective_tw (sp : Pos) (h : In T s1 s2) :
    Agree (Tw T) (parsePriceDirective (listEnv num cls) sp s1) (parsePriceDirective (listEnv num cls) sp s2) := by
  obtain ⟨dt, _, _, a1, a2, a⟩ := (parseDate_line _ (In.sim num cls) h).cases
  simp only [parsePriceDirective, a1, a2]
  cases dt
  · exact .mk' (skipToNextLine_tw num cls a)
  · simp only [a.cur]
    refine .ite _ (fun c => ?_) fun _ => .mk' (skipToNextLine_tw num cls (a.error _))
    obtain ⟨am, _, _, b1, b2, b⟩ :=
      (parseAmount_line _ (In.sim num cls) (a.adv num cls (by rcases c with c | c <;> simp [c]))).cases
    simp only [b1, b2]
    cases am
    · exact .mk' (skipToNextLine_tw num cls b)
    · simp only [b.cur]
      exact .mk' (skipToNextLine_tw num cls b)

theorem parseDefaultCommodityDirective_tw (sp : Pos) (h : In T s1 s2) :
    Agree (Tw T) (parseDefaultCommodityDirective (listEnv num cls) sp s1)
      (parseDefaultCommodityDirective (listEnv num cls) sp s2) := by
  simp only [parseDefaultCommodityDirective, h.cur]
  split
  · rename_i c
    have a := h.adv num cls (by simp [c])
    rw [a.cur]
    split
    · rename_i c
      have b := a.adv num cls (by simp [c])
      simp only [b.cur]; exact .mk' (skipToNextLine_tw num cls b)
    · simp only [a.cur]; exact .mk' (skipToNextLine_tw num cls a)
  · split
    · rename_i c
      have a := h.adv num cls (by simp [c])
      rw [a.cur]
      split
      · rename_i c
        have b := a.adv num cls (by rcases c with c | c <;> simp [c])
        simp only [b.cur]; exact .mk' (skipToNextLine_tw num cls b)
      · simp only [a.cur]; exact .mk' (skipToNextLine_tw num cls a)
    · simp only [h.cur]; exact .mk' (skipToNextLine_tw num cls h)

theorem parseYearDirective_tw (sp : Pos) (h : In T s1 s2) :
    Agree (Tw T) (parseYearDirective (listEnv num cls) sp s1) (parseYearDirective (listEnv num cls) sp s2) := by
  simp only [parseYearDirective, h.cur]
  refine .ite _ (fun _ => .mk' (skipToNextLine_tw num cls (h.error _))) fun c => ?_
  split
  · exact .mk' (skipToNextLine_tw num cls (h.error _))
  · rename_i year _
    refine .ite _ (fun _ => .mk' (skipToNextLine_tw num cls (h.error _))) fun _ => ?_
    have a := (h.setYear year).adv num cls (by simp at c; simp [c])
    rw [h.cur] at a
    simp only [a.cur]
    exact .mk' (skipToNextLine_tw num cls a)

theorem parseDirective_tw (h : In T s1 s2) (hn : s1.current.ty ≠ .newline) :
    Agree (Tw T) (parseDirective (listEnv num cls) s1) (parseDirective (listEnv num cls) s2) := by
  have a := h.adv num cls hn
  simp only [parseDirective, h.cur]
  refine .ite _ (fun _ => ?_) fun _ => .ite _ (fun _ => ?_) fun _ => .ite _ (fun _ => ?_) fun _ =>
    .ite _ (fun _ => ?_) fun _ => .ite _ (fun _ => ?_) fun _ => .ite _ (fun _ => ?_) fun _ =>
    .mk' (skipToNextLine_tw num cls a)
  · obtain ⟨r, _, _, b1, b2, b⟩ := (parseAccountDirective_tw num cls s1.current.pos a).cases
    rw [b1, b2]; exact .mk' b
  · obtain ⟨r, _, _, b1, b2, b⟩ := (parseCommodityDirective_tw num cls s1.current.pos a).cases
    rw [b1, b2]; exact .mk' b
  · obtain ⟨i, _, _, b1, b2, b⟩ := (parseIncludeDirective_tw num cls s1.current.pos a).cases
    rw [b1, b2]
    cases i <;> exact .mk' b
  · obtain ⟨r, _, _, b1, b2, b⟩ := (parsePriceDirective_tw num cls s1.current.pos a).cases
    rw [b1, b2]; exact .mk' b
  · obtain ⟨r, _, _, b1, b2, b⟩ := (parseYearDirective_tw num cls s1.current.pos a).cases
    rw [b1, b2]; exact .mk' b
  · obtain ⟨r, _, _, b1, b2, b⟩ := (parseDefaultCommodityDirective_tw num cls s1.current.pos a).cases
    rw [b1, b2]; exact .mk' b

theorem journalStep_tw (h : In T s1 s2) :
    Agree (Tw T) (journalStep (listEnv num cls) s1) (journalStep (listEnv num cls) s2) := by
  simp only [journalStep, h.cur]
  refine .ite _ (fun _ => .mk' (h.advNL num cls)) fun c => ?_
  refine .ite _ (fun hc => ?_) fun _ => .ite _ (fun _ => ?_) fun _ => .ite _ (fun _ => ?_) fun _ => ?_
  · have b := parseComment_line _ hc (In.sim num cls) h
    exact ⟨by rw [b.1], Or.inl b.2⟩
  · obtain ⟨t, _, _, b1, b2, b⟩ := (parseTransaction_tw num cls h).cases
    rw [b1, b2]
    cases t <;> exact .mk' b
  · obtain ⟨r, _, _, b1, b2, b⟩ := (parseDirective_tw num cls h c).cases
    rw [b1, b2]
    cases r <;> exact .mk' b
  · rw [← h.cur]
    exact .mk' (skipToNextLine_tw num cls (h.error _))


variable (T) in
/-- **Twin resynchronisation.**  Both runs are inside the common prefix `current :: P` (no EOF in
    it), which is followed by `y0 :: Y'` in the first list and by `z0 :: Z'` in the second.  Then
    both journal loops come back to their head in front of `y0` resp. `z0` after the SAME
    iterations: the same items, the same new errors, the same default year. -/
theorem twin_sync (hE : ∃ t ∈ T.y0 :: T.Y', t.ty = .eof) (P : List Token) (s1 s2 : PState (List Token))
    (hin : In T s1 s2) (hsrc : s1.src = P ++ T.y0 :: T.Y') (hne : ∀ t ∈ s1.current :: P, t.ty ≠ .eof) :
    ∃ items new dy, Runs num cls s1 items ⟨T.Y', T.y0, s1.errors ++ new, dy⟩ ∧
      Runs num cls s2 items ⟨T.Z', T.z0, s1.errors ++ new, dy⟩ := by
  obtain ⟨e, hm, he⟩ := hE
  obtain ⟨Y1, Q, hY⟩ := List.append_of_mem hm
  -- induction on the length of what is left of the common prefix
  generalize hk : P.length = k
  induction k using Nat.strongRecOn generalizing P s1 s2 with
  | ind k ih =>
    have hcur1 : s1.current.ty ≠ .eof := hne _ (by simp)
    have hcur2 : s2.current.ty ≠ .eof := by rw [hin.cur]; exact hcur1
    have hs' : strm s1 = ((s1.current :: P) ++ Y1) ++ e :: Q := by
      simp only [strm, hsrc, hY]; simp
    obtain ⟨C, P'', new1, hCne, hP'', hstrm1, _, herr1, _⟩ := step_stream num cls s1 _ e Q hs' he hcur1
    obtain ⟨hitem, htw⟩ := journalStep_tw num cls hin
    have hstep1 := fun items t => Runs.step num cls (items := items) (t := t) hcur1
    have hstep2 := fun items t => Runs.step num cls (items := items) (t := t) hcur2
    rw [hitem] at hstep2
    generalize (journalStep (listEnv num cls) s1).2 = t1 at *
    generalize (journalStep (listEnv num cls) s2).2 = t2 at *
    generalize (journalStep (listEnv num cls) s1).1 = item at *
    rcases htw with hin' | hat
    · -- still inside: the remaining prefix is shorter
      have ⟨_, _, _, P', hP1, _, _⟩ := hin'
      have hcons : s1.current :: P = C ++ t1.current :: P' := by
        have e1 : strm t1 = (t1.current :: P') ++ Y1 ++ e :: Q := by
          simp only [strm, hP1, hY]; simp
        have e2 : P'' = (t1.current :: P') ++ Y1 := List.append_cancel_right (hstrm1.symm.trans e1)
        rw [e2] at hP''
        have : (s1.current :: P) ++ Y1 = (C ++ t1.current :: P') ++ Y1 := by rw [hP'']; simp
        exact List.append_cancel_right this
      have hlen : P'.length < k := by
        have := congrArg List.length hcons
        have hc0 : 0 < C.length := List.length_pos_iff.2 hCne
        simp at this
        omega
      have hne' : ∀ t ∈ t1.current :: P', t.ty ≠ .eof := fun t ht =>
        hne t (by rw [hcons]; exact List.mem_append_right _ ht)
      obtain ⟨items, new2, dy, r1, r2⟩ := ih _ hlen P' t1 t2 hin' hP1 hne' rfl
      rw [herr1, List.append_assoc] at r1 r2
      exact ⟨item :: items, new1 ++ new2, dy, hstep1 _ _ r1, hstep2 _ _ r2⟩
    · -- both are in front of their tails
      obtain ⟨he2, hd2, c1, sr1, c2, sr2⟩ := hat
      have ht1 : t1 = ⟨T.Y', T.y0, s1.errors ++ new1, t1.defaultYear⟩ := by
        cases t1; simp at c1 sr1 herr1 ⊢; exact ⟨sr1, c1, herr1⟩
      have ht2 : t2 = ⟨T.Z', T.z0, s1.errors ++ new1, t1.defaultYear⟩ := by
        cases t2; simp at c2 sr2 he2 hd2 ⊢; exact ⟨sr2, c2, by rw [he2, herr1], hd2⟩
      exact ⟨[item], new1, t1.defaultYear, ht1 ▸ hstep1 _ _ (Runs.refl num cls t1),
        ht2 ▸ hstep2 _ _ (Runs.refl num cls t2)⟩

end HL.Parser
