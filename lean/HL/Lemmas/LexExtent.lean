import HL.Lemmas.Lexer
/-!
  Layer L3 of DESIGN 7.C03, part 1: the loops of the lexer on a known lexeme.

  `z.over l rest` is the state after stepping over the ASCII bytes `l` with `rest` left to read.
  Each lemma says: if the unread input is `l ++ rest`, every byte of `l` keeps the loop going
  and `rest` is empty or starts with a byte that stops it, the loop ends in `z.over l rest` —
  for lexemes of every length (induction on `l`), for every lexer state `z` (any line, column,
  consumed input) and every continuation `rest` that satisfies the explicit stop predicate.
-/
namespace HL.Lex
open HL HL.Utf8 Ctl

/-- the state after stepping over the ASCII bytes `l`, with `rest` still unread -/
def Z.over (z : Z) (l rest : Bytes) : Z :=
  ⟨l.reverse ++ z.before, rest, z.line, z.col + l.length, z.atStart⟩

/-- `rest` is empty or its first byte fails `p` -/
def Stops (p : UInt8 → Bool) (rest : Bytes) : Prop := ∀ c t, rest = c :: t → p c = false

theorem Stops.nil (p : UInt8 → Bool) : Stops p [] := by intro c t h; cases h

theorem Stops.cons {p : UInt8 → Bool} {c : UInt8} (t : Bytes) (h : p c = false) : Stops p (c :: t) := by
  intro c' t' h'; cases h'; exact h

@[simp] theorem over_after (z : Z) (l rest : Bytes) : (z.over l rest).after = rest := rfl
@[simp] theorem over_before (z : Z) (l rest : Bytes) : (z.over l rest).before = l.reverse ++ z.before := rfl
@[simp] theorem over_line (z : Z) (l rest : Bytes) : (z.over l rest).line = z.line := rfl
@[simp] theorem over_col (z : Z) (l rest : Bytes) : (z.over l rest).col = z.col + l.length := rfl
@[simp] theorem over_atStart (z : Z) (l rest : Bytes) : (z.over l rest).atStart = z.atStart := rfl

theorem over_nil (z : Z) (rest : Bytes) (h : z.after = rest) : z.over [] rest = z := by
  cases z; simp_all [Z.over]

theorem over_over (z : Z) (l1 r1 l2 r2 : Bytes) : (z.over l1 r1).over l2 r2 = z.over (l1 ++ l2) r2 := by
  simp [Z.over, Nat.add_assoc]

theorem over_position (z : Z) (l rest : Bytes) :
    (z.over l rest).position = ⟨z.line, z.col + l.length, z.before.length + l.length⟩ := by
  simp [Z.over, Z.position, Nat.add_comm]

theorem between_over (z : Z) (l rest : Bytes) : between z (z.over l rest) = l := by
  simp [between, Z.over]

theorem between_over_over (z : Z) (l1 r1 l2 r2 : Bytes) :
    between (z.over l1 r1) ((z.over l1 r1).over l2 r2) = l2 := between_over _ _ _

theorem advance_over {z : Z} {c : UInt8} {t : Bytes} (hz : z.after = c :: t) (hc : c < 0x80) :
    advance z = z.over [c] t := by
  rw [advance_ascii hz hc]; simp [Z.over]

theorem advF_over (q : Bytes → Bool) (l : Bytes) :
    ∀ (n : Nat) (z : Z) (rest : Bytes), z.after = l ++ rest → l.length ≤ n →
      (∀ l1 c l2, l = l1 ++ c :: l2 → q (c :: (l2 ++ rest)) = true ∧ c < 0x80) →
      (∀ c t, rest = c :: t → q (c :: t) = false) → advF q n z = z.over l rest := by
  induction l with
  | nil =>
    intro n z rest hz _ _ hstop
    rw [List.nil_append] at hz
    rw [over_nil z rest hz]
    refine loopF_none ?_ n
    cases rest with
    | nil => rw [advStep, hz]
    | cons c t => rw [advStep_cons q hz, hstop c t rfl]; rfl
  | cons c l ih =>
    intro n z rest hz hn hl hstop
    obtain ⟨n, rfl⟩ : ∃ k, n = k + 1 := ⟨n - 1, by simp at hn; omega⟩
    have hc := hl [] c l rfl
    have hz' : z.after = c :: (l ++ rest) := hz
    have hs : advStep q z = some (z.over [c] (l ++ rest)) := by
      rw [advStep_cons q hz', hc.1, advance_over hz' hc.2]; rfl
    rw [advF, loopF_some hs, ← advF, ih n _ rest rfl (by simpa using hn)
      (fun l1 d l2 e => hl (c :: l1) d l2 (by rw [e]; rfl)) hstop, over_over]
    rfl

theorem advWhile_over (p : UInt8 → Bool) {z : Z} {l rest : Bytes} (hz : z.after = l ++ rest)
    (hl : ∀ c ∈ l, p c = true ∧ c < 0x80) (hstop : Stops p rest) : advWhile p z = z.over l rest := by
  rw [advWhile_eq]
  exact advF_over _ l _ z rest hz (by simp [hz]) (fun l1 c l2 e => hl c (by simp [e])) hstop

/-- where `advLine p` stops: `rest` is empty, stands at a line end (LF, or CR LF), or its first
    byte fails `p` -/
def StopsL (p : UInt8 → Bool) (rest : Bytes) : Prop :=
  ∀ c t, rest = c :: t → (p c && !atEol (c :: t)) = false

theorem StopsL.nil (p : UInt8 → Bool) : StopsL p [] := by intro c t h; cases h

theorem StopsL.eol {p : UInt8 → Bool} {rest : Bytes} (h : atEol rest = true) : StopsL p rest := by
  intro c t hr; subst hr; simp [h]

theorem StopsL.lf (p : UInt8 → Bool) (t : Bytes) : StopsL p (LF :: t) := StopsL.eol rfl

theorem StopsL.crlf (p : UInt8 → Bool) (t : Bytes) : StopsL p (CR :: LF :: t) := StopsL.eol rfl

theorem StopsL.cons {p : UInt8 → Bool} {c : UInt8} (t : Bytes) (h : p c = false) : StopsL p (c :: t) := by
  intro c' t' h'; cases h'; simp [h]

/-- a stop of the loop that does not know about line ends (`q` fails at LF and wherever `p`
    fails) is a stop of `advLine p` -/
theorem StopsL.of_stops {p q : UInt8 → Bool} {rest : Bytes} (h : Stops q rest)
    (hq : ∀ c, q c = false → p c = false ∨ c = LF) : StopsL p rest := by
  intro c t hr
  rcases hq c (h c t hr) with h1 | h1
  · simp [h1]
  · subst h1; simp [atEol]

theorem advLine_over (p : UInt8 → Bool) {z : Z} {l rest : Bytes} (hz : z.after = l ++ rest)
    (hl : ∀ c ∈ l, p c = true ∧ c < 0x80 ∧ c ≠ LF ∧ c ≠ CR) (hstop : StopsL p rest) :
    advLine p z = z.over l rest := by
  rw [advLine_eq]
  refine advF_over _ l _ z rest hz (by simp [hz]) (fun l1 c l2 e => ?_) hstop
  obtain ⟨h1, h2, h3, h4⟩ := hl c (by simp [e])
  exact ⟨by simp only [lineP, headP, h1, atEol_of_ne h3 h4]; rfl, h2⟩

theorem skipSpaces_over {z : Z} {sp rest : Bytes} (hz : z.after = sp ++ rest)
    (hsp : ∀ c ∈ sp, c = 0x20) (hstop : Stops isBlank rest) : skipSpaces z = z.over sp rest := by
  unfold skipSpaces
  refine advWhile_over isBlank hz ?_ hstop
  intro c hc; rw [hsp c hc]; decide

theorem advWhile_none {p : UInt8 → Bool} {z : Z} (hstop : Stops p z.after) : advWhile p z = z := by
  rw [advWhile_over p (l := []) (rest := z.after) rfl (by simp) hstop, over_nil z _ rfl]

theorem skipSpaces_none {z : Z} (hstop : Stops isBlank z.after) : skipSpaces z = z := advWhile_none hstop

/-- what ends an account name: end of input, an account terminator, or two blanks -/
def AcctStop (rest : Bytes) : Prop :=
  rest = [] ∨ (∃ c t, rest = c :: t ∧ c < 0x80 ∧ isAccountTerminator c.toNat = true) ∨
  (∃ t, rest = 0x20 :: 0x20 :: t)

/-- a byte of a blank-free account name -/
def acctByte (c : UInt8) : Bool := c < 0x80 && c != 0x20 && !isAccountTerminator c.toNat

theorem acctAct_stop {rest : Bytes} (h : AcctStop rest) : acctAct rest = none := by
  rcases h with rfl | ⟨c, t, rfl, hc, ht⟩ | ⟨t, rfl⟩
  · rfl
  · have h20 : (c.toNat == 0x20) = false := by
      cases h : c.toNat == 0x20
      · rfl
      · rw [beq_iff_eq.mp h] at ht; cases ht
    simp only [acctAct, decodeRune_of_lt hc t, h20, ht, Bool.false_eq_true, if_false, if_true]
  · rfl

theorem acctAct_byte {c : UInt8} (t : Bytes) (h : acctByte c = true) : acctAct (c :: t) = some false ∧ c < 0x80 := by
  simp only [acctByte, Bool.and_eq_true, decide_eq_true_eq, bne_iff_ne, ne_eq, Bool.not_eq_true'] at h
  obtain ⟨⟨hc1, hc2⟩, hc3⟩ := h
  have h20 : (c.toNat == 0x20) = false := by
    cases h : c.toNat == 0x20
    · rfl
    · exact absurd (UInt8.toNat_inj.mp (by simpa using h)) hc2
  exact ⟨by simp only [acctAct, decodeRune_of_lt hc1 t, h20, hc3, Bool.false_eq_true, if_false], hc1⟩

theorem scanAccountF_over (a : Bytes) :
    ∀ (n : Nat) (z l : Z) (rest : Bytes), z.after = a ++ rest → a.length ≤ n →
      (∀ c ∈ a, acctByte c = true) → AcctStop rest →
      scanAccountF n z l = (z.over a rest, if a = [] then l else z.over a rest) := by
  induction a with
  | nil =>
    intro n z l rest hz _ _ hstop
    rw [List.nil_append] at hz
    rw [over_nil z rest hz, scanAccountF_eq, loopF_none (by rw [acctStep, hz, acctAct_stop hstop])]
    rfl
  | cons c a ih =>
    intro n z l rest hz hn ha hstop
    obtain ⟨n, rfl⟩ : ∃ k, n = k + 1 := ⟨n - 1, by simp at hn; omega⟩
    have hz' : z.after = c :: (a ++ rest) := hz
    obtain ⟨hc, hlt⟩ := acctAct_byte (a ++ rest) (ha c (by simp))
    have hs : acctStep (z, l) = some (z.over [c] (a ++ rest), z.over [c] (a ++ rest)) := by
      rw [acctStep, hz', hc, advance_over hz' hlt]; rfl
    rw [scanAccountF_eq, loopF_some hs, ← scanAccountF_eq,
      ih n _ _ rest rfl (by simpa using hn) (fun x hx => ha x (by simp [hx])) hstop, over_over]
    cases a <;> rfl

/-- what ends a number: end of input or a byte that is none of digit, `.`, `,`, `E`, `e`,
    and not a blank in front of a digit -/
def NumStop (rest : Bytes) : Prop :=
  ∀ c t, rest = c :: t → isDigit c = false ∧ c ≠ 0x2E ∧ c ≠ 0x2C ∧ c ≠ 0x45 ∧ c ≠ 0x65 ∧
    (c = 0x20 → headIsDigit t = false)

/-- a byte of a plain number: digit or `.` -/
def numByte (c : UInt8) : Bool := isDigit c || c == 0x2E

theorem numByte_lt {c : UInt8} (h : numByte c = true) : c < 0x80 := by
  simp only [numByte, isDigit, Bool.or_eq_true, Bool.and_eq_true, decide_eq_true_eq, beq_iff_eq] at h
  rcases h with h | h
  · exact Nat.lt_of_le_of_lt (UInt8.le_iff_toNat_le.mp h.2) (by decide)
  · rw [h]; decide

theorem numAct_stop {rest : Bytes} (h : NumStop rest) (hd : Bool) : numAct rest hd = none := by
  cases rest with
  | nil => rfl
  | cons c t =>
    obtain ⟨h1, h2, h3, h4, h5, h6⟩ := h c t rfl
    have e : ∀ k : UInt8, c ≠ k → (c == k) = false := fun k hk => by simpa using hk
    have h7 : (c == 0x20 && headIsDigit t) = false := by
      cases hc : c == 0x20
      · rfl
      · rw [h6 (beq_iff_eq.mp hc)]; rfl
    simp only [numAct, h1, e _ h2, e _ h3, e _ h4, e _ h5, h7, Bool.or_self, Bool.false_and,
      Bool.false_eq_true, if_false]

theorem numAct_byte {c : UInt8} (t : Bytes) (hd : Bool) (h : numByte c = true) :
    ∃ hd', numAct (c :: t) hd = some (false, hd') := by
  simp only [numByte, Bool.or_eq_true, beq_iff_eq] at h
  rcases h with h | rfl
  · exact ⟨true, by simp only [numAct, h, if_true]⟩
  · exact ⟨hd, rfl⟩

theorem scanNumberF_over (l : Bytes) :
    ∀ (n : Nat) (z : Z) (hd : Bool) (rest : Bytes), z.after = l ++ rest → l.length ≤ n →
      (∀ c ∈ l, numByte c = true) → NumStop rest → scanNumberF n z hd = z.over l rest := by
  induction l with
  | nil =>
    intro n z hd rest hz _ _ hstop
    rw [List.nil_append] at hz
    rw [over_nil z rest hz, scanNumberF_eq, loopF_none (by rw [numStep, hz, numAct_stop hstop])]
  | cons c l ih =>
    intro n z hd rest hz hn hl hstop
    obtain ⟨n, rfl⟩ : ∃ k, n = k + 1 := ⟨n - 1, by simp at hn; omega⟩
    have hz' : z.after = c :: (l ++ rest) := hz
    obtain ⟨hd', hc⟩ := numAct_byte (l ++ rest) hd (hl c (by simp))
    have hs : numStep (z, hd) = some (z.over [c] (l ++ rest), hd') := by
      rw [numStep, hz', hc, advance_over hz' (numByte_lt (hl c (by simp)))]; rfl
    rw [scanNumberF_eq, loopF_some hs, ← scanNumberF_eq,
      ih n _ hd' rest rfl (by simpa using hn) (fun x hx => hl x (by simp [hx])) hstop, over_over]
    rfl

end HL.Lex
