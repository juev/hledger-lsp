/-
  Helper lemmas for C17, rune boundaries: a byte offset is a *cut* of a string when it is the
  start of a rune (or the end) in the left-to-right decoding of the string.  At cuts the UTF-16
  cursor `colAt` measures UTF-16 lengths exactly (`colAt_add`, `colAt_lastPiece`); cuts of a
  piece between two cuts are cuts of the whole (`cut_slice`); the ends of a trimmed string
  (`cut_leadWs`, `cut_trimEnd`) and every ASCII byte (`cut_ascii`) are cuts.
-/
import HL.Lemmas.SemTokUtf
import HL.Spec.SemTokSpec
namespace HL.Lemmas.SemTok
open HL HL.SemTok HL.SemTokSpec

theorem decodeRune_take (s : Bytes) (n : Nat) (h : (decodeRune s).2 ≤ n) :
    decodeRune (s.take n) = decodeRune s := by
  rw [decodeRune_eq] at h
  rw [decodeRune_eq, decodeRune_eq, Utf8.decodeRune_take s n h]

theorem chunksF_fuel2 (f g : Nat) (s : Bytes) (h : s.length ≤ f) (h' : s.length ≤ g) :
    chunksF f s = chunksF g s := by
  induction f generalizing s g with
  | zero =>
    have : s = [] := by cases s with | nil => rfl | cons _ _ => simp at h
    subst this; cases g <;> rfl
  | succ f ih =>
    cases s with
    | nil => cases g <;> simp [chunksF]
    | cons b t =>
      cases g with
      | zero => simp at h'
      | succ g =>
        have hk1 := decodeRune_width_pos b t
        have hk2 := decodeRune_width_le b t
        simp only [List.length_cons] at h h' hk2
        have hl : ((b :: t).drop (decodeRune (b :: t)).2).length ≤ f := by
          simp only [List.length_drop, List.length_cons]; omega
        have hl' : ((b :: t).drop (decodeRune (b :: t)).2).length ≤ g := by
          simp only [List.length_drop, List.length_cons]; omega
        simp only [chunksF]
        rw [ih g _ hl hl']

theorem chunksF_fuel (f : Nat) (s : Bytes) (h : s.length ≤ f) : chunksF f s = chunks s :=
  chunksF_fuel2 f s.length s h (Nat.le_refl _)

theorem chunks_nil : chunks [] = [] := rfl

theorem chunks_cons (b : UInt8) (t : Bytes) :
    chunks (b :: t) = ((decodeRune (b :: t)).1, (b :: t).take (decodeRune (b :: t)).2)
      :: chunks ((b :: t).drop (decodeRune (b :: t)).2) := by
  have hk1 := decodeRune_width_pos b t
  have hk2 := decodeRune_width_le b t
  have hl' : ((b :: t).drop (decodeRune (b :: t)).2).length ≤ t.length := by
    simp only [List.length_drop, List.length_cons] at hk2 ⊢; omega
  simp only [chunks, List.length_cons, chunksF]
  rw [chunksF_fuel2 _ _ _ hl' (Nat.le_refl _)]

/-- Total byte length of a chunk list. -/
def clen (l : List (Nat × Bytes)) : Nat := (unchunk l).length

theorem clen_nil : clen [] = 0 := rfl
theorem clen_cons (c : Nat × Bytes) (l : List (Nat × Bytes)) : clen (c :: l) = c.2.length + clen l := by
  simp [clen, unchunk]
theorem clen_append (a b : List (Nat × Bytes)) : clen (a ++ b) = clen a + clen b := by
  simp [clen, unchunk_append]
theorem clen_chunks (s : Bytes) : clen (chunks s) = s.length := by simp [clen, unchunk_chunks]

/-- `n` is a rune boundary of `s`: the start of a rune, or the end, when `s` is decoded from its
    start (`for i := range s`). -/
def Cut (s : Bytes) (n : Nat) : Prop := ∃ j, n = clen ((chunks s).take j)

theorem cut_zero (s : Bytes) : Cut s 0 := ⟨0, rfl⟩
theorem cut_length (s : Bytes) : Cut s s.length :=
  ⟨(chunks s).length, by rw [List.take_length, clen_chunks]⟩

theorem cut_le {s : Bytes} {n : Nat} (h : Cut s n) : n ≤ s.length := by
  obtain ⟨j, rfl⟩ := h
  have := clen_chunks s
  have h2 : chunks s = (chunks s).take j ++ (chunks s).drop j := (List.take_append_drop j _).symm
  rw [h2, clen_append] at this
  omega

theorem chunks_take_drop (j : Nat) (s : Bytes) :
    chunks (s.take (clen ((chunks s).take j))) = (chunks s).take j ∧
    chunks (s.drop (clen ((chunks s).take j))) = (chunks s).drop j := by
  induction j generalizing s with
  | zero => simp [clen_nil, chunks_nil]
  | succ j ih =>
    cases s with
    | nil => simp [chunks_nil, clen_nil]
    | cons b t =>
      have hk1 := decodeRune_width_pos b t
      have hk2 := decodeRune_width_le b t
      rw [chunks_cons b t]
      simp only [List.take_succ_cons, List.drop_succ_cons, clen_cons, List.length_take]
      rw [Nat.min_eq_left hk2]
      obtain ⟨ih1, ih2⟩ := ih ((b :: t).drop (decodeRune (b :: t)).2)
      generalize hn : clen (List.take j (chunks (List.drop (decodeRune (b :: t)).2 (b :: t)))) = n at ih1 ih2
      constructor
      · have hk1' : (decodeRune (b :: t)).2 = (decodeRune (b :: t)).2 - 1 + 1 := by omega
        have htk : (b :: t).take ((decodeRune (b :: t)).2 + n) = b :: t.take ((decodeRune (b :: t)).2 - 1 + n) := by
          rw [show (decodeRune (b :: t)).2 + n = ((decodeRune (b :: t)).2 - 1 + n) + 1 by omega]
          rfl
        have hd := decodeRune_take (b :: t) ((decodeRune (b :: t)).2 + n) (by omega)
        rw [htk] at hd
        rw [htk, chunks_cons, hd, ← htk]
        simp only [List.take_take, List.drop_take]
        rw [Nat.min_eq_left (by omega), show (decodeRune (b :: t)).2 + n - (decodeRune (b :: t)).2 = n by omega, ih1]
      · rw [← List.drop_drop, ih2]

theorem chunks_cut {s : Bytes} {n : Nat} (h : Cut s n) :
    chunks s = chunks (s.take n) ++ chunks (s.drop n) := by
  obtain ⟨j, rfl⟩ := h
  obtain ⟨h1, h2⟩ := chunks_take_drop j s
  rw [h1, h2, List.take_append_drop]

theorem u16sum_append (a b : List Nat) : u16sum (a ++ b) = u16sum a + u16sum b := by
  induction a with
  | nil => simp [u16sum]
  | cons x xs ih => simp [u16sum, ih]; omega

theorem u16lenB_cut {s : Bytes} {n : Nat} (h : Cut s n) :
    u16lenB s = u16lenB (s.take n) + u16lenB (s.drop n) := by
  simp only [u16lenB, runes, chunks_cut h, List.map_append, u16sum_append]

theorem decodeRune_tail (s : Bytes) (j : Nat) (x : UInt8) (h0 : 0 < j) (h1 : j < (decodeRune s).2)
    (hx : s[j]? = some x) : 128 ≤ x.toNat := by
  rw [decodeRune_eq] at h1
  exact ((Utf8.isCont_iff x).mp (Utf8.isCont_of_lt_width h0 h1 hx)).1

theorem chunksF_pos (f : Nat) (s : Bytes) : ∀ c ∈ chunksF f s, 1 ≤ c.2.length := by
  induction f generalizing s with
  | zero => simp [chunksF]
  | succ f ih =>
    cases s with
    | nil => simp [chunksF]
    | cons b t =>
      have hk1 := decodeRune_width_pos b t
      have hk2 := decodeRune_width_le b t
      intro c hc
      simp only [chunksF, List.mem_cons] at hc
      rcases hc with rfl | hc
      · simp only [List.length_take]; omega
      · exact ih _ c hc

theorem chunks_pos (s : Bytes) : ∀ c ∈ chunks s, 1 ≤ c.2.length := chunksF_pos _ _

def colStep (col : Nat) (c : Nat × Bytes) : Nat := if c.1 == 0x0A then 0 else col + u16w c.1

/-- `colF` on the rune list. -/
def colC : List (Nat × Bytes) → Nat → Nat → Nat → Nat
  | [], _, col, _ => col
  | c :: cs, pos, col, off => if pos < off then colC cs (pos + c.2.length) (colStep col c) off else col

theorem colF_eq_colC (f : Nat) (s : Bytes) (pos col off : Nat) :
    colF f s pos col off = colC (chunksF f s) pos col off := by
  induction f generalizing s pos col with
  | zero => simp [colF, chunksF, colC]
  | succ f ih =>
    cases s with
    | nil => simp [colF, chunksF, colC]
    | cons b t =>
      have hk2 := decodeRune_width_le b t
      simp only [colF, chunksF, colC, colStep, List.length_take, Nat.min_eq_left hk2]
      split
      · exact ih _ _ _
      · rfl

theorem colC_prefix (l1 l2 : List (Nat × Bytes)) (pos col : Nat) (hp : ∀ c ∈ l1, 1 ≤ c.2.length) :
    colC (l1 ++ l2) pos col (pos + clen l1) = l1.foldl colStep col := by
  induction l1 generalizing pos col with
  | nil =>
    simp only [List.nil_append, clen_nil, Nat.add_zero, List.foldl_nil]
    cases l2 <;> simp [colC]
  | cons c l1 ih =>
    have hc := hp c List.mem_cons_self
    simp only [List.cons_append, colC, clen_cons, List.foldl_cons]
    rw [if_pos (by omega)]
    have := ih (pos + c.2.length) (colStep col c) (fun c' h' => hp c' (List.mem_cons_of_mem _ h'))
    rw [show pos + (c.2.length + clen l1) = pos + c.2.length + clen l1 by omega]
    exact this

theorem colAt_cut {text : Bytes} {a : Nat} (h : Cut text a) :
    colAt text a = (chunks (text.take a)).foldl colStep 0 := by
  obtain ⟨j, rfl⟩ := h
  rw [(chunks_take_drop j text).1]
  have := colC_prefix ((chunks text).take j) ((chunks text).drop j) 0 0
    (fun c hc => chunks_pos text c (List.mem_of_mem_take hc))
  rw [List.take_append_drop, Nat.zero_add] at this
  rw [← this, colAt, colF_eq_colC]
  rfl

/-- The bytes after the last line feed. -/
def lastPiece (p : Bytes) : Bytes := (splitOn lfB p).getLast?.getD []

theorem lastPiece_noLf (y : Bytes) (h : lfB ∉ y) : lastPiece y = y := by
  simp [lastPiece, splitOn_noSep lfB y h]

theorem lastPiece_after_lf (x y : Bytes) : lastPiece (x ++ lfB :: y) = lastPiece y := by
  rw [lastPiece, splitOn_append, splitOn, if_pos rfl, List.tail_cons,
    getLast?_append_of_ne_nil _ (List.cons_ne_nil _ _)]
  exact congrArg (·.getD []) (getLast?_append_of_ne_nil [_] (splitOn_ne_nil lfB y))

theorem lastPiece_append_of_lf (x y : Bytes) (h : lfB ∈ y) : lastPiece (x ++ y) = lastPiece y := by
  obtain ⟨u, v, rfl⟩ := List.append_of_mem h
  rw [← List.append_assoc, lastPiece_after_lf, lastPiece_after_lf]

/-- The column after the runes of `p`, entered with column `col`: the UTF-16 length of what
    follows the last line feed, plus `col` when there is none. -/
theorem foldl_colStep_chunks (p : Bytes) (col : Nat) :
    (chunks p).foldl colStep col = (if lfB ∈ p then 0 else col) + u16lenB (lastPiece p) := by
  generalize hn : p.length = n
  induction n using Nat.strongRecOn generalizing p col with
  | _ n ih =>
    cases p with
    | nil => simp [chunks_nil, lastPiece, splitOn, u16lenB, runes, u16sum]
    | cons b t =>
      -- one rune, then the rest: a line feed resets the column and starts the last piece anew,
      -- any other rune adds its width and holds no line feed
      have hk1 := decodeRune_width_pos b t
      have hk2 := decodeRune_width_le b t
      have hsplit : b :: t = (b :: t).take (decodeRune (b :: t)).2 ++ (b :: t).drop (decodeRune (b :: t)).2 :=
        (List.take_append_drop _ _).symm
      have hrl : ((b :: t).drop (decodeRune (b :: t)).2).length < n := by
        simp only [List.length_drop, ← hn, List.length_cons] at hk2 ⊢; omega
      have hIH := fun c => ih _ hrl ((b :: t).drop (decodeRune (b :: t)).2) c rfl
      have hu : u16lenB (b :: t) = u16w (decodeRune (b :: t)).1 + u16lenB ((b :: t).drop (decodeRune (b :: t)).2) := by
        simp only [u16lenB, runes, chunks_cons b t, List.map_cons, u16sum]
      rw [chunks_cons b t]
      simp only [List.foldl_cons]
      by_cases hb : b = lfB
      · subst hb
        have hd : decodeRune (lfB :: t) = (0x0A, 1) := (decodeRune_eq _).trans (Utf8.decodeRune_of_lt (by decide) t)
        have hrest := hIH 0
        simp only [hd, List.drop_succ_cons, List.drop_zero] at hrest ⊢
        have hl : lastPiece (lfB :: t) = lastPiece t := lastPiece_after_lf [] t
        simp only [colStep, beq_self_eq_true, if_true, List.mem_cons, true_or, hl, Nat.zero_add]
        rw [hrest]; split <;> simp
      · have hr : (decodeRune (b :: t)).1 ≠ 0x0A := fun e => hb (decodeRune_lf b t e)
        have hr' : ((decodeRune (b :: t)).1 == 0x0A) = false := by simpa using hr
        have hpre : lfB ∉ (b :: t).take (decodeRune (b :: t)).2 := by
          rw [decodeRune_eq]; exact Utf8.decodeRune_take_noLF b t hb
        have hrest := hIH (col + u16w (decodeRune (b :: t)).1)
        simp only [colStep, hr', Bool.false_eq_true, if_false]
        rw [hrest]
        by_cases hm : lfB ∈ (b :: t).drop (decodeRune (b :: t)).2
        · have hmp : lfB ∈ b :: t := by rw [hsplit]; exact List.mem_append_right _ hm
          have hl : lastPiece (b :: t) = lastPiece ((b :: t).drop (decodeRune (b :: t)).2) := by
            conv => lhs; rw [hsplit]
            exact lastPiece_append_of_lf _ _ hm
          rw [if_pos hm, if_pos hmp, hl]
        · have hmp : lfB ∉ b :: t := by
            rw [hsplit]; intro h
            rcases List.mem_append.mp h with h | h
            · exact hpre h
            · exact hm h
          rw [if_neg hm, if_neg hmp, lastPiece_noLf _ hm, lastPiece_noLf _ hmp, hu]
          omega

theorem clen_take_le (l : List (Nat × Bytes)) {i j : Nat} (h : j ≤ i) : clen (l.take j) ≤ clen (l.take i) := by
  have e := congrArg clen (List.take_append_drop j (l.take i))
  rw [clen_append, List.take_take, Nat.min_eq_left h] at e
  omega

theorem cut_take {s : Bytes} {a b : Nat} (ha : Cut s a) (hb : Cut s b) (hab : a ≤ b) :
    Cut (s.take b) a := by
  obtain ⟨i, rfl⟩ := ha
  obtain ⟨j, rfl⟩ := hb
  unfold Cut
  rw [(chunks_take_drop j s).1]
  by_cases hij : i ≤ j
  · exact ⟨i, by rw [List.take_take, Nat.min_eq_left hij]⟩
  · refine ⟨j, ?_⟩
    rw [List.take_take, Nat.min_self]
    have := clen_take_le (chunks s) (Nat.le_of_not_le hij)
    omega

theorem mem_slice_of (text : Bytes) (a b : Nat) (x : UInt8) (h : x ∈ sliceB text a b) :
    ∃ i, a ≤ i ∧ i < b ∧ text[i]? = some x := by
  obtain ⟨j, hj⟩ := List.getElem?_of_mem h
  simp only [sliceB] at hj
  have hlt : j < b - a := by
    have := (List.getElem?_eq_some_iff.mp hj).1
    simp only [List.length_take] at this
    omega
  rw [List.getElem?_take_of_lt hlt, List.getElem?_drop] at hj
  exact ⟨a + j, by omega, by omega, hj⟩

theorem noLf_slice_of_P {text : Bytes} {a b : Nat} (h : NoLfP text a b) : lfB ∉ sliceB text a b := by
  intro hm
  obtain ⟨i, h1, h2, h3⟩ := mem_slice_of text a b lfB hm
  exact h i h1 h2 h3

/-- **The cursor measures UTF-16 lengths.**  Between two rune boundaries of the text on one
    line the cursor advances by exactly the UTF-16 length of the text between them. -/
theorem colAt_add {text : Bytes} {a b : Nat} (ha : Cut text a) (hb : Cut text b) (hab : a ≤ b)
    (hl : NoLfP text a b) : colAt text b = colAt text a + u16lenB (sliceB text a b) := by
  have hc := cut_take ha hb hab
  have h1 := chunks_cut hc
  have e1 : (text.take b).take a = text.take a := by rw [List.take_take, Nat.min_eq_left hab]
  have e2 : (text.take b).drop a = sliceB text a b := by simp only [sliceB, List.drop_take]
  rw [e1, e2] at h1
  rw [colAt_cut hb, colAt_cut ha, h1]
  rw [List.foldl_append, foldl_colStep_chunks, if_neg (noLf_slice_of_P hl), lastPiece_noLf _ (noLf_slice_of_P hl)]

theorem colAt_lastPiece {text : Bytes} {a : Nat} (ha : Cut text a) :
    colAt text a = u16lenB (lastPiece (text.take a)) := by
  rw [colAt_cut ha, foldl_colStep_chunks]
  split <;> simp

theorem cut_succ_chunk (s : Bytes) (j : Nat) : Cut s (clen ((chunks s).take j)) := ⟨j, rfl⟩

/-- A boundary expressed with rune lists: `chunks s = l1 ++ l2 ++ l3` and `n` = the bytes of
    `l1` and of some first runes of `l2`. -/
theorem cut_of_append {s : Bytes} {l1 l2 l3 : List (Nat × Bytes)} (h : chunks s = l1 ++ l2 ++ l3)
    (m : Nat) : Cut s (clen l1 + clen (l2.take m)) := by
  refine ⟨l1.length + min m l2.length, ?_⟩
  have e1 : List.take (l1.length + min m l2.length) l1 = l1 := List.take_of_length_le (by omega)
  have e2 : l1.length + min m l2.length - l1.length = min m l2.length := by omega
  have e3 : List.take (min m l2.length) (l2 ++ l3) = List.take (min m l2.length) l2 :=
    List.take_append_of_le_length (Nat.min_le_right _ _)
  have e4 : List.take (min m l2.length) l2 = List.take m l2 := by
    by_cases hm : m ≤ l2.length
    · rw [Nat.min_eq_left hm]
    · rw [Nat.min_eq_right (by omega), List.take_length, List.take_of_length_le (by omega)]
  rw [h, List.append_assoc, List.take_append, e1, e2, e3, e4, clen_append]

theorem cut_drop {s : Bytes} {a b : Nat} (ha : Cut s a) (hb : Cut s b) (hab : a ≤ b) :
    Cut (s.drop a) (b - a) := by
  obtain ⟨i, rfl⟩ := ha
  obtain ⟨j, hj⟩ := hb
  unfold Cut
  rw [(chunks_take_drop i s).2]
  by_cases hij : i ≤ j
  · refine ⟨j - i, ?_⟩
    have e : (chunks s).take j = (chunks s).take i ++ ((chunks s).drop i).take (j - i) := by
      conv => lhs; rw [show j = i + (j - i) by omega, List.take_add]
    rw [hj, e, clen_append]; omega
  · refine ⟨0, ?_⟩
    have := clen_take_le (chunks s) (Nat.le_of_not_le hij)
    simp [clen_nil]; omega

theorem cut_slice {s : Bytes} {a b j : Nat} (ha : Cut s a) (hb : Cut s b) (hab : a ≤ b)
    (hj : Cut (sliceB s a b) j) : Cut s (a + j) := by
  have h1 := chunks_cut ha
  have h2 := chunks_cut (cut_drop ha hb hab)
  obtain ⟨m, rfl⟩ := hj
  have hsl : sliceB s a b = (s.drop a).take (b - a) := rfl
  have hc : chunks s = chunks (s.take a) ++ chunks (sliceB s a b) ++ chunks ((s.drop a).drop (b - a)) := by
    rw [h1, h2, hsl, List.append_assoc]
  have := cut_of_append hc m
  rw [clen_chunks, List.length_take, Nat.min_eq_left (cut_le ha)] at this
  exact this

theorem cut_leadWs (s : Bytes) : Cut s (leadWs s) := by
  let p : Nat × Bytes → Bool := fun c => isSpaceRune c.1
  have : (chunks s).takeWhile p = (chunks s).take ((chunks s).takeWhile p).length := by
    rw [List.takeWhile_eq_take_findIdx_not, List.length_take]
    simp only [List.take_eq_take_iff]
    omega
  refine ⟨((chunks s).takeWhile p).length, ?_⟩
  rw [← this]; rfl

theorem reverse_dropWhile_eq_take {α} (p : α → Bool) (x : List α) :
    (x.reverse.dropWhile p).reverse = x.take (x.length - (x.reverse.takeWhile p).length) := by
  have h := reverse_dropWhile_decomp p x
  have hl : x.length = (x.reverse.dropWhile p).length + (x.reverse.takeWhile p).length := by
    have := congrArg List.length h
    simpa using this
  conv => rhs; arg 2; rw [h]
  rw [List.take_append_of_le_length (by simp only [List.length_reverse]; omega)]
  rw [List.take_of_length_le (by simp only [List.length_reverse]; omega)]

theorem cut_trimEnd (s : Bytes) : Cut s (leadWs s + (trimSpace s).length) := by
  let p : Nat × Bytes → Bool := fun c => isSpaceRune c.1
  have hl : leadWs s = clen ((chunks s).takeWhile p) := rfl
  have ht : (trimSpace s).length = clen ((((chunks s).dropWhile p).reverse.dropWhile p).reverse) := rfl
  rw [hl, ht, reverse_dropWhile_eq_take]
  exact cut_of_append (l3 := []) (by rw [List.append_nil, List.takeWhile_append_dropWhile]) _

theorem cut_ascii (s : Bytes) (i : Nat) (x : UInt8) (hx : s[i]? = some x) (ha : x.toNat < 128) :
    Cut s i ∧ Cut s (i + 1) := by
  generalize hn : s.length = n
  induction n using Nat.strongRecOn generalizing s i with
  | _ n ih =>
    cases s with
    | nil => simp at hx
    | cons b t =>
      have hk1 := decodeRune_width_pos b t
      have hk2 := decodeRune_width_le b t
      have hch := chunks_cons b t
      by_cases hi : i < (decodeRune (b :: t)).2
      · -- `i` lies in the first rune: it is its first byte, and the rune is that byte
        have hi0 : i = 0 := by
          cases i with
          | zero => rfl
          | succ i =>
            have := decodeRune_tail (b :: t) (i + 1) x (by omega) hi hx
            omega
        subst hi0
        simp only [List.getElem?_cons_zero, Option.some.injEq] at hx
        subst hx
        have hd : decodeRune (b :: t) = (b.toNat, 1) :=
          (decodeRune_eq _).trans (Utf8.decodeRune_of_lt (by rw [UInt8.lt_iff_toNat_lt]; simpa using ha) t)
        refine ⟨cut_zero _, ⟨1, ?_⟩⟩
        rw [hch, hd]
        simp [clen_cons, clen_nil]
      · have hrl : ((b :: t).drop (decodeRune (b :: t)).2).length < n := by
          simp only [List.length_drop, ← hn, List.length_cons] at hk2 ⊢; omega
        have hx' : ((b :: t).drop (decodeRune (b :: t)).2)[i - (decodeRune (b :: t)).2]? = some x := by
          rw [List.getElem?_drop, show (decodeRune (b :: t)).2 + (i - (decodeRune (b :: t)).2) = i by omega]
          exact hx
        obtain ⟨⟨j1, h1⟩, ⟨j2, h2⟩⟩ := ih _ hrl _ _ hx' rfl
        have hlen : ((b :: t).take (decodeRune (b :: t)).2).length = (decodeRune (b :: t)).2 := by
          rw [List.length_take]; omega
        refine ⟨⟨j1 + 1, ?_⟩, ⟨j2 + 1, ?_⟩⟩
        · rw [hch, List.take_succ_cons, clen_cons, ← h1]; simp only [hlen]; omega
        · rw [hch, List.take_succ_cons, clen_cons, ← h2]; simp only [hlen]; omega

theorem cut_of_isCutF (f : Nat) (s : Bytes) (n : Nat) (h : isCutF f s n = true) : Cut s n := by
  induction f generalizing s n with
  | zero =>
    cases n with
    | zero => exact cut_zero _
    | succ n => simp [isCutF] at h
  | succ f ih =>
    cases n with
    | zero => exact cut_zero _
    | succ n =>
      cases s with
      | nil => simp [isCutF] at h
      | cons b t =>
        simp only [isCutF, Bool.and_eq_true, decide_eq_true_eq] at h
        obtain ⟨hk, hrec⟩ := h
        have hk2 := decodeRune_width_le b t
        obtain ⟨j, hj⟩ := ih _ _ hrec
        refine ⟨j + 1, ?_⟩
        rw [chunks_cons b t, List.take_succ_cons, clen_cons, ← hj]
        simp only [List.length_take, Nat.min_eq_left hk2]
        omega

theorem cut_of_isCut {s : Bytes} {n : Nat} (h : isCut s n = true) : Cut s n := cut_of_isCutF _ _ _ h

end HL.Lemmas.SemTok
