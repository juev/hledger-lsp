import HL.Model.Dec

/-! Exactness of the decimal model: every operation commutes with `toRat`. -/
namespace HL
namespace Dec

theorem ten_ne_zero : (10 : Rat) ≠ 0 := by decide

theorem pow10_pos (e : Int) : (0 : Rat) < (10 : Rat) ^ e := Rat.zpow_pos (by decide)
theorem pow10_ne_zero (e : Int) : (10 : Rat) ^ e ≠ 0 := by
  intro h
  have := pow10_pos e
  rw [h] at this
  exact Rat.lt_irrefl this

theorem intCast_pow10 (k : Nat) : (((10 : Int) ^ k : Int) : Rat) = (10 : Rat) ^ (k : Int) := by
  rw [Rat.intCast_pow, Rat.zpow_natCast]; rfl

theorem toRat_mk (c e : Int) : toRat ⟨c, e⟩ = (c : Rat) * (10 : Rat) ^ e := rfl

theorem toRat_scale (c e : Int) (k : Nat) :
    toRat ⟨c * 10 ^ k, e - k⟩ = toRat ⟨c, e⟩ := by
  simp only [toRat_mk, Rat.intCast_mul, intCast_pow10]
  have : (10 : Rat) ^ e = (10 : Rat) ^ (k : Int) * (10 : Rat) ^ (e - k) := by
    rw [← Rat.zpow_add ten_ne_zero]; congr 1; omega
  rw [this, Rat.mul_assoc]

theorem toRat_split (A B k : Nat) (e0 : Int) :
    toRat ⟨((A * 10 ^ k + B : Nat) : Int), e0 - k⟩ =
      ((A : Rat) + (B : Rat) / (10 : Rat) ^ k) * (10 : Rat) ^ e0 := by
  have hP : (10 : Rat) ^ k ≠ 0 := by
    have := pow10_ne_zero (k : Int)
    rwa [Rat.zpow_natCast] at this
  rw [toRat_mk, Int.sub_eq_add_neg, Rat.zpow_add ten_ne_zero, Rat.zpow_neg, Rat.zpow_natCast,
    Rat.intCast_natCast, Rat.natCast_add, Rat.natCast_mul, Rat.natCast_pow]
  show ((A : Rat) * (10 : Rat) ^ k + _) * _ = _
  -- distribute; `10 ^ k * (10 ^ k)⁻¹ = 1` by `hP`
  grind

theorem rescale_toRat {d : Dec} {e : Int} (h : e ≤ d.exp) : toRat (rescale d e) = toRat d := by
  unfold rescale
  rw [if_neg (by omega)]
  have := toRat_scale d.coef d.exp (d.exp - e).toNat
  have he : d.exp - ((d.exp - e).toNat : Int) = e := by omega
  rw [he] at this
  exact this

theorem rescale_exp (d : Dec) (e : Int) : (rescale d e).exp = e := by
  unfold rescale; split <;> rfl

theorem rescalePair_spec (a b : Dec) :
    toRat (rescalePair a b).1 = toRat a ∧ toRat (rescalePair a b).2 = toRat b ∧
    (rescalePair a b).1.exp = (rescalePair a b).2.exp := by
  unfold rescalePair
  split
  · refine ⟨rfl, rescale_toRat (by omega), ?_⟩
    simp [rescale_exp]
  · split
    · refine ⟨rescale_toRat (by omega), rfl, ?_⟩
      simp [rescale_exp]
    · refine ⟨rfl, rfl, ?_⟩
      show a.exp = b.exp
      omega

theorem add_exact (a b : Dec) : toRat (add a b) = toRat a + toRat b := by
  obtain ⟨h1, h2, h3⟩ := rescalePair_spec a b
  rw [← h1, ← h2]
  simp only [add, toRat, Rat.intCast_add, h3]
  rw [Rat.add_mul]

theorem sub_exact (a b : Dec) : toRat (sub a b) = toRat a - toRat b := by
  obtain ⟨h1, h2, h3⟩ := rescalePair_spec a b
  rw [← h1, ← h2]
  simp only [sub, toRat, Rat.intCast_sub, h3]
  rw [Rat.sub_eq_add_neg, Rat.add_mul, Rat.neg_mul, ← Rat.sub_eq_add_neg]

theorem neg_exact (a : Dec) : toRat (neg a) = -toRat a := by
  simp only [neg, toRat, Rat.intCast_neg, Rat.neg_mul]

theorem toRat_zero : toRat zero = 0 := by
  simp [zero, toRat]

theorem toRat_zeroValue : toRat zeroValue = 0 := by
  simp [zeroValue, toRat]

theorem toRat_lt_iff (c₁ c₂ e : Int) : toRat ⟨c₁, e⟩ < toRat ⟨c₂, e⟩ ↔ c₁ < c₂ := by
  rw [← Rat.intCast_lt_intCast]
  exact ⟨fun h => Rat.lt_of_mul_lt_mul_right h (Rat.le_of_lt (pow10_pos e)),
    fun h => Rat.mul_lt_mul_of_pos_right h (pow10_pos e)⟩

theorem toRat_eq_iff (c₁ c₂ e : Int) : toRat ⟨c₁, e⟩ = toRat ⟨c₂, e⟩ ↔ c₁ = c₂ := by
  refine ⟨fun h => ?_, fun h => by rw [h]⟩
  have h' := congrArg (· * ((10 : Rat) ^ e)⁻¹) h
  simp only [toRat_mk, Rat.mul_assoc, Rat.mul_inv_cancel _ (pow10_ne_zero _), Rat.mul_one] at h'
  exact Rat.intCast_inj.1 h'

theorem toRat_coef_zero (e : Int) : toRat ⟨0, e⟩ = 0 := by simp [toRat]

theorem toRat_eq_zero_iff (a : Dec) : toRat a = 0 ↔ a.coef = 0 := by
  rw [← toRat_coef_zero a.exp]; exact toRat_eq_iff a.coef 0 a.exp

theorem isZero_iff (a : Dec) : isZero a = true ↔ toRat a = 0 := by
  rw [toRat_eq_zero_iff]; simp [isZero]

theorem toRat_neg_iff (a : Dec) : toRat a < 0 ↔ a.coef < 0 := by
  rw [← toRat_coef_zero a.exp]; exact toRat_lt_iff a.coef 0 a.exp

theorem isNegative_iff (a : Dec) : isNegative a = true ↔ toRat a < 0 := by
  rw [toRat_neg_iff]; simp [isNegative]

theorem toRat_pos_iff (a : Dec) : 0 < toRat a ↔ 0 < a.coef := by
  rw [← toRat_coef_zero a.exp]; exact toRat_lt_iff 0 a.coef a.exp

theorem isPositive_iff (a : Dec) : isPositive a = true ↔ 0 < toRat a := by
  rw [toRat_pos_iff]; simp [isPositive]

/-- `|x|` on rationals, written out. -/
def rabs (q : Rat) : Rat := if q < 0 then -q else q

theorem abs_exact (a : Dec) : toRat (abs a) = rabs (toRat a) := by
  unfold abs rabs
  by_cases h : isNegative a = true
  · have hc : a.coef < 0 := by simpa [isNegative] using h
    rw [if_pos h, if_pos ((isNegative_iff a).1 h)]
    have : (Int.ofNat a.coef.natAbs) = -a.coef := by
      simp only [Int.ofNat_eq_natCast]; omega
    rw [this]
    exact neg_exact a
  · rw [if_neg h, if_neg (fun hh => h ((isNegative_iff a).2 hh))]

theorem abs_nonneg (a : Dec) : 0 ≤ (abs a).coef := by
  unfold abs
  split
  · simp
  · rename_i h
    simp [isNegative] at h
    exact h

theorem mul_exact {a b m : Dec} (h : mul a b = some m) : toRat m = toRat a * toRat b := by
  unfold mul at h
  simp only at h
  split at h
  · cases h
  · cases h
    simp only [toRat, Rat.intCast_mul, Rat.zpow_add ten_ne_zero]
    -- the four factors regrouped
    grind

theorem mul_eq_none_iff (a b : Dec) :
    mul a b = none ↔ (a.exp + b.exp > int32Max ∨ a.exp + b.exp < int32Min) := by
  unfold mul
  simp only
  split <;> simp_all

theorem sign_exact (a : Dec) :
    sign a = if toRat a < 0 then -1 else if toRat a = 0 then 0 else 1 := by
  unfold sign
  simp only [toRat_neg_iff, toRat_eq_zero_iff]

theorem cmp_exact (a b : Dec) :
    cmp a b = if toRat a < toRat b then -1 else if toRat a = toRat b then 0 else 1 := by
  obtain ⟨h1, h2, h3⟩ := rescalePair_spec a b
  unfold cmp
  generalize rescalePair a b = p at *
  obtain ⟨⟨c₁, e₁⟩, ⟨c₂, e₂⟩⟩ := p
  cases h3
  simp only [← h1, ← h2, toRat_lt_iff, toRat_eq_iff]

theorem equal_iff (a b : Dec) : equal a b = true ↔ toRat a = toRat b := by
  unfold equal
  rw [cmp_exact]
  by_cases h1 : toRat a < toRat b
  · have : toRat a ≠ toRat b := fun e => Rat.lt_irrefl (e ▸ h1)
    simp [h1, this]
  · by_cases h2 : toRat a = toRat b <;> simp [h1, h2]

end Dec
end HL
