import HL.Lemmas.LexLexeme
import HL.Lemmas.LexExtentTok
/-!
  A text token whose first rune is not white space covers exactly its value: with nothing to trim
  on the left, `strings.TrimSpace(scanned)` (the value) and
  `strings.TrimRightFunc(scanned, unicode.IsSpace)` (the extent) are the same string
  (`trimSpace_eq_trimRight`, `next_textExact`).  Behind `skipSpaces` only white space other than
  blank and tab — VT, FF, a lone CR, NEL, NBSP and the Unicode spaces — can stand at the start of
  a text token; there the extent keeps that white space in front of the value (the token's Pos is
  where the scan started).
-/
namespace HL.Lex
open HL HL.Utf8 HL.Spec.LexSpec

theorem asciiSpace_eq_rune {c : UInt8} (hc : c < 0x80) : asciiSpace c = isSpaceRune c.toNat := by
  have : ∀ c : UInt8, (!(decide (c < 0x80)) || (asciiSpace c == isSpaceRune c.toNat)) = true :=
    forall_uint8 _ (by decide +kernel)
  simpa [hc] using this c

/-- the second loop of `strings.TrimSpace` (ASCII blanks from the end, then `TrimRightFunc` at
    the first byte that is not ASCII) is `TrimRightFunc` -/
theorem trimSpaceRight_eq (rs : Bytes) : trimSpaceRight rs = trimRightFunc rs.reverse := by
  induction rs with
  | nil => simp [trimSpaceRight, trimRightFunc, lastIndexNotSpaceF]
  | cons c t ih =>
    unfold trimSpaceRight
    by_cases hc : c ≥ 0x80
    · rw [if_pos hc]
    · rw [if_neg hc]
      have hlt : c < 0x80 := by simpa [UInt8.not_le] using hc
      have hrev : (c :: t).reverse = t.reverse ++ [c] := by simp
      by_cases hs : asciiSpace c = true
      · rw [if_pos hs, ih, hrev, trimRightFunc_snoc_space _ _ hlt (by rw [← asciiSpace_eq_rune hlt]; exact hs)]
      · rw [if_neg hs, hrev, trimRightFunc_id _ _ hlt (by simpa using hs)]

/-- **`strings.TrimSpace` is `TrimRightFunc` after `TrimLeftFunc`** (`unicode.IsSpace` both), on
    every byte string: the ASCII fast paths of `TrimSpace` change nothing. -/
theorem trimSpace_eq (s : Bytes) : trimSpace s = trimRightFunc (trimLeftFuncF s.length s) := by
  induction s with
  | nil => rfl
  | cons c t ih =>
    unfold trimSpace
    by_cases hc : c ≥ 0x80
    · rw [if_pos hc]
    · rw [if_neg hc]
      have hlt : c < 0x80 := by simpa [UInt8.not_le] using hc
      simp only [List.length_cons, trimLeftFuncF, decodeRune_of_lt hlt t, ← asciiSpace_eq_rune hlt, List.drop_succ_cons,
        List.drop_zero]
      by_cases hs : asciiSpace c = true
      · rw [if_pos hs, if_pos hs, ih]
      · rw [if_neg hs, if_neg hs, trimSpaceRight_eq, List.reverse_reverse]

/-- **Nothing to trim on the left: `TrimSpace` is `TrimRightFunc`.** -/
theorem trimSpace_eq_trimRight (c : UInt8) (t : Bytes) (h : isSpaceRune (decodeRune (c :: t)).1 = false) :
    trimSpace (c :: t) = trimRightFunc (c :: t) := by
  rw [trimSpace_eq]
  simp only [List.length_cons, trimLeftFuncF, h, Bool.false_eq_true, if_false]

theorem trimRightFunc_ne_nil (c : UInt8) (t : Bytes) (h : isSpaceRune (decodeRune (c :: t)).1 = false) :
    trimRightFunc (c :: t) ≠ [] := by
  intro e
  obtain ⟨tl, h1, h2, _⟩ := trimRightFunc_spec (c :: t)
  rw [e, List.nil_append] at h1
  rw [← h1, wsOnly_cons, h] at h2
  simp at h2

/-- A text token whose first rune — the rune at its Pos — is not white space covers exactly its
    value. -/
def TextExact (r : Token × Z) : Prop :=
  r.1.ty = .text → isSpaceRune (decodeRune (r.2.input.drop r.1.pos.off)).1 = false → extOf r = r.1.val

theorem scanText_textExact (z : Z) : TextExact (scanText z) := by
  intro _ hns
  have ha := advLine_adv (fun ch => !(ch == 0x3B || ch == 0x7C)) z
  have hstopL := advLine_stop (fun ch => !(ch == 0x3B || ch == 0x7C)) z
  rw [extOf_scanText]
  have hv : (scanText z).1.val = trimSpace (between z (advLine (fun ch => !(ch == 0x3B || ch == 0x7C)) z)) := rfl
  have hin : (scanText z).2.input = z.input := ha.input
  have hpo : (scanText z).1.pos.off = z.before.length := rfl
  rw [hv]
  rw [hin, hpo, input_drop_before] at hns
  generalize advLine (fun ch => !(ch == 0x3B || ch == 0x7C)) z = e at ha hstopL ⊢
  obtain ⟨pre, hpa, hpb⟩ := ha
  have hbw : between z e = pre := between_eq_of_before hpb
  rw [hbw]
  cases pre with
  | nil => simp [trimSpace, trimRightFunc, lastIndexNotSpaceF]
  | cons c t =>
    -- what stops the scan (`;`, `|`, a line end) is not a continuation byte: it is not read with the
    -- first rune
    have hd : decodeRune (c :: t ++ e.after) = decodeRune (c :: t) := by
      cases hea : e.after with
      | nil => rw [List.append_nil]
      | cons d x =>
        refine decodeRune_append_stop (c :: t) (by simp) ?_ x
        have := hstopL d x hea
        simp only [Bool.and_eq_false_iff, Bool.not_eq_false', Bool.or_eq_true, beq_iff_eq] at this
        rcases this with (rfl | rfl) | h
        · decide
        · decide
        · rcases atEol_cases h with ⟨_, hh⟩ | ⟨_, hh⟩ <;> (rw [(List.cons.inj hh).1]; decide)
    rw [hpa, hd] at hns
    rw [if_neg (trimRightFunc_ne_nil c t hns), trimSpace_eq_trimRight c t hns]

/-- **A text token that does not start with white space covers exactly its value** — for every
    state, every byte string and every classifier. -/
theorem next_textExact (C : Classes) (z : Z) : TextExact (next C z) := by
  rcases next_textOr C z with ⟨z', e⟩ | h
  · rw [e]; exact scanText_textExact z'
  · exact fun e => absurd e h.1

end HL.Lex
