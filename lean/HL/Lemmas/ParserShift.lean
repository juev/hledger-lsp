import HL.Lemmas.ParserList
/-
  The parser does not look at positions, it only copies them (`parseTags` alone computes some:
  it adds to a base).  So a map `φ` on parser states that moves every position a state holds by
  `d` and commutes with `advance`, `errorAt` and the year update (`Equivariant`) commutes with
  every parse function, and every position in the result — syntax-tree ranges, error positions,
  tag ranges — is moved by `d`:

      f E (φ st) = (d.<result> (f E st).1, φ (f E st).2)

  Instances: every token of a token list moved by `d`, lines / bytes inserted in front of it
  (`shiftSt`, `parseTokens_shift`), and an extra prefix on the error list, nothing moved
  (`addPre`, HL/Lemmas/ParserErrPre.lean).  Positions with line 0 are the parser's "not set"
  placeholders (`ast.Range{}` ends that Go leaves zero, and the EOF an exhausted list answers
  with); they stay as they are.
-/
namespace HL.Parser
open HL HL.Ast

/-- Lines and bytes inserted in front of a region of the file, and `perLine` more bytes in front
    of a position for every line end that precedes it (`perLine = 1`: every LF of the region
    became CR LF; `perLine = 0`: a plain shift). -/
structure Shift where
  dl : Nat
  doff : Nat
  perLine : Nat := 0

namespace Shift
variable (d : Shift)

def pos (p : Pos) : Pos :=
  if p.line = 0 then p else ⟨p.line + d.dl, p.col, p.off + d.doff + d.perLine * (p.line - 1)⟩
def rng (r : Rng) : Rng := ⟨d.pos r.start, d.pos r.stop⟩
def tok (t : Token) : Token := ⟨t.ty, t.val, d.pos t.pos, d.pos t.stop⟩
def tag (t : Tag) : Tag := ⟨t.name, t.value, d.rng t.range⟩
def comment (c : Comment) : Comment := ⟨c.text, c.tags.map d.tag, d.rng c.range⟩
def date (x : Date) : Date := ⟨x.year, x.month, x.day, d.rng x.range⟩
def account (a : Account) : Account := ⟨a.name, d.rng a.range⟩
def commodity (c : Commodity) : Commodity := ⟨c.symbol, c.side, d.rng c.range⟩
def amount (a : Amount) : Amount := ⟨a.quantity, a.raw, d.commodity a.commodity, a.signBeforeCommodity, d.rng a.range⟩
def cost (c : Cost) : Cost := ⟨d.amount c.amount, c.isTotal, d.rng c.range⟩
def assertion (a : Assertion) : Assertion := ⟨d.amount a.amount, a.isStrict, a.isInclusive, d.rng a.range⟩
def posting (p : Posting) : Posting :=
  ⟨p.status, d.account p.account, p.amount.map d.amount, p.assertion.map d.assertion, p.cost.map d.cost,
   p.comment, p.tags.map d.tag, p.virt, d.rng p.range⟩
def tx (t : Transaction) : Transaction :=
  ⟨d.date t.date, t.date2.map d.date, t.status, t.code, t.description, t.payee, t.note,
   t.postings.map d.posting, t.tags.map d.tag, t.comments.map d.comment, d.rng t.range⟩
def incl (i : Include) : Include := ⟨i.path, d.rng i.range⟩
def dir : Directive → Directive
  | .account a tags c sub r => .account (d.account a) (tags.map d.tag) c sub (d.rng r)
  | .commodity c f n sub r => .commodity (d.commodity c) f n sub (d.rng r)
  | .price dt c p r => .price (d.date dt) (d.commodity c) (d.amount p) (d.rng r)
  | .year y r => .year y (d.rng r)
  | .defaultCommodity s f r => .defaultCommodity s f (d.rng r)
def perr (e : ParseError) : ParseError := ⟨e.msg, d.pos e.pos⟩
def dirResult : DirResult → DirResult
  | .none => .none
  | .incl i => .incl (d.incl i)
  | .dir x => .dir (d.dir x)
def item : Item → Item
  | .nothing => .nothing
  | .comment c => .comment (d.comment c)
  | .tx t => .tx (d.tx t)
  | .incl i => .incl (d.incl i)
  | .dir x => .dir (d.dir x)
def journal (j : Journal) : Journal :=
  ⟨j.transactions.map d.tx, j.directives.map d.dir, j.comments.map d.comment, j.includes.map d.incl⟩

@[simp] theorem pos_zero : d.pos Pos.zero = Pos.zero := rfl
@[simp] theorem rng_zero : d.rng Rng.zero = Rng.zero := rfl
@[simp] theorem commodity_empty : d.commodity emptyCommodity = emptyCommodity := rfl
@[simp] theorem tok_eof : d.tok eofToken = eofToken := rfl
@[simp] theorem tok_ty (t : Token) : (d.tok t).ty = t.ty := rfl
@[simp] theorem tok_val (t : Token) : (d.tok t).val = t.val := rfl
@[simp] theorem tok_pos (t : Token) : (d.tok t).pos = d.pos t.pos := rfl
@[simp] theorem tok_stop (t : Token) : (d.tok t).stop = d.pos t.stop := rfl
end Shift

section
variable (d : Shift)

@[simp] theorem isLineEnd_shift (t : Token) : isLineEnd (d.tok t) = isLineEnd t := rfl

theorem ofDir_shift (x : Option Directive) :
    DirResult.ofDir (x.map d.dir) = d.dirResult (DirResult.ofDir x) := by cases x <;> rfl

theorem jpush_shift (j : Journal) (it : Item) : d.journal (jpush j it) = jpush (d.journal j) (d.item it) := by
  cases it <;> rfl

/-- Within a line a shift is a translation: all that `parseTags` needs of it. -/
theorem Shift.pos_add (p : Pos) (a b : Nat) :
    d.pos ⟨p.line, p.col + a, p.off + b⟩ = ⟨(d.pos p).line, (d.pos p).col + a, (d.pos p).off + b⟩ := by
  unfold Shift.pos
  split
  · rfl
  · simp only [Pos.mk.injEq, true_and]; omega

theorem parseTagPart_shift (text : Bytes) (base : Pos) (s : Nat) (part : Bytes) :
    parseTagPart text (d.pos base) s part = (parseTagPart text base s part).map (fun r => (d.tag r.1, r.2)) := by
  unfold parseTagPart
  simp only []
  split
  · rfl
  · split
    · rfl
    · split
      · rfl
      · simp only [Option.map_some, Shift.tag, Shift.rng, Nat.add_assoc, Shift.pos_add]

theorem parseTagsLoop_shift (text : Bytes) (base : Pos) (parts : List Bytes) (s : Nat) :
    parseTagsLoop text (d.pos base) parts s = (parseTagsLoop text base parts s).map d.tag := by
  induction parts generalizing s with
  | nil => rfl
  | cons p r ih =>
    unfold parseTagsLoop
    rw [parseTagPart_shift]
    cases h : parseTagPart text base s p with
    | none => simp [ih]
    | some x => simp [ih]

theorem parseTags_shift (text : Bytes) (base : Pos) :
    parseTags text (d.pos base) = (parseTags text base).map d.tag := by
  unfold parseTags
  split
  · rfl
  · exact parseTagsLoop_shift d text base _ 0

end

theorem pair_ite {α β α' β' : Type} (f : α → α') (g : β → β') (c : Prop) [Decidable c] (a b : α × β) :
    (f (if c then a else b).1, g (if c then a else b).2) = if c then (f a.1, g a.2) else (f b.1, g b.2) := by
  split <;> rfl

structure Equivariant {σ : Type} (E : Env σ) (d : Shift) (φ : PState σ → PState σ) : Prop where
  current : ∀ st, (φ st).current = d.tok st.current
  advance : ∀ st, advance E (φ st) = φ (advance E st)
  errorAt : ∀ st p m, errorAt (φ st) (d.pos p) m = φ (errorAt st p m)
  defaultYear : ∀ st, (φ st).defaultYear = st.defaultYear
  setYear : ∀ st y, { φ st with defaultYear := y } = φ { st with defaultYear := y }
  fuelOf : ∀ st, fuelOf E (φ st) = fuelOf E st

/-- `F'` on a moved state does what `F` does, the value moved by `m`. -/
abbrev Moved {σ : Type} (φ : PState σ → PState σ) {α β : Type} (m : α → β) (F : PState σ → α × PState σ)
    (F' : PState σ → β × PState σ) : Prop := ∀ st, F' (φ st) = (m (F st).1, φ (F st).2)

section
variable {σ : Type} {E : Env σ} {d : Shift} {φ : PState σ → PState σ} (h : Equivariant E d φ)
include h

theorem Equivariant.ty (st : PState σ) : (φ st).current.ty = st.current.ty := by rw [h.current]; rfl
theorem Equivariant.val (st : PState σ) : (φ st).current.val = st.current.val := by rw [h.current]; rfl
theorem Equivariant.pos (st : PState σ) : (φ st).current.pos = d.pos st.current.pos := by rw [h.current]; rfl
theorem Equivariant.stop (st : PState σ) : (φ st).current.stop = d.pos st.current.stop := by rw [h.current]; rfl
theorem Equivariant.isLineEnd (st : PState σ) : isLineEnd (φ st).current = isLineEnd st.current := by
  rw [h.current]; rfl
theorem Equivariant.directiveCommodity (st : PState σ) :
    directiveCommodity (φ st).current = d.commodity (directiveCommodity st.current) := by rw [h.current]; rfl
theorem Equivariant.error (st : PState σ) (m) : error (φ st) m = φ (error st m) := by
  simp only [HL.Parser.error, h.pos, h.errorAt]

theorem parseComment_eqv : Moved φ d.comment (parseComment E) (parseComment E) := by
  intro st
  simp only [parseComment, h.val, h.pos, h.advance, parseTags_shift]; rfl

theorem parseDate_eqv : Moved φ (Option.map d.date) (parseDate E) (parseDate E) := by
  intro st
  simp only [parseDate, h.ty, h.val, h.pos, h.stop, h.advance, h.error, h.errorAt, h.defaultYear]
  repeat' split
  all_goals rfl

theorem parseStatus_eqv : Moved φ (·) (parseStatus E) (parseStatus E) := by
  intro st
  -- `pair_ite` moves the maps into the branches: a `split` on the parser's nested conditionals is slow
  simp only [parseStatus, h.ty, h.val, h.advance, pair_ite (·) φ]

theorem amountLeadSign_eqv : Moved φ (·) (amountLeadSign E) (amountLeadSign E) := by
  intro st
  simp only [amountLeadSign, h.ty, h.val, h.advance, pair_ite (·) φ]

theorem amountLeftCommodity_eqv (sg sb) :
    Moved φ (fun r => (d.commodity r.1, r.2)) (amountLeftCommodity E sg sb) (amountLeftCommodity E sg sb) := by
  intro st
  simp only [amountLeftCommodity, h.ty, h.val, h.pos, h.stop, h.advance,
    pair_ite (fun r : Commodity × Bool => (d.commodity r.1, r.2)) φ]
  rfl

theorem amountSecondSign_eqv (sg) : Moved φ (·) (amountSecondSign E sg) (amountSecondSign E sg) := by
  intro st
  simp only [amountSecondSign, h.ty, h.val, h.advance, pair_ite (·) φ]

theorem amountRightCommodity_eqv (c stop) :
    Moved φ (fun r => (d.commodity r.1, d.pos r.2)) (amountRightCommodity E c stop) (amountRightCommodity E (d.commodity c) (d.pos stop)) := by
  intro st
  simp only [amountRightCommodity, h.ty, h.val, h.pos, h.stop, h.advance, show (d.commodity c).symbol = c.symbol from rfl,
    pair_ite (fun r : Commodity × Pos => (d.commodity r.1, d.pos r.2)) φ]
  rfl

theorem amountNumber_eqv (sp sg c sb) :
    Moved φ (Option.map d.amount) (amountNumber E sp sg c sb) (amountNumber E (d.pos sp) sg (d.commodity c) sb) := by
  intro st
  simp only [amountNumber, h.ty, h.val, h.stop, h.error, h.advance, amountRightCommodity_eqv h]
  split
  · rfl
  · split
    · rfl
    · split <;> rfl

theorem parseAmount_eqv : Moved φ (Option.map d.amount) (parseAmount E) (parseAmount E) := by
  intro st
  simp only [parseAmount, h.pos, amountLeadSign_eqv h, amountLeftCommodity_eqv h, amountSecondSign_eqv h,
    amountNumber_eqv h]

theorem parseCost_eqv : Moved φ (Option.map d.cost) (parseCost E) (parseCost E) := by
  intro st
  simp only [parseCost, h.pos, h.ty, h.advance, parseAmount_eqv h]
  rcases parseAmount E (advance E st) with ⟨_ | a, st'⟩
  · rfl
  · simp only [Option.map_some, h.pos]; rfl

theorem parseBalanceAssertion_eqv :
    Moved φ (Option.map d.assertion) (parseBalanceAssertion E) (parseBalanceAssertion E) := by
  intro st
  simp only [parseBalanceAssertion, h.pos, h.ty, h.advance, parseAmount_eqv h]
  rcases parseAmount E (advance E st) with ⟨_ | a, st'⟩
  · rfl
  · simp only [Option.map_some, h.pos]; rfl

theorem skipLoopF_eqv (n : Nat) (st : PState σ) : skipLoopF E n (φ st) = φ (skipLoopF E n st) := by
  induction n generalizing st with
  | zero => rfl
  | succ n ih => simp only [skipLoopF, h.isLineEnd, h.advance, ih, apply_ite φ]

theorem skipToNextLine_eqv (st : PState σ) : skipToNextLine E (φ st) = φ (skipToNextLine E st) := by
  simp only [skipToNextLine, h.fuelOf, skipLoopF_eqv h, h.ty, h.advance, apply_ite φ]

theorem skipUntilF_eqv (b : Bool) (n : Nat) (st : PState σ) :
    skipUntilF E b n (φ st) = φ (skipUntilF E b n st) := by
  induction n generalizing st with
  | zero => rfl
  | succ n ih => simp only [skipUntilF, h.isLineEnd, h.ty, h.advance, ih, apply_ite φ]

theorem subValueF_eqv (n : Nat) (st : PState σ) (acc : Bytes) :
    subValueF E n (φ st) acc = ((subValueF E n st acc).1, φ (subValueF E n st acc).2) := by
  induction n generalizing st acc with
  | zero => rfl
  | succ n ih =>
    simp only [subValueF, h.isLineEnd, h.ty, h.val, h.advance, ih, pair_ite (·) φ]

theorem includePathF_eqv (n : Nat) (st : PState σ) (acc : Bytes) :
    includePathF E n (φ st) acc = ((includePathF E n st acc).1, φ (includePathF E n st acc).2) := by
  induction n generalizing st acc with
  | zero => rfl
  | succ n ih =>
    simp only [includePathF, h.isLineEnd, h.ty, h.val, h.advance, ih, pair_ite (·) φ]

theorem postingOpen_eqv : Moved φ (·) (postingOpen E) (postingOpen E) := by
  intro st
  by_cases c : st.current.ty = .status <;>
    simp only [postingOpen, h.ty, parseStatus_eqv h, c, if_true, if_false, h.advance, pair_ite (·) φ]

theorem lineComment_eqv : Moved φ (fun r => (r.1, r.2.map d.tag)) (lineComment E) (lineComment E) := by
  intro st
  simp only [lineComment, h.ty, h.val, h.pos, h.advance, parseTags_shift, pair_ite (fun r : Bytes × List Tag => (r.1, r.2.map d.tag)) φ]
  rfl

theorem postingClosing_eqv (cl : Option TokType) (st : PState σ) :
    postingClosing E cl (φ st) = φ (postingClosing E cl st) := by
  simp only [postingClosing, h.ty, h.advance, apply_ite φ]

theorem postingAmount_eqv : Moved φ (Option.map d.amount) (postingAmount E) (postingAmount E) := by
  intro st
  simp only [postingAmount, h.ty, parseAmount_eqv h, pair_ite (Option.map d.amount) φ]; rfl

theorem postingCost_eqv : Moved φ (Option.map d.cost) (postingCost E) (postingCost E) := by
  intro st
  simp only [postingCost, h.ty, parseCost_eqv h, pair_ite (Option.map d.cost) φ]; rfl

theorem postingAssertion_eqv : Moved φ (Option.map d.assertion) (postingAssertion E) (postingAssertion E) := by
  intro st
  simp only [postingAssertion, h.ty, parseBalanceAssertion_eqv h, pair_ite (Option.map d.assertion) φ]; rfl

theorem postingTail_eqv (cl : Option TokType) :
    Moved φ (fun r => (r.1.map d.amount, r.2.1.map d.cost, r.2.2.1.map d.assertion, r.2.2.2.1, r.2.2.2.2.map d.tag)) (postingTail E cl) (postingTail E cl) := by
  intro st
  simp only [postingTail, postingClosing_eqv h, postingAmount_eqv h, postingCost_eqv h, postingAssertion_eqv h,
    lineComment_eqv h]

theorem parsePosting_eqv : Moved φ (Option.map d.posting) (parsePosting E) (parsePosting E) := by
  intro st
  simp only [parsePosting, h.ty, h.val, h.pos, h.stop, h.advance, h.error, parseComment_eqv h, postingOpen_eqv h,
    skipToNextLine_eqv h, postingTail_eqv h, pair_ite (Option.map d.posting) φ, Option.map_none, Option.map_some,
    Shift.posting, Shift.account, Shift.rng, toRange]

theorem postingsF_eqv (n : Nat) (st : PState σ) :
    postingsF E n (φ st) = ((postingsF E n st).1.map d.posting, φ (postingsF E n st).2) := by
  induction n generalizing st with
  | zero => rfl
  | succ n ih =>
    simp only [postingsF, h.ty, parsePosting_eqv h, h.advance, ← apply_ite φ, ih, pair_ite (List.map d.posting) φ]
    cases (parsePosting E st).1 <;> rfl

theorem txDescription_eqv : Moved φ (·) (txDescription E) (txDescription E) := by
  intro st
  by_cases c : (advance E (advance E st)).current.ty = .text <;>
    simp only [txDescription, h.ty, h.val, h.advance, c, if_true, if_false, pair_ite (·) φ]

theorem txDate2_eqv : Moved φ (Option.map d.date) (txDate2 E) (txDate2 E) := by
  intro st
  simp only [txDate2, h.ty, h.advance, parseDate_eqv h, pair_ite (Option.map d.date) φ]; rfl

theorem txStatus_eqv : Moved φ (·) (txStatus E) (txStatus E) := by
  intro st
  simp only [txStatus, h.ty, parseStatus_eqv h, pair_ite (·) φ]

theorem txCode_eqv : Moved φ (·) (txCode E) (txCode E) := by
  intro st
  simp only [txCode, h.ty, h.val, h.advance, pair_ite (·) φ]

theorem txComment_eqv : Moved φ (List.map d.comment) (txComment E) (txComment E) := by
  intro st
  simp only [txComment, h.ty, parseComment_eqv h, pair_ite (List.map d.comment) φ]; rfl

theorem txHeader_eqv :
    Moved φ (fun r => (r.1.map d.date, r.2.1, r.2.2.1, r.2.2.2.1, r.2.2.2.2.map d.comment)) (txHeader E) (txHeader E) := by
  intro st
  simp only [txHeader, txDate2_eqv h, txStatus_eqv h, txCode_eqv h, txDescription_eqv h, txComment_eqv h, h.ty,
    h.advance, apply_ite φ]

theorem parseTransaction_eqv : Moved φ (Option.map d.tx) (parseTransaction E) (parseTransaction E) := by
  intro st
  simp only [parseTransaction, h.pos, parseDate_eqv h]
  rcases parseDate E st with ⟨_ | dt, st'⟩
  · simp only [Option.map_none, skipToNextLine_eqv h]
  · simp only [Option.map_some, txHeader_eqv h, h.fuelOf, postingsF_eqv h, h.pos, Shift.tx, Shift.rng, toRange,
      List.map_nil]

theorem parseSubdirectivesF_eqv (n : Nat) (st : PState σ) (m : Subdirs) :
    parseSubdirectivesF E n (φ st) m = ((parseSubdirectivesF E n st m).1, φ (parseSubdirectivesF E n st m).2) := by
  induction n generalizing st m with
  | zero => rfl
  | succ n ih =>
    simp only [parseSubdirectivesF, h.ty, h.val, h.advance, h.fuelOf, subValueF_eqv h, skipToNextLine_eqv h, ih,
      pair_ite (·) φ]

theorem parseSubdirectives_eqv : Moved φ (·) (parseSubdirectives E) (parseSubdirectives E) := by
  intro st
  simp only [parseSubdirectives, h.fuelOf, parseSubdirectivesF_eqv h]

theorem commodityInline_eqv : Moved φ (fun r => (d.commodity r.1, r.2)) (commodityInline E) (commodityInline E) := by
  intro st
  simp only [commodityInline, h.ty, h.val, h.directiveCommodity, h.advance,
    pair_ite (fun r : Commodity × Bytes => (d.commodity r.1, r.2)) φ]
  rfl

theorem accountNameRest_eqv (nm : Bytes) : Moved φ (·) (accountNameRest E nm) (accountNameRest E nm) := by
  intro st
  simp only [accountNameRest, h.ty, h.val, h.advance, pair_ite (·) φ]

theorem parseAccountDirective_eqv (sp : Pos) :
    Moved φ (Option.map d.dir) (parseAccountDirective E sp) (parseAccountDirective E (d.pos sp)) := by
  intro st
  simp only [parseAccountDirective, h.ty, h.val, h.pos, h.error, h.advance, skipToNextLine_eqv h,
    accountNameRest_eqv h, lineComment_eqv h, h.fuelOf, skipUntilF_eqv h, parseSubdirectives_eqv h,
    pair_ite (Option.map d.dir) φ, Option.map_none, Option.map_some, Shift.dir, Shift.account, Shift.rng, toRange,
    Shift.pos_zero]

theorem parseCommodityDirective_eqv (sp : Pos) :
    Moved φ (Option.map d.dir) (parseCommodityDirective E sp) (parseCommodityDirective E (d.pos sp)) := by
  intro st
  simp only [parseCommodityDirective, commodityInline_eqv h, h.fuelOf, skipUntilF_eqv h, h.ty, h.advance,
    ← apply_ite φ, parseSubdirectives_eqv h, h.pos, Option.map_some, Shift.dir, Shift.rng, toRange]

theorem parseIncludeDirective_eqv (sp : Pos) :
    Moved φ (Option.map d.incl) (parseIncludeDirective E sp) (parseIncludeDirective E (d.pos sp)) := by
  intro st
  simp only [parseIncludeDirective, h.fuelOf, includePathF_eqv h, h.error, h.pos, skipToNextLine_eqv h,
    pair_ite (Option.map d.incl) φ]
  rfl

theorem parsePriceDirective_eqv (sp : Pos) :
    Moved φ (Option.map d.dir) (parsePriceDirective E sp) (parsePriceDirective E (d.pos sp)) := by
  intro st
  simp only [parsePriceDirective, parseDate_eqv h]
  rcases parseDate E st with ⟨_ | dt, st'⟩
  · simp only [Option.map_none, skipToNextLine_eqv h]
  · simp only [Option.map_some, h.ty, h.directiveCommodity, h.advance, parseAmount_eqv h, h.error,
      skipToNextLine_eqv h]
    split
    · rcases parseAmount E (advance E st') with ⟨_ | a, st''⟩
      · simp only [Option.map_none, skipToNextLine_eqv h]
      · simp only [Option.map_some, skipToNextLine_eqv h, h.pos]; rfl
    · rfl

theorem parseDefaultCommodityDirective_eqv (sp : Pos) :
    Moved φ (Option.map d.dir) (parseDefaultCommodityDirective E sp) (parseDefaultCommodityDirective E (d.pos sp)) := by
  intro st
  simp only [parseDefaultCommodityDirective, h.ty, h.val, h.advance]
  split
  · split <;> simp only [h.pos, skipToNextLine_eqv h] <;> rfl
  · split
    · split <;> simp only [h.pos, skipToNextLine_eqv h] <;> rfl
    · simp only [h.pos, skipToNextLine_eqv h]; rfl

theorem parseYearDirective_eqv (sp : Pos) :
    Moved φ (Option.map d.dir) (parseYearDirective E sp) (parseYearDirective E (d.pos sp)) := by
  intro st
  simp only [parseYearDirective, h.ty, h.val, h.error, skipToNextLine_eqv h, h.setYear, h.advance, h.pos]
  split
  · rfl
  · split
    · rfl
    · split <;> rfl

theorem parseDirective_eqv : Moved φ d.dirResult (parseDirective E) (parseDirective E) := by
  intro st
  simp only [parseDirective, h.val, h.pos, h.advance, parseAccountDirective_eqv h, parseCommodityDirective_eqv h,
    parseIncludeDirective_eqv h, parsePriceDirective_eqv h, parseYearDirective_eqv h,
    parseDefaultCommodityDirective_eqv h, skipToNextLine_eqv h, ofDir_shift]
  rcases parseIncludeDirective E st.current.pos (advance E st) with ⟨_ | i, st'⟩ <;>
    simp only [Option.map_none, Option.map_some, pair_ite d.dirResult φ] <;> rfl

theorem journalStep_eqv : Moved φ d.item (journalStep E) (journalStep E) := by
  intro st
  simp only [journalStep, h.ty, h.advance, parseComment_eqv h, parseTransaction_eqv h, parseDirective_eqv h,
    h.error, skipToNextLine_eqv h]
  rcases parseTransaction E st with ⟨_ | t, st'⟩ <;> rcases parseDirective E st with ⟨_ | i | x, st''⟩ <;>
    simp only [Option.map_none, Option.map_some, pair_ite d.item φ] <;> rfl

theorem parseJournalF_eqv (n : Nat) (st : PState σ) :
    parseJournalF E n (φ st) = (d.journal (parseJournalF E n st).1, φ (parseJournalF E n st).2) := by
  induction n generalizing st with
  | zero => rfl
  | succ n ih =>
    simp only [parseJournalF, h.ty, journalStep_eqv h, ih, pair_ite d.journal φ, jpush_shift]; rfl

theorem parseJournal_eqv : Moved φ d.journal (parseJournal E) (parseJournal E) := by
  intro st
  simp only [parseJournal, h.fuelOf, parseJournalF_eqv h]

end

variable (num : NumDeps) (cls : Classes) (d : Shift)

def shiftSt (st : PState (List Token)) : PState (List Token) :=
  ⟨st.src.map d.tok, d.tok st.current, st.errors.map d.perr, st.defaultYear⟩

theorem advance_shift (st : PState (List Token)) :
    advance (listEnv num cls) (shiftSt d st) = shiftSt d (advance (listEnv num cls) st) := by
  rcases st with ⟨_ | ⟨t, r⟩, cur, errs, dy⟩ <;> rfl

theorem shiftSt_equivariant : Equivariant (listEnv num cls) d (shiftSt d) where
  current _ := rfl
  advance := advance_shift num cls d
  errorAt st p m := by simp [errorAt, shiftSt, Shift.perr]
  defaultYear _ := rfl
  setYear _ _ := rfl
  fuelOf st := by simp [fuelOf, shiftSt, listEnv, listSrc]

theorem parseJournal_shift (st : PState (List Token)) :
    parseJournal (listEnv num cls) (shiftSt d st) =
      (d.journal (parseJournal (listEnv num cls) st).1, shiftSt d (parseJournal (listEnv num cls) st).2) :=
  parseJournal_eqv (shiftSt_equivariant num cls d) st

theorem parseTokens_shift (toks : List Token) :
    parseTokens num cls (toks.map d.tok) =
      (d.journal (parseTokens num cls toks).1, (parseTokens num cls toks).2.map d.perr) := by
  have h0 : advance (listEnv num cls) (⟨toks.map d.tok, eofToken, [], 0⟩ : PState (List Token)) =
      shiftSt d (advance (listEnv num cls) ⟨toks, eofToken, [], 0⟩) :=
    advance_shift num cls d ⟨toks, eofToken, [], 0⟩
  show (let st := advance (listEnv num cls) (⟨toks.map d.tok, eofToken, [], 0⟩ : PState (List Token))
        let r := parseJournal (listEnv num cls) st; (r.1, r.2.errors)) = _
  simp only [h0, parseJournal_shift]
  rfl

/-- The position map of `HL.Lex.crShift` as a shift of the parser's positions: nothing inserted in
    front, one byte more for every line end that precedes the position. -/
def crlfShift : Shift := { dl := 0, doff := 0, perLine := 1 }

/-- what `crlfShift` does to a position: line and column stay, the offset grows by line − 1
    (positions with line 0 are the parser's "not set" placeholders and stay as they are) -/
theorem crlfShift_pos (p : Pos) : crlfShift.pos p = ⟨p.line, p.col, p.off + (p.line - 1)⟩ := by
  cases p with
  | mk l c o =>
    by_cases h : l = 0
    · subst h; rfl
    · simp [Shift.pos, crlfShift, h]

end HL.Parser
