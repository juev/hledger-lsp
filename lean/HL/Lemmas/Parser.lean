import HL.Model.Parser
/-
  Structural lemmas about the parser model (HL/Model/Parser.lean).

  * `Reach E a C b` — state `b` is obtained from `a` by advancing over exactly the tokens `C`
    (never advancing at EOF), appending errors positioned at the current or an already consumed
    token, and setting the default year.  From it: the tokens left drop by at least `|C|`, new
    errors sit on consumed tokens or on the final current one.
  * `ReachL` — `Reach` over tokens none of which is a Newline, the default year left as it is
    (line-internal functions).
  * `RC a tl b` — `Reach` whose consumed tokens never continue after a Newline token except
    with another Newline or an Indent (`nc`); `tl = 0` says the last consumed token is not a
    Newline.  Errors are recorded only on tokens that do not directly follow a Newline.
-/
namespace HL.Parser
open HL HL.Ast

variable {σ : Type} (E : Env σ)

/-- The source's bound strictly decreases whenever it hands out a non-EOF token. -/
def Decr : Prop :=
  ∀ s, (E.src.next s).1.ty ≠ .eof → E.src.rem (E.src.next s).2 < E.src.rem s

/-- Tokens the parser may still consume: 0 once the current token is EOF. -/
def measure (st : PState σ) : Nat := if st.current.ty = .eof then 0 else E.src.rem st.src + 1

theorem measure_le_fuelOf (st : PState σ) : measure E st ≤ fuelOf E st := by
  unfold measure fuelOf; split <;> omega

theorem advance_lt (hd : Decr E) (st : PState σ) (h : st.current.ty ≠ .eof) :
    measure E (advance E st) < measure E st := by
  unfold measure
  rw [if_neg h]
  split
  · omega
  · rename_i h2
    have := hd st.src h2
    simp only [advance] at *; omega

theorem measure_zero_iff (st : PState σ) : measure E st = 0 ↔ st.current.ty = .eof := by
  unfold measure; split <;> simp_all

@[simp] theorem measure_errorAt (st : PState σ) (p m) : measure E (errorAt st p m) = measure E st := rfl
@[simp] theorem measure_error (st : PState σ) (m) : measure E (error st m) = measure E st := rfl

inductive Reach : PState σ → List Token → PState σ → Prop
  | refl (st) : Reach st [] st
  | adv (st) : st.current.ty ≠ .eof → Reach st [st.current] (advance E st)
  | err (st) (msg) : Reach st [] (error st msg)
  | errPrev {a C b} (t msg) : Reach a C b → t ∈ C → Reach a C (errorAt b t.pos msg)
  | year (st) (y) : Reach st [] { st with defaultYear := y }
  | trans {a C1 b C2 c} : Reach a C1 b → Reach b C2 c → Reach a (C1 ++ C2) c

theorem Reach.measure_le (hd : Decr E) {a C b} (h : Reach E a C b) :
    measure E b + C.length ≤ measure E a := by
  induction h with
  | refl => simp
  | adv st h => have := advance_lt E hd st h; simp; omega
  | err => simp
  | errPrev t msg _ _ ih => simpa using ih
  | year st y => simp [measure]
  | trans _ _ ih1 ih2 => simp; omega

theorem Reach.nil_same {a C b} (h : Reach E a C b) : C = [] → b.current = a.current ∧ b.src = a.src := by
  induction h with
  | refl => intro; exact ⟨rfl, rfl⟩
  | adv => intro h; simp at h
  | err => intro; exact ⟨rfl, rfl⟩
  | errPrev t msg _ _ ih => intro h; exact ih h
  | year => intro; exact ⟨rfl, rfl⟩
  | trans _ _ ih1 ih2 =>
    intro h
    simp at h
    have h1 := ih1 h.1
    have h2 := ih2 h.2
    exact ⟨h2.1.trans h1.1, h2.2.trans h1.2⟩

theorem Reach.current_mem {a C b} (h : Reach E a C b) : a.current ∈ C ++ [b.current] := by
  induction h with
  | trans _ _ ih1 ih2 =>
    rcases List.mem_append.1 ih1 with h | h
    · simp [h]
    · rw [List.mem_singleton.1 h, List.append_assoc]
      exact List.mem_append_right _ ih2
  | errPrev _ _ _ _ ih => exact ih
  | _ => simp [advance, error, errorAt]

theorem Reach.errors {a C b} (h : Reach E a C b) :
    ∃ new, b.errors = a.errors ++ new ∧ ∀ e ∈ new, ∃ t ∈ C ++ [b.current], e.pos = t.pos := by
  induction h with
  | refl st => exact ⟨[], by simp⟩
  | adv st _ => exact ⟨[], by simp [advance]⟩
  | err st msg => exact ⟨[⟨msg, st.current.pos⟩], by simp [error, errorAt]⟩
  | errPrev t msg _ hm ih =>
    obtain ⟨new, h1, h2⟩ := ih
    refine ⟨new ++ [⟨msg, t.pos⟩], by simp [errorAt, h1], fun e he => ?_⟩
    rcases List.mem_append.1 he with he | he
    · exact h2 e he
    · exact ⟨t, List.mem_append_left _ hm, by rw [List.mem_singleton.1 he]⟩
  | year st y => exact ⟨[], by simp⟩
  | @trans a C1 b C2 c h1 h2 ih1 ih2 =>
    obtain ⟨n1, e1, p1⟩ := ih1
    obtain ⟨n2, e2, p2⟩ := ih2
    refine ⟨n1 ++ n2, by rw [e2, e1, List.append_assoc], fun e he => ?_⟩
    rw [List.append_assoc]
    rcases List.mem_append.1 he with he | he
    · obtain ⟨t, ht, hp⟩ := p1 e he
      refine ⟨t, ?_, hp⟩
      rcases List.mem_append.1 ht with ht | ht
      · exact List.mem_append_left _ ht
      · exact List.mem_append_right _ (List.mem_singleton.1 ht ▸ Reach.current_mem E h2)
    · obtain ⟨t, ht, hp⟩ := p2 e he
      exact ⟨t, List.mem_append_right _ ht, hp⟩

theorem Reach.noEof {a C b} (h : Reach E a C b) : ∀ t ∈ C, t.ty ≠ .eof := by
  induction h with
  | refl => simp
  | adv st h => simpa using h
  | err => simp
  | errPrev _ _ _ _ ih => exact ih
  | year => simp
  | trans _ _ ih1 ih2 =>
    intro t ht; simp at ht; rcases ht with h | h
    · exact ih1 t h
    · exact ih2 t h

def ReachAny (a b : PState σ) : Prop := ∃ C, Reach E a C b

theorem ReachAny.refl (a : PState σ) : ReachAny E a a := ⟨[], .refl a⟩
theorem ReachAny.trans {a b c : PState σ} (h1 : ReachAny E a b) (h2 : ReachAny E b c) : ReachAny E a c := by
  obtain ⟨C1, r1⟩ := h1; obtain ⟨C2, r2⟩ := h2; exact ⟨_, .trans r1 r2⟩

theorem ReachAny.measure_le (hd : Decr E) {a b : PState σ} (h : ReachAny E a b) : measure E b ≤ measure E a := by
  obtain ⟨C, r⟩ := h; have := r.measure_le E hd; omega

def NoNL (C : List Token) : Prop := ∀ t ∈ C, t.ty ≠ .newline

def ReachL (a b : PState σ) : Prop := ∃ C, Reach E a C b ∧ NoNL C ∧ b.defaultYear = a.defaultYear

theorem ReachL.dy {a b : PState σ} (h : ReachL E a b) : b.defaultYear = a.defaultYear := by
  obtain ⟨_, _, _, d⟩ := h; exact d

theorem ReachL.refl (st : PState σ) : ReachL E st st := ⟨[], .refl st, by simp [NoNL], rfl⟩

theorem ReachL.trans {a b c : PState σ} (h1 : ReachL E a b) (h2 : ReachL E b c) : ReachL E a c := by
  obtain ⟨C1, r1, n1, d1⟩ := h1; obtain ⟨C2, r2, n2, d2⟩ := h2
  refine ⟨C1 ++ C2, .trans r1 r2, ?_, d2.trans d1⟩
  intro t ht; simp at ht; rcases ht with h | h
  · exact n1 t h
  · exact n2 t h

theorem ReachL.adv {a st : PState σ} (h0 : ReachL E a st) (h1 : st.current.ty ≠ .eof)
    (h2 : st.current.ty ≠ .newline) : ReachL E a (advance E st) :=
  ReachL.trans E h0 ⟨[st.current], .adv st h1, by simp [NoNL, h2], rfl⟩

theorem ReachL.err {a st : PState σ} (h0 : ReachL E a st) (msg) : ReachL E a (error st msg) :=
  ReachL.trans E h0 ⟨[], .err st msg, by simp [NoNL], rfl⟩

theorem ReachL.advErrAt {a st : PState σ} (h0 : ReachL E a st) (h1 : st.current.ty ≠ .eof)
    (h2 : st.current.ty ≠ .newline) (msg) :
    ReachL E a (errorAt (advance E st) st.current.pos msg) :=
  ReachL.trans E h0
    ⟨[st.current], .errPrev st.current msg (.adv st h1) (by simp), by simp [NoNL, h2], rfl⟩

/-- One step: `tl` = 1 when the token consumed last is a Newline, else 0.  After a Newline only
    a Newline or an Indent may be consumed (within one iteration of the journal loop). -/
def ncStep (tl : Nat) (t : Token) : Option Nat :=
  if 1 ≤ tl ∧ t.ty ≠ .indent ∧ t.ty ≠ .newline then none else some (if t.ty = .newline then 1 else 0)

def nc : Nat → List Token → Option Nat
  | tl, [] => some tl
  | tl, t :: r => match ncStep tl t with
    | none => none
    | some tl' => nc tl' r

theorem nc_append (tl : Nat) (C1 C2 : List Token) :
    nc tl (C1 ++ C2) = (nc tl C1).bind (fun tl' => nc tl' C2) := by
  induction C1 generalizing tl with
  | nil => simp [nc]
  | cons t r ih =>
    simp only [List.cons_append, nc]
    cases ncStep tl t with
    | none => simp
    | some tl' => simp [ih]

theorem nc_noNL {C : List Token} (h : NoNL C) : nc 0 C = some 0 := by
  induction C with
  | nil => rfl
  | cons x xs ih =>
    have hx : x.ty ≠ .newline := h x (by simp)
    have : ncStep 0 x = some 0 := by unfold ncStep; simp [hx]
    simp only [nc, this]
    exact ih (fun y hy => h y (by simp [hy]))

/-- The tokens of a list that do not directly follow a Newline token (`prevNL`: the token
    before the list is a Newline). -/
def okSitesAux : Bool → List Token → List Token
  | _, [] => []
  | prevNL, t :: r => (if prevNL then [] else [t]) ++ okSitesAux (t.ty = .newline) r

def okSites (L : List Token) : List Token := okSitesAux false L

/-- Is the last token a Newline (`p` for the empty list)? -/
def lastNL (p : Bool) : List Token → Bool
  | [] => p
  | t :: r => lastNL (t.ty = .newline) r

theorem okSitesAux_append (p : Bool) (L1 L2 : List Token) :
    okSitesAux p (L1 ++ L2) = okSitesAux p L1 ++ okSitesAux (lastNL p L1) L2 := by
  induction L1 generalizing p with
  | nil => simp [okSitesAux, lastNL]
  | cons t r ih => simp [okSitesAux, lastNL, ih]

theorem lastNL_append (p : Bool) (L1 L2 : List Token) : lastNL p (L1 ++ L2) = lastNL (lastNL p L1) L2 := by
  induction L1 generalizing p with
  | nil => simp [lastNL]
  | cons t r ih => simp [lastNL, ih]

theorem okSitesAux_sub (p : Bool) (L : List Token) : ∀ t ∈ okSitesAux p L, t ∈ L := by
  induction L generalizing p with
  | nil => simp [okSitesAux]
  | cons x r ih =>
    intro t ht
    simp only [okSitesAux, List.mem_append] at ht
    rcases ht with h | h
    · split at h <;> simp_all
    · exact List.mem_cons_of_mem _ (ih _ t h)

theorem okSitesAux_noNL {L : List Token} (h : NoNL L) (x : Token) : okSitesAux false (L ++ [x]) = L ++ [x] := by
  induction L with
  | nil => simp [okSitesAux]
  | cons t r ih =>
    have ht : t.ty ≠ .newline := h t (by simp)
    have hr : NoNL r := fun y hy => h y (by simp [hy])
    simp [okSitesAux, ht, ih hr]

theorem lastNL_noNL {L : List Token} (h : NoNL L) : lastNL false L = false := by
  induction L with
  | nil => rfl
  | cons t r ih =>
    have ht : t.ty ≠ .newline := h t (by simp)
    have hr : NoNL r := fun y hy => h y (by simp [hy])
    simp only [lastNL, ht, decide_false]
    exact ih hr

theorem nc_lastNL {tl tl' : Nat} {C : List Token} (h : nc tl C = some tl') :
    (decide (tl' ≠ 0)) = lastNL (decide (tl ≠ 0)) C := by
  induction C generalizing tl with
  | nil => simp [nc] at h; simp [lastNL, h]
  | cons t r ih =>
    simp only [nc] at h
    cases hs : ncStep tl t with
    | none => simp [hs] at h
    | some t1 =>
      simp only [hs] at h
      rw [ih h]
      simp only [lastNL]
      congr 1
      unfold ncStep at hs
      split at hs
      · simp at hs
      · simp at hs
        by_cases hn : t.ty = .newline <;> simp [hn] at hs ⊢ <;> omega

/-- `RC a tl b`: from `a` the parser reached `b`; what it consumed is accepted by the automaton
    and ends in at most `tl` Newline tokens; the errors recorded on the way sit on consumed
    tokens (or on the current one) that do not directly follow a Newline token. -/
def RC (a : PState σ) (tl : Nat) (b : PState σ) : Prop :=
  ∃ C tl0 new, Reach E a C b ∧ nc 0 C = some tl0 ∧ tl0 ≤ tl ∧ b.errors = a.errors ++ new ∧
    ∀ e ∈ new, ∃ t ∈ okSites (C ++ [b.current]), e.pos = t.pos

theorem RC.any {a b : PState σ} {tl} (h : RC E a tl b) : ReachAny E a b := by
  obtain ⟨C, _, _, r, _⟩ := h; exact ⟨C, r⟩

theorem RC.refl (a : PState σ) : RC E a 0 a := ⟨[], 0, [], .refl a, rfl, Nat.le_refl _, by simp, by simp⟩

theorem RC.mono {a b : PState σ} {tl tl'} (h : RC E a tl b) (hle : tl ≤ tl') : RC E a tl' b := by
  obtain ⟨C, t0, new, r, n, l, e⟩ := h; exact ⟨C, t0, new, r, n, by omega, e⟩

theorem okSites_prefix (L1 L2 : List Token) : ∀ t ∈ okSites L1, t ∈ okSites (L1 ++ L2) := by
  intro t ht; unfold okSites at *; rw [okSitesAux_append]; simp [ht]

theorem RC.step {a b : PState σ} {tl} (h : RC E a tl b) (hne : b.current.ty ≠ .eof)
    (h2 : 1 ≤ tl → b.current.ty = .indent ∨ b.current.ty = .newline) :
    RC E a (if b.current.ty = .newline then 1 else 0) (advance E b) := by
  obtain ⟨C, t0, new, r0, n, l, e1, e2⟩ := h
  have hs : ncStep t0 b.current = some (if b.current.ty = .newline then 1 else 0) := by
    unfold ncStep
    rw [if_neg]
    intro ⟨h3, h4, h5⟩
    rcases h2 (by omega) with h | h
    · exact h4 h
    · exact h5 h
  refine ⟨C ++ [b.current], (if b.current.ty = .newline then 1 else 0), new,
    .trans r0 (.adv b hne), ?_, ?_, by simpa [advance] using e1, ?_⟩
  · rw [nc_append, n]; simp [nc, hs]
  · exact Nat.le_refl _
  · intro e he
    obtain ⟨t, ht, hp⟩ := e2 e he
    exact ⟨t, okSites_prefix _ _ t ht, hp⟩

theorem RC.advNL {a st : PState σ} {tl} (h : RC E a tl st) (h1 : st.current.ty = .newline) :
    RC E a 1 (advance E st) := by
  have := RC.step E h (by simp [h1]) (fun _ => Or.inr h1)
  simpa [h1] using this

theorem RC.advIndent {a st : PState σ} {tl} (h : RC E a tl st) (h1 : st.current.ty = .indent) :
    RC E a 0 (advance E st) := by
  have := RC.step E h (by simp [h1]) (fun _ => Or.inl h1)
  simpa [h1] using this

theorem RC.year {a st : PState σ} {tl} (h : RC E a tl st) (y) : RC E a tl { st with defaultYear := y } := by
  obtain ⟨C, t0, new, r0, n, l, e1, e2⟩ := h
  exact ⟨C ++ [], t0, new, .trans r0 (.year st y), by simpa using n, l, e1, by simpa using e2⟩

theorem RC.line {a b c : PState σ} (h : RC E a 0 b) (hl : ReachL E b c) : RC E a 0 c := by
  obtain ⟨C, t0, new, r0, n, l, e1, e2⟩ := h
  obtain rfl : t0 = 0 := by omega
  obtain ⟨C2, r2, nn, _⟩ := hl
  have hlC : lastNL false C = false := by simpa using (nc_lastNL n).symm
  obtain ⟨new2, f1, f2⟩ := r2.errors E
  have hsplit : okSites (C ++ C2 ++ [c.current]) = okSitesAux false C ++ (C2 ++ [c.current]) := by
    unfold okSites
    rw [List.append_assoc, okSitesAux_append, hlC, okSitesAux_noNL nn]
  refine ⟨C ++ C2, 0, new ++ new2, .trans r0 r2, by rw [nc_append, n]; simpa using nc_noNL nn, by omega,
    by rw [f1, e1, List.append_assoc], fun e he => ?_⟩
  rw [hsplit]
  rcases List.mem_append.1 he with he | he
  · obtain ⟨t, ht, hp⟩ := e2 e he
    refine ⟨t, ?_, hp⟩
    unfold okSites at ht
    rw [okSitesAux_append, hlC] at ht
    rcases List.mem_append.1 ht with ht | ht
    · exact List.mem_append_left _ ht
    · obtain rfl : t = b.current := by simpa [okSitesAux] using ht
      exact List.mem_append_right _ (r2.current_mem E)
  · obtain ⟨t, ht, hp⟩ := f2 e he
    exact ⟨t, List.mem_append_right _ ht, hp⟩

theorem RC.advOther {a st : PState σ} (h : RC E a 0 st) (h0 : st.current.ty ≠ .eof)
    (h1 : st.current.ty ≠ .newline) : RC E a 0 (advance E st) :=
  RC.line E h (ReachL.adv E (ReachL.refl E st) h0 h1)

theorem RC.err {a st : PState σ} (h : RC E a 0 st) (msg) : RC E a 0 (error st msg) :=
  RC.line E h (ReachL.err E (ReachL.refl E st) msg)

theorem RC.elim {a b : PState σ} {tl} (h : RC E a tl b) :
    ∃ C new, Reach E a C b ∧ (nc 0 C).isSome ∧ b.errors = a.errors ++ new ∧
      ∀ e ∈ new, ∃ t ∈ okSites (C ++ [b.current]), e.pos = t.pos := by
  obtain ⟨C, t0, new, r, n, _, e1, e2⟩ := h
  exact ⟨C, new, r, by simp [n], e1, e2⟩

end HL.Parser
