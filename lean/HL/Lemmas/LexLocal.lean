import HL.Lemmas.LexLines
import HL.Lemmas.LexShift
/-!
  Line-locality of the token stream, assembled from `next_ext` (nothing reads behind the next
  line feed), `lexF_shift` (nothing but blanks is read behind the current position) and
  `next_step` (only `scanNewline` consumes a line feed).
-/
namespace HL.Lex
open HL HL.Utf8 Ctl

def countLF (s : Bytes) : Nat := (s.filter (· == LF)).length

theorem countLF_append (a b : Bytes) : countLF (a ++ b) = countLF a + countLF b := by
  simp [countLF]

theorem countLF_of_not_mem {s : Bytes} (h : LF ∉ s) : countLF s = 0 := by
  simp only [countLF, List.length_eq_zero_iff, List.filter_eq_nil_iff]
  intro a ha hb
  have : a = LF := by simpa using hb
  exact h (this ▸ ha)

/-- the canonical stream from a state: `Next` until EOF -/
def lexS (C : Classes) (z : Z) : List Token := lexF C (z.after.length + 1) z

theorem lexAll_eq_lexS (C : Classes) (input : Bytes) : lexAll C input = lexS C (Z.init input) :=
  lexF_fuel C _ _ _ (by simp [Z.init]) (by simp [Z.init])

theorem lexS_unfold (C : Classes) (z : Z) :
    lexS C z = if (next C z).1.ty = .eof then [(next C z).1] else (next C z).1 :: lexS C (next C z).2 := by
  unfold lexS
  rw [lexF]
  simp only [beq_iff_eq]
  split
  · rfl
  · rename_i hne
    have := next_lt_of_ne_eof C z hne
    rw [lexF_fuel C z.after.length ((next C z).2.after.length + 1) _ (by omega) (Nat.le_refl _)]

/-- induction along the stream: the last call of `Next` returns the EOF token, every other call
    a token in front of the stream from the state it leaves -/
theorem lexS_induct (C : Classes) {motive : Z → List Token → Prop}
    (heof : ∀ z, (next C z).1.ty = .eof → motive z [(next C z).1])
    (hstep : ∀ z, (next C z).1.ty ≠ .eof → motive (next C z).2 (lexS C (next C z).2) →
      motive z ((next C z).1 :: lexS C (next C z).2)) (z : Z) : motive z (lexS C z) := by
  generalize hn : z.after.length = n
  induction n using Nat.strongRecOn generalizing z with
  | _ n ih =>
    rw [lexS_unfold]
    split
    · exact heof z ‹_›
    · rename_i hne
      exact hstep z hne (ih _ (hn ▸ next_lt_of_ne_eof C z hne) _ rfl)

theorem lexS_ne_nil (C : Classes) (z : Z) : lexS C z ≠ [] := lexF_ne_nil C _ z (by omega)

/-- the state right behind `s ++ [LF]`, at the start of the next line -/
def zEnd (z : Z) (s : Bytes) : Z := ⟨LF :: s.reverse ++ z.before, [], z.line + countLF s + 1, 1, true⟩

theorem suffix_split {p q s : Bytes} (h : p ++ q = s ++ [LF]) (hq : q ≠ []) :
    ∃ s', q = s' ++ [LF] ∧ s = p ++ s' := by
  induction p generalizing s with
  | nil => exact ⟨s, by simpa using h, by simp⟩
  | cons a p ih =>
    cases s with
    | nil =>
      simp only [List.cons_append, List.nil_append, List.cons.injEq, List.append_eq_nil_iff] at h
      exact absurd h.2.2 hq
    | cons a' s =>
      simp only [List.cons_append, List.cons.injEq] at h
      obtain ⟨s', h1, h2⟩ := ih h.2
      exact ⟨s', h1, by rw [h.1, h2]; rfl⟩

/-- coarse view of a step: what was consumed contains no line feed (same line), or it is blanks
    (and possibly a carriage return) followed by exactly one line feed (next line, column 1, at
    line start). -/
theorem Step.coarse {z : Z} {r : Token × Z} (h : Step z r) :
    ∃ cons, z.after = cons ++ r.2.after ∧ r.2.before = cons.reverse ++ z.before ∧
      ((LF ∉ cons ∧ r.2.line = z.line ∧ r.1.ty ≠ .newline) ∨
       (∃ sp, cons = sp ++ [LF] ∧ LF ∉ sp ∧ r.2.line = z.line + 1 ∧ r.2.col = 1 ∧ r.2.atStart = true ∧
          r.1.ty = .newline)) := by
  cases h with
  | tok sp pre hsp hpre hafter hbefore hline hty hpl hpo _hstopt =>
    refine ⟨sp ++ pre, hafter, by simp [hbefore], Or.inl ⟨?_, hline, hty⟩⟩
    intro hm
    rcases List.mem_append.mp hm with hm | hm
    · exact spaces_noLF hsp hm
    · exact hpre hm
  | newline sp cr hsp hcr hafter hbefore hline hcol hstart hty hpl hpo hstop =>
    have hnocr : LF ∉ sp ++ cr := by
      intro hm
      rcases List.mem_append.mp hm with hm | hm
      · exact spaces_noLF hsp hm
      · rcases hcr with rfl | rfl <;> simp at hm
    exact ⟨sp ++ cr ++ [LF], by simp [hafter], by simp [hbefore],
      Or.inr ⟨sp ++ cr, rfl, hnocr, hline, hcol, hstart, hty⟩⟩

theorem lexS_local_aux (C : Classes) (b : Bytes) (z : Z) (s : Bytes) (hz : z.after = s ++ [LF]) :
    lexS C (z.ext b) = (lexS C z).dropLast ++ lexS C ((zEnd z s).ext b) := by
  revert s
  refine lexS_induct C (motive := fun z l => ∀ s, z.after = s ++ [LF] →
    lexS C (z.ext b) = l.dropLast ++ lexS C ((zEnd z s).ext b)) (fun z he s hz => ?_) (fun z hne ih s hz => ?_) z
  all_goals
    have hres := next_res C z
    obtain ⟨cons, h1, h2, h3⟩ := (next_step C z).coarse
    rw [hz] at h1
  · -- the line feed is still ahead: no EOF yet
    rw [(hres.eof he).1, List.append_nil] at h1
    rcases h3 with ⟨hno, _, _⟩ | ⟨_, _, _, _, _, _, hty⟩
    · exact absurd (h1 ▸ by simp) hno
    · rw [hty] at he; cases he
  · have hlf : HasLF z := by simp [HasLF, hz]
    rw [lexS_unfold C (z.ext b), next_ext b C hlf, extR, if_neg hne, List.dropLast_cons_of_ne_nil (lexS_ne_nil C _),
      List.cons_append]
    congr 1
    by_cases hr0 : (next C z).2.after = []
    · -- the step consumed the line feed, which ends the line
      rw [hr0, List.append_nil] at h1
      rcases h3 with ⟨hno, _, _⟩ | ⟨sp, hsp, hnosp, hline, hcol, hstart, _⟩
      · exact absurd (h1 ▸ by simp) hno
      · have hs : s = sp := by rw [hsp] at h1; exact List.append_inj_left' h1 rfl
        have heof : lexS C (next C z).2 = [(next C (next C z).2).1] := by
          rw [lexS_unfold, next_nil C hr0]; rfl
        have hzeq : (next C z).2 = zEnd z s := by
          cases hr : (next C z).2
          rw [hr] at h2 hr0 hline hcol hstart
          simp only at h2 hr0 hline hcol hstart
          simp [zEnd, h2, hr0, hline, hcol, hstart, hsp, hs, countLF_of_not_mem hnosp]
        rw [heof, hzeq]; rfl
    · obtain ⟨s', hs1, hs2⟩ := suffix_split h1.symm hr0
      rw [ih s' hs1]
      congr 3
      rcases h3 with ⟨hno, hline, _⟩ | ⟨sp, hsp, hnosp, hline, _, _, _⟩
      · simp [zEnd, h2, hline, hs2, countLF_append, countLF_of_not_mem hno]
      · have e1 : countLF (sp ++ [LF]) = 1 := by rw [countLF_append, countLF_of_not_mem hnosp]; rfl
        rw [hsp] at hs2 h2
        simp only [zEnd, h2, hline, hs2, countLF_append, e1, Z.mk.injEq]
        refine ⟨by simp, trivial, by omega, trivial, trivial⟩

/-- **Line-locality.**  Lexing `a ++ "\\n" ++ b` = lexing `a ++ "\\n"` (without its EOF) followed
    by lexing `b` on its own with lines shifted by the number of line feeds in `a` plus one and
    offsets by `|a| + 1`.  No guard: it holds for all byte strings `a`, `b`. -/
theorem lexAll_line_local (C : Classes) (a b : Bytes) :
    lexAll C (a ++ LF :: b) =
      (lexAll C (a ++ [LF])).dropLast ++ (lexAll C b).map (shiftTok (countLF a + 1) (a.length + 1)) := by
  rw [lexAll_eq_lexS, lexAll_eq_lexS, lexAll_eq_lexS]
  have h0 : Z.init (a ++ LF :: b) = (Z.init (a ++ [LF])).ext b := by
    simp [Z.init, Z.ext]
  rw [h0, lexS_local_aux C b (Z.init (a ++ [LF])) a rfl]
  congr 1
  have h1 : (zEnd (Z.init (a ++ [LF])) a).ext b = (Z.init b).shift (countLF a + 1) (LF :: a.reverse) := by
    simp [zEnd, Z.init, Z.ext, Z.shift]
    omega
  rw [h1, lexS, lexF_shift]
  simp [lexS]

end HL.Lex
