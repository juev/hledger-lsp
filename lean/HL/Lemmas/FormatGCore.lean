import HL.Lemmas.EditApply
import HL.Lemmas.GCoreBytes
import HL.Props.C05
/-!
  The formatter model on `GCore` journals (any layout `L` in, the layout of the options out):
  what `formatPostingWithOpts` writes for a posting of the core grammar, the lines of a printed
  journal, the edit list of `formatDocument` as splices of a segmented document, and the
  composition `format_printL`:

      applyEdits (printL L j) (formatDocument (expectedL L j) (printL L j) none o []) =
        some (printL (canonLayout o j) j)

  for journals of every size below the 4 GiB that LSP positions (`uint32`) can address.
  The general facts about `formatDocument` it starts from (`formatDocument_eq`, `effGlobalCol_eq`,
  `alignmentWithGlobal_col`, `TreeFits`) stand with the C05 theorems in HL/Props/C05.lean.
-/
namespace HL.GCore
open HL HL.Ast HL.FmtText HL.Fmt HL.EditSpec HL.Lemmas.FmtText HL.Lemmas.Format HL.Lemmas.EditApply

def Tx.linesL (L : Layout) (t : Tx) : List Bytes := t.header :: t.postings.map (·.printL L)

def linesL (L : Layout) : Journal → List Bytes
  | [] => [[]]
  | [t] => t.linesL L ++ [[]]
  | t :: ts => t.linesL L ++ [] :: linesL L ts

def GoodLine (l : Bytes) : Prop := (∀ c ∈ l, coreByte c = true) ∧ trimRight l = l

theorem goodLine_nil : GoodLine [] := ⟨by simp, rfl⟩

theorem CoreLine.good {l : Bytes} (h : CoreLine l) : GoodLine l := by
  obtain ⟨hc, m, w, rfl, hw, hwi⟩ := h
  exact ⟨hc, trimRight_append _ _ hw (trimRight_nonblank _ fun c hc => (inkByte_spec (hwi c hc)).2)⟩

theorem tx_lines_good (L : Layout) {t : Tx} (ht : t.wf = true) : ∀ l ∈ t.linesL L, GoodLine l := by
  intro l hl
  simp only [Tx.linesL, List.mem_cons, List.mem_map] at hl
  rcases hl with rfl | ⟨p, hp, rfl⟩
  · exact (header_line ht).good
  · exact (posting_line ((Tx.wf_spec ht).2.2.2 p hp) L).good

theorem lines_good (L : Layout) (j : Journal) (hj : WF j = true) : ∀ l ∈ linesL L j, GoodLine l := by
  induction j with
  | nil => intro l hl; simp [linesL] at hl; rw [hl]; exact goodLine_nil
  | cons t ts ih =>
    rw [WF_cons] at hj
    intro l hl
    cases ts with
    | nil =>
      simp only [linesL, List.mem_append, List.mem_cons, List.not_mem_nil, or_false] at hl
      rcases hl with h | h
      · exact tx_lines_good L hj.1 l h
      · rw [h]; exact goodLine_nil
    | cons t2 ts =>
      simp only [linesL, List.mem_append, List.mem_cons] at hl
      rcases hl with h | h | h
      · exact tx_lines_good L hj.1 l h
      · rw [h]; exact goodLine_nil
      · exact ih hj.2 l h

theorem goodLine_noLF {l : Bytes} (h : GoodLine l) : ∀ c ∈ l, c ≠ 10 :=
  fun c hc => (coreByte_spec (h.1 c hc)).2.1

theorem goodLine_plain {l : Bytes} (h : GoodLine l) : Plain l := by
  refine ⟨fun c hc => (coreByte_spec (h.1 c hc)).1, ?_⟩
  intro hl
  have := List.mem_of_getLast? hl
  exact (coreByte_spec (h.1 13 this)).2.2.1 rfl

theorem splitLines_postings (L : Layout) (ps : List Posting) (hps : ∀ p ∈ ps, p.wf = true) (rest : Bytes) :
    splitLines (printPostingsL L ps ++ rest) = ps.map (·.printL L) ++ splitLines rest := by
  induction ps with
  | nil => simp [printPostingsL]
  | cons p ps ih =>
    have := splitLines_line (p.printL L) (printPostingsL L ps ++ rest)
      (goodLine_noLF (posting_line (hps p (by simp)) L).good)
    simp only [printPostingsL, List.append_assoc, List.cons_append, List.map_cons]
    rw [this, ih (fun q hq => hps q (by simp [hq]))]

theorem splitLines_tx (L : Layout) {t : Tx} (ht : t.wf = true) (rest : Bytes) :
    splitLines (t.printL L ++ rest) = t.linesL L ++ splitLines rest := by
  have := splitLines_line t.header (printPostingsL L t.postings ++ rest) (goodLine_noLF (header_line ht).good)
  simp only [Tx.printL, Tx.linesL, List.append_assoc, List.cons_append]
  rw [this, splitLines_postings L _ (Tx.wf_spec ht).2.2.2]

theorem splitLines_printL (L : Layout) (j : Journal) (hj : WF j = true) :
    splitLines (printL L j) = linesL L j := by
  induction j with
  | nil => rfl
  | cons t ts ih =>
    rw [WF_cons] at hj
    cases ts with
    | nil =>
      have := splitLines_tx L hj.1 []
      simpa [printL, linesL, splitLines] using this
    | cons t2 ts =>
      have := splitLines_tx L hj.1 (LF :: printL L (t2 :: ts))
      have h2 := splitLines_line [] (printL L (t2 :: ts)) (by simp)
      simp only [List.nil_append] at h2
      simp only [printL, linesL]
      rw [this, h2, ih hj.2]

theorem printL_noQuote (L : Layout) (j : Journal) (hj : WF j = true) : ∀ c ∈ printL L j, c ≠ 0x22 :=
  fun c hc => (printL_bytes L j hj c hc).elim (fun h => (coreByte_spec h).2.2.2) (fun h => h ▸ by decide)

theorem spaces_eq_blanks (n : Nat) : spaces n = blanks n := rfl

theorem isAscii_of_core {l : Bytes} (h : ∀ c ∈ l, coreByte c = true) : IsAscii l :=
  fun c hc => (coreByte_spec (h c hc)).1

theorem acct_ascii {p : Posting} (hp : p.wf = true) : IsAscii p.acct :=
  fun c hc => (coreByte_spec (inkByte_spec ((acct_ink hp).2 c hc)).1).1

/-- `writeAmountWithSign` without commodity formats: the quantity as written, a blank and the
    commodity. -/
theorem writeAmount_core {a : Amount} (h : a.wf = true) (ln c o : Nat) (doc : Bytes)
    (hdoc : ∀ b ∈ doc, b ≠ 0x22) :
    writeAmountWithSign (a.expected ln c o) (some []) doc = a.print := by
  obtain ⟨hne, _⟩ := signNum_ink h
  have hq : formatAmountQuantity (a.expected ln c o) (some []) = a.signText ++ a.numText := by
    simp [formatAmountQuantity, Formats.get, Amount.expected, hne]
  have hnq : ∀ i : Nat, (doc[i]? == some (34 : UInt8)) = false := by
    intro i
    cases hi : doc[i]? with
    | none => rfl
    | some b =>
      have hb := hdoc b (List.mem_of_getElem? hi)
      simp only [beq_eq_false_iff_ne, ne_eq, Option.some.injEq]
      exact hb
  unfold writeAmountWithSign
  rw [hq]
  cases hc : a.com with
  | none =>
    simp only [Amount.expected, hc, commodityText, hnq, Bool.false_and, Bool.false_eq_true, if_false,
      List.nil_append]
    cases hs : a.signText ++ a.numText with
    | nil => exact absurd hs hne
    | cons x r => simp [Amount.print, Amount.comText, hc, hs]
  | some w =>
    obtain ⟨hw, _⟩ := com_ink h hc
    have hsd : (Side.right == Side.left) = false := rfl
    simp [Amount.expected, hc, commodityText, hnq, Amount.print, Amount.comText, hw, hsd]

/-- the gap the formatter leaves in front of an amount -/
def gapOf (align : Bool) (g ind : Nat) (p : Posting) : Nat :=
  if align && g > 0 then max (g - (ind + p.acct.length)) 2 else 2

/-- the layout the formatter writes with indent `ind`, alignment column `g` -/
def outLayout (align : Bool) (g ind : Nat) : Layout := ⟨ind, gapOf align g ind⟩

/-- **`formatPostingWithOpts` on a posting of the core grammar** (no commodity formats): indent,
    account, the gap, the amount as written. -/
theorem formatPosting_core {p : Posting} (hp : p.wf = true) (L : Layout) (ln o : Nat) (al : AlignmentInfo)
    (ind : Nat) (align : Bool) (doc : Bytes) (hdoc : ∀ b ∈ doc, b ≠ 0x22) :
    formatPostingWithOpts (p.expectedL L ln o) al (some []) (spaces ind) align doc =
      p.printL (outLayout align al.accountCol ind) := by
  have hamt := (Posting.wf_spec hp).2.2.2
  have hhead : postingHead (p.expectedL L ln o) (spaces ind) = spaces ind ++ p.acct := by
    simp [postingHead, Posting.expectedL, statusMark, openMark, closeMark]
  have hrc : runeCount (spaces ind ++ p.acct) = ind + p.acct.length := by
    rw [runeCount_ascii_append _ _ (isAscii_spaces ind), spaces_length, runeCount_ascii _ (acct_ascii hp)]
  have hgap : amountGap (p.expectedL L ln o) al (spaces ind) align = gapOf align al.accountCol ind p := by
    unfold amountGap gapOf minSpaces
    rw [hhead, hrc]
  have hcost : (p.expectedL L ln o).cost = none := rfl
  have hass : (p.expectedL L ln o).assertion = none := rfl
  have hcom : (p.expectedL L ln o).comment = [] := rfl
  have hamtE : (p.expectedL L ln o).amount =
      p.amount.map fun am => am.expected ln (1 + (L.indent + p.acct.length + L.gap p))
        (o + (L.indent + p.acct.length + L.gap p)) := rfl
  unfold formatPostingWithOpts postingUpToCost
  rw [hhead, hgap, hcost, hass, hcom, hamtE]
  cases ha : p.amount with
  | none =>
    simp [commentText, trimRightCR, Posting.printL, Posting.amtTextL, outLayout, spaces_eq_blanks, ha]
  | some a =>
    simp [commentText, trimRightCR, Posting.printL, Posting.amtTextL, outLayout, spaces_eq_blanks, ha,
      writeAmount_core (hamt a ha) ln _ _ doc hdoc]

def postingSegs (L L' : Layout) (ps : List Posting) : List Seg :=
  ps.flatMap fun p => [.repl (p.printL L) (p.printL L'), .keep [LF]]

def txSegs (L L' : Layout) (t : Tx) : List Seg := .keep (t.header ++ [LF]) :: postingSegs L L' t.postings

def segsL (L L' : Layout) : Journal → List Seg
  | [] => []
  | [t] => txSegs L L' t
  | t :: ts => txSegs L L' t ++ .keep [LF] :: segsL L L' ts

theorem postingSegs_cons (L L' : Layout) (p : Posting) (ps : List Posting) :
    postingSegs L L' (p :: ps) = .repl (p.printL L) (p.printL L') :: .keep [LF] :: postingSegs L L' ps := by
  simp [postingSegs]

theorem texts_postingSegs (L L' : Layout) (ps : List Posting) :
    oldText (postingSegs L L' ps) = printPostingsL L ps ∧ newText (postingSegs L L' ps) = printPostingsL L' ps := by
  induction ps with
  | nil => exact ⟨rfl, rfl⟩
  | cons p ps ih =>
    simp only [postingSegs_cons, oldText, newText, printPostingsL, ih.1, ih.2]; simp

theorem texts_txSegs (L L' : Layout) (t : Tx) :
    oldText (txSegs L L' t) = t.printL L ∧ newText (txSegs L L' t) = t.printL L' := by
  simp [txSegs, oldText, newText, texts_postingSegs, Tx.printL]

theorem texts_segsL (L L' : Layout) (j : Journal) :
    oldText (segsL L L' j) = printL L j ∧ newText (segsL L L' j) = printL L' j := by
  induction j with
  | nil => exact ⟨rfl, rfl⟩
  | cons t ts ih =>
    cases ts with
    | nil => simp [segsL, printL, texts_txSegs]
    | cons t2 ts =>
      simp only [segsL, printL, oldText_append, newText_append, oldText, newText, texts_txSegs, ih.1, ih.2]; simp

theorem bytesOf_postings (L : Layout) (ps : List Posting) :
    bytesOf (ps.map (·.printL L)) = (printPostingsL L ps).length := by
  induction ps with
  | nil => rfl
  | cons p ps ih => simp only [List.map_cons, bytesOf, ih, printPostingsL, List.length_append, List.length_cons]; omega

theorem bytesOf_tx (L : Layout) (t : Tx) : bytesOf (t.linesL L) = (t.printL L).length := by
  simp only [Tx.linesL, bytesOf, bytesOf_postings, Tx.printL, List.length_append, List.length_cons]; omega

/-- the splice of one posting edit: the whole line `l` (line `A.length`, 0-based) is replaced -/
theorem posting_splice (lines A B : List Bytes) (l : Bytes) (hl : lines = A ++ l :: B) (hs : SmallLines lines)
    (hp : Plain l) (pe : Ast.Posting) (hline : pe.range.start.line = A.length + 1) (text : Bytes) :
    toSplice lines (postingEdit lines pe text) = ⟨bytesOf A, bytesOf A + l.length, text⟩ := by
  have hlen : lines.length = A.length + B.length + 1 := by rw [hl]; simp; omega
  have hlt : A.length < lines.length := by omega
  have hcount := hs.count
  have hpl : postingLine pe = ((A.length : Nat) : Int) := by unfold postingLine; omega
  have hu : (u32 (postingLine pe)).toNat = A.length := by
    rw [u32_toNat _ (by rw [hpl]; omega) (by rw [hpl]; omega), hpl]; simp
  have hget : lines.getD A.length [] = l := by rw [hl]; exact getD_append_head A l B
  have hw : l.length < 4294967296 := hs.width l (by rw [hl]; simp)
  have hu16 : lineU16 lines (postingLine pe) = l.length := by
    rw [hpl, lineU16_eq lines _ hlt, hget, content_plain l hp, u16len_ascii l hp.1]
  have hoff : ∀ ch, offset lines A.length ch = bytesOf A + lineOffset l ch := by
    intro ch
    have := offset_append A (l :: B) (by simp) 0 ch
    rw [hl]
    simpa [offset_head] using this
  simp only [toSplice, postingEdit, hu, hu16, ofNat_toNat _ hw, hoff]
  rw [UInt32.toNat_zero, lineOffset_zero, lineOffset_plain_all l hp]
  simp

theorem postings_splices (lines : List Bytes) (hs : SmallLines lines) (hgood : ∀ l ∈ lines, Plain l)
    (L L' : Layout) (F : Ast.Posting → Bytes) (ps : List Posting)
    (hF : ∀ p ∈ ps, ∀ ln o, F (p.expectedL L ln o) = p.printL L') :
    ∀ (A B : List Bytes), lines = A ++ ps.map (·.printL L) ++ B →
      (expectedPostingsL L ps (A.length + 1) (bytesOf A)).map
          (fun pe => toSplice lines (postingEdit lines pe (F pe))) =
        toSplices (postingSegs L L' ps) (bytesOf A) := by
  -- `F` stands for what the formatter writes for a posting's tree: kept abstract so that the
  -- induction along the lines (`A` grows by one line per posting) carries no alignment data
  induction ps with
  | nil => intro A B _; rfl
  | cons p ps ih =>
    intro A B hl
    have hl1 : lines = A ++ p.printL L :: (ps.map (·.printL L) ++ B) := by rw [hl]; simp
    have hpl : Plain (p.printL L) := hgood _ (by rw [hl1]; simp)
    have e1 := posting_splice lines A _ (p.printL L) hl1 hs hpl (p.expectedL L (A.length + 1) (bytesOf A))
      rfl (F (p.expectedL L (A.length + 1) (bytesOf A)))
    have hl2 : lines = (A ++ [p.printL L]) ++ ps.map (·.printL L) ++ B := by rw [hl]; simp
    have e2 := ih (fun q hq => hF q (by simp [hq])) (A ++ [p.printL L]) B hl2
    rw [bytesOf_snoc, List.length_append, List.length_singleton] at e2
    rw [hF p (by simp)] at e1
    rw [postingSegs_cons]
    simp only [expectedPostingsL, List.map_cons, toSplices, List.length_cons, List.length_nil]
    rw [hF p (by simp), e1, e2, show bytesOf A + (p.printL L).length + (0 + 1) = bytesOf A + (p.printL L).length + 1 by omega]

/-- the transaction's alignment data enters the layout through its account column only, and
    that is the global column whenever alignment is on -/
theorem outLayout_accountCol (ps : List Ast.Posting) (doc : Bytes) (g ind : Nat) (align : Bool) :
    outLayout align (if align then alignmentWithGlobal ps (some []) g doc else ⟨0, 0⟩).accountCol ind =
      outLayout align g ind := by
  cases align
  · rfl
  · simp only [if_true]; rw [HL.Props.C05.alignmentWithGlobal_col]

theorem tx_splices (lines : List Bytes) (hs : SmallLines lines) (hgood : ∀ l ∈ lines, Plain l)
    (L : Layout) (doc : Bytes) (hdoc : ∀ b ∈ doc, b ≠ 0x22) (g ind : Nat) (align : Bool)
    (t : Tx) (ht : t.wf = true) (A B : List Bytes) (hl : lines = A ++ t.linesL L ++ B) :
    (formatTransaction (t.expectedL L (A.length + 1) (bytesOf A)) doc lines (some []) g ind align []).map
        (toSplice lines) =
      toSplices (txSegs L (outLayout align g ind) t) (bytesOf A) := by
  have hps := (Tx.wf_spec ht).2.2.2
  unfold formatTransaction
  simp only [List.contains_nil, Bool.not_false, List.filter_eq_self.mpr fun _ _ => rfl, List.map_map,
    Function.comp_def]
  have hl2 : lines = (A ++ [t.header]) ++ t.postings.map (·.printL L) ++ B := by
    rw [hl]; simp [Tx.linesL]
  have := postings_splices lines hs hgood L (outLayout align g ind)
    (fun pe => formatPostingWithOpts pe
      (if align then alignmentWithGlobal (t.expectedL L (A.length + 1) (bytesOf A)).postings (some []) g doc
        else ⟨0, 0⟩) (some []) (spaces ind) align doc)
    t.postings
    (by
      intro p hp ln o
      rw [formatPosting_core (hps p hp) L ln o _ ind align doc hdoc, outLayout_accountCol])
    (A ++ [t.header]) B hl2
  rw [bytesOf_snoc, List.length_append, List.length_singleton] at this
  simp only [txSegs, toSplices, List.length_append, List.length_cons, List.length_nil]
  rw [show bytesOf A + (t.header.length + (0 + 1)) = bytesOf A + t.header.length + 1 by omega, ← this]
  rfl

theorem journal_splices (lines : List Bytes) (hs : SmallLines lines) (hgood : ∀ l ∈ lines, Plain l)
    (L : Layout) (doc : Bytes) (hdoc : ∀ b ∈ doc, b ≠ 0x22) (g ind : Nat) (align : Bool)
    (j : Journal) (hj : WF j = true) :
    ∀ A : List Bytes, lines = A ++ linesL L j →
      ((expectedTxsL L j (A.length + 1) (bytesOf A)).flatMap fun tx =>
          formatTransaction tx doc lines (some []) g ind align []).map (toSplice lines) =
        toSplices (segsL L (outLayout align g ind) j) (bytesOf A) := by
  induction j with
  | nil => intro A _; rfl
  | cons t ts ih =>
    intro A hl
    rw [WF_cons] at hj
    cases ts with
    | nil =>
      have := tx_splices lines hs hgood L doc hdoc g ind align t hj.1 A [[]] (by rw [hl]; simp [linesL])
      simp only [expectedTxsL, List.flatMap_cons, List.flatMap_nil, List.append_nil, segsL]
      exact this
    | cons t2 ts =>
      have h1 := tx_splices lines hs hgood L doc hdoc g ind align t hj.1 A ([] :: linesL L (t2 :: ts))
        (by rw [hl]; simp [linesL])
      have hl2 : lines = (A ++ t.linesL L ++ [[]]) ++ linesL L (t2 :: ts) := by rw [hl]; simp [linesL]
      have h2 := ih hj.2 (A ++ t.linesL L ++ [[]]) hl2
      have hb : bytesOf (A ++ t.linesL L ++ [[]]) = bytesOf A + (t.printL L).length + 1 := by
        rw [bytesOf_append, bytesOf_append, bytesOf_tx]; simp [bytesOf]
      have hn : (A ++ t.linesL L ++ [[]]).length + 1 = A.length + 1 + t.postings.length + 2 := by
        simp [Tx.linesL]; omega
      rw [hb, hn] at h2
      have er : segsL L (outLayout align g ind) (t :: t2 :: ts) =
          txSegs L (outLayout align g ind) t ++ .keep [LF] :: segsL L (outLayout align g ind) (t2 :: ts) := rfl
      rw [er, toSplices_append, (texts_txSegs L _ t).1]
      simp only [toSplices, List.length_cons, List.length_nil]
      rw [show bytesOf A + (t.printL L).length + (0 + 1) = bytesOf A + (t.printL L).length + 1 by omega,
        ← h1, ← h2, ← List.map_append]
      simp only [expectedTxsL, List.flatMap_cons]

theorem accountDisplayLength_core {p : Posting} (hp : p.wf = true) (L : Layout) (ln o : Nat) :
    accountDisplayLength (p.expectedL L ln o) = p.acct.length := by
  simp [accountDisplayLength, Posting.expectedL, runeCount_ascii _ (acct_ascii hp)]

theorem maxAccountLen_core (L : Layout) (ps : List Posting) (hps : ∀ p ∈ ps, p.wf = true) :
    ∀ (ln o acc : Nat), maxAccountLen (expectedPostingsL L ps ln o) acc =
      ps.foldl (fun m p => max m p.acct.length) acc := by
  induction ps with
  | nil => intro _ _ _; rfl
  | cons p ps ih =>
    intro ln o acc
    have := ih (fun q hq => hps q (by simp [hq])) (ln + 1) (o + (p.printL L).length + 1)
    unfold maxAccountLen at this ⊢
    simp only [expectedPostingsL, List.foldl_cons, accountDisplayLength_core (hps p (by simp))]
    rw [show (if p.acct.length > acc then p.acct.length else acc) = max acc p.acct.length by
      simp only [Nat.max_def]; split <;> split <;> omega]
    exact this _

theorem maxAccountLenTxs_core (L : Layout) (j : Journal) (hj : WF j = true) :
    ∀ (ln o acc : Nat), (expectedTxsL L j ln o).foldl (fun m t => maxAccountLen t.postings m) acc =
      (j.flatMap (·.postings)).foldl (fun m p => max m p.acct.length) acc := by
  induction j with
  | nil => intro _ _ _; rfl
  | cons t ts ih =>
    intro ln o acc
    rw [WF_cons] at hj
    simp only [expectedTxsL, List.foldl_cons, List.flatMap_cons, List.foldl_append, Tx.expectedL,
      maxAccountLen_core L t.postings (Tx.wf_spec hj.1).2.2.2]
    exact ih hj.2 _ _ _

theorem effIndent_eq (o : Options) : effIndent o = canonIndent o := rfl

theorem effGlobalCol_core (L : Layout) (j : Journal) (hj : WF j = true) (o : Options)
    (h : o.alignAmounts = true) : effGlobalCol (expectedL L j) o = canonCol o j := by
  rw [HL.Props.C05.effGlobalCol_eq _ o h]
  unfold canonCol widest maxAccountLenTxs
  rw [effIndent_eq]
  -- `(expectedL L j).transactions` is `expectedTxsL L j 1 0` only after unfolding: expose it for `rw`
  show max (canonIndent o + (expectedTxsL L j 1 0).foldl _ 0 + 2) _ = _
  rw [maxAccountLenTxs_core L j hj]

theorem outLayout_canon (L : Layout) (j : Journal) (hj : WF j = true) (o : Options) :
    outLayout o.alignAmounts (effGlobalCol (expectedL L j) o) (effIndent o) = canonLayout o j := by
  unfold outLayout canonLayout
  rw [effIndent_eq]
  congr 1
  funext p
  unfold gapOf
  cases ha : o.alignAmounts with
  | false => simp
  | true =>
    rw [effGlobalCol_core L j hj o ha]
    simp [show 0 < canonCol o j from Nat.lt_of_lt_of_le (Nat.succ_pos _) (Nat.le_max_left ..)]

/-- **The formatter on a core journal printed under any layout.**  The edits `formatDocument`
    returns for the text `printL L j` and its tree, applied to that text by the reference
    applier, give the journal printed under the canonical layout of the options. -/
theorem format_printL (L : Layout) (o : Options) (j : Journal) (hj : WF j = true)
    (hsize : (printL L j).length < 4294967296) :
    applyEdits (printL L j) (formatDocument (expectedL L j) (printL L j) none o []) =
      some (printL (canonLayout o j) j) := by
  have hlines := splitLines_printL L j hj
  have hgood := lines_good L j hj
  have hs : SmallLines (linesL L j) := by rw [← hlines]; exact smallLines_of_doc _ hsize
  rw [HL.Props.C05.formatDocument_eq]
  have hfm : HL.Props.C05.effFormats (expectedL L j) none = [] := rfl
  have htrim : trimTrailingSpacesEdits (splitLines (printL L j))
      ((allPostings (expectedL L j)).map postingLine) [] = [] := by
    unfold trimTrailingSpacesEdits
    rw [hlines]
    exact trimLoop_nil _ _ _ (fun l hl => (hgood l hl).2) 0
  rw [hfm, htrim, List.append_nil]
  unfold HL.Props.C05.txEdits
  have := journal_splices (linesL L j) hs (fun l hl => goodLine_plain (hgood l hl)) L (printL L j)
    (printL_noQuote L j hj) (effGlobalCol (expectedL L j) o) (effIndent o) o.alignAmounts j hj [] rfl
  simp only [List.length_nil, Nat.zero_add, bytesOf] at this
  rw [outLayout_canon L j hj o] at this
  have hseg := applyEdits_segs (segsL L (canonLayout o j) j)
    ((expectedL L j).transactions.flatMap fun tx =>
      formatTransaction tx (printL L j) (splitLines (printL L j)) (some []) (effGlobalCol (expectedL L j) o)
        (effIndent o) o.alignAmounts [])
    (by rw [(texts_segsL L _ j).1, hlines]; exact this)
  rw [(texts_segsL L _ j).1, (texts_segsL L _ j).2] at hseg
  exact hseg

theorem postings_linenos (L : Layout) (ps : List Posting) : ∀ ln o,
    (expectedPostingsL L ps ln o).map (·.range.start.line) = List.range' ln ps.length := by
  induction ps with
  | nil => intro _ _; rfl
  | cons p ps ih =>
    intro ln o
    simp only [expectedPostingsL, List.map_cons, List.length_cons, List.range'_succ, ih]
    rfl

theorem linesL_length_pos (L : Layout) (j : Journal) : 0 < (linesL L j).length := by
  cases j with
  | nil => simp [linesL]
  | cons t ts => cases ts <;> simp [linesL, Tx.linesL]

/-- the posting lines of the tree: strictly increasing, behind line `ln`, inside the text -/
theorem txs_linenos (L : Layout) (j : Journal) : ∀ ln o,
    (((expectedTxsL L j ln o).flatMap (·.postings)).map (·.range.start.line)).Pairwise (· < ·) ∧
    ∀ x ∈ ((expectedTxsL L j ln o).flatMap (·.postings)).map (·.range.start.line),
      ln < x ∧ x + 1 < ln + (linesL L j).length := by
  induction j with
  | nil => intro _ _; simp [expectedTxsL]
  | cons t ts ih =>
    intro ln o
    have ht : (t.expectedL L ln o).postings.map (·.range.start.line) = List.range' (ln + 1) t.postings.length :=
      postings_linenos L t.postings _ _
    cases ts with
    | nil =>
      simp only [expectedTxsL, List.flatMap_cons, List.flatMap_nil, List.append_nil, ht]
      refine ⟨List.pairwise_lt_range' .., ?_⟩
      intro x hx
      have := List.mem_range'_1.mp hx
      simp only [linesL, Tx.linesL, List.length_append, List.length_cons, List.length_map, List.length_nil]
      omega
    | cons t2 ts =>
      obtain ⟨ih1, ih2⟩ := ih (ln + t.postings.length + 2) (o + (t.printL L).length + 1)
      have hpos := linesL_length_pos L (t2 :: ts)
      simp only [expectedTxsL, List.flatMap_cons, List.map_append, ht] at ih1 ih2 ⊢
      have hlen : (linesL L (t :: t2 :: ts)).length = t.postings.length + 2 + (linesL L (t2 :: ts)).length := by
        simp only [linesL, Tx.linesL, List.length_append, List.length_cons, List.length_map]; omega
      constructor
      · rw [List.pairwise_append]
        refine ⟨List.pairwise_lt_range' .., ih1, ?_⟩
        intro a ha b hb
        have := List.mem_range'_1.mp ha
        have := (ih2 b hb).1
        omega
      · intro x hx
        rw [hlen]
        rcases List.mem_append.mp hx with h | h
        · have := List.mem_range'_1.mp h
          omega
        · have := ih2 x h
          omega

/-- **The tree of a printed core journal fits the text**: every posting starts on a line of the
    text, no two on the same line. -/
theorem treeFits_printL (L : Layout) (j : Journal) (hj : WF j = true)
    (hsize : (printL L j).length < 4294967296) : HL.Props.C05.TreeFits (printL L j) (expectedL L j) := by
  obtain ⟨h1, h2⟩ := txs_linenos L j 1 0
  refine ⟨hsize, ?_, ?_⟩
  · intro p hp
    have := h2 p.range.start.line (List.mem_map.mpr ⟨p, hp, rfl⟩)
    rw [splitLines_printL L j hj]
    omega
  · exact h1.imp (fun h => Nat.ne_of_lt h)

/-- two lines are equal, or they are the same posting under the two layouts -/
def LineRel (L L' : Layout) (a b : Bytes) : Prop := a = b ∨ ∃ p : Posting, a = p.printL L ∧ b = p.printL L'

/-- two line lists of equal length, related line by line -/
inductive LinesRel (L L' : Layout) : List Bytes → List Bytes → Prop
  | nil : LinesRel L L' [] []
  | cons {a b : Bytes} {as bs : List Bytes} : LineRel L L' a b → LinesRel L L' as bs → LinesRel L L' (a :: as) (b :: bs)

theorem LinesRel.length {L L' : Layout} {as bs : List Bytes} (h : LinesRel L L' as bs) : as.length = bs.length := by
  induction h with
  | nil => rfl
  | cons _ _ ih => simp [ih]

theorem LinesRel.append {L L' : Layout} {a1 a2 b1 b2 : List Bytes}
    (h1 : LinesRel L L' a1 b1) (h2 : LinesRel L L' a2 b2) : LinesRel L L' (a1 ++ a2) (b1 ++ b2) := by
  induction h1 with
  | nil => exact h2
  | cons h _ ih => exact LinesRel.cons h ih

theorem tx_lines_rel (L L' : Layout) (t : Tx) : LinesRel L L' (t.linesL L) (t.linesL L') := by
  refine LinesRel.cons (Or.inl rfl) ?_
  induction t.postings with
  | nil => exact LinesRel.nil
  | cons p ps ih => exact LinesRel.cons (Or.inr ⟨p, rfl, rfl⟩) ih

/-- **The lines of one journal under two layouts**: as many lines, pairwise equal except that a
    posting line corresponds to the line of the same posting. -/
theorem lines_rel (L L' : Layout) (j : Journal) : LinesRel L L' (linesL L j) (linesL L' j) := by
  induction j with
  | nil => exact LinesRel.cons (Or.inl rfl) LinesRel.nil
  | cons t ts ih =>
    cases ts with
    | nil => exact (tx_lines_rel L L' t).append (LinesRel.cons (Or.inl rfl) LinesRel.nil)
    | cons t2 ts => exact (tx_lines_rel L L' t).append (LinesRel.cons (Or.inl rfl) ih)

end HL.GCore
