/-
  `refreshIncludeTreeLocked`: one round (compute reachable, remove unreachable, add missing
  reachable) and the fixpoint.  Result: the workspace invariant holds again and the indexed
  files are exactly the existing files reachable from the root (`Closed`).  Termination:
  after the first round nothing is removed any more and every further round indexes at
  least one more file of the directory, so `len(directory) + 2` rounds suffice.
-/
import HL.Lemmas.WsInv
namespace HL.Lemmas.Refresh
open HL.Index HL.Workspace HL.Lemmas.AList HL.Lemmas.ReachIdx HL.Lemmas.Edges HL.Lemmas.Index
open HL.Lemmas.WsInv HL.Spec.Rebuild

/-- the loop body of `removeUnreachableLocked` -/
def dropFile (cfg : Cfg) (w : WS) (path : String) : WS :=
  let w := match w.idx.files.get path with
    | some old => updateIncludeEdges w path old.includes []
    | none => w
  { w with idx := removeFile cfg.fixT w.idx path
           incG := w.incG.erase path
           revG := w.revG.erase path
           rfiles := if w.hasResolved then w.rfiles.erase path else w.rfiles
           order := if w.hasResolved then removeString w.order path else w.order }

theorem dropFile_fields (cfg : Cfg) (w : WS) (t : String) (fi : FileIdx)
    (hg : w.idx.files.get t = some fi) :
    (dropFile cfg w t).root = w.root ∧ (dropFile cfg w t).hasResolved = w.hasResolved ∧
    (dropFile cfg w t).primary = w.primary ∧
    (dropFile cfg w t).cFormats = w.cFormats ∧ (dropFile cfg w t).cComms = w.cComms ∧
    (dropFile cfg w t).cAccts = w.cAccts ∧
    (dropFile cfg w t).idx = removeFile cfg.fixT w.idx t ∧
    (dropFile cfg w t).incG = (w.incG.set t []).erase t ∧
    (dropFile cfg w t).revG = (revRemove w.revG t fi.includes).erase t ∧
    (dropFile cfg w t).rfiles = (if w.hasResolved then w.rfiles.erase t else w.rfiles) ∧
    (dropFile cfg w t).order = (if w.hasResolved then removeString w.order t else w.order) := by
  unfold dropFile
  simp only [hg, updateIncludeEdges_eq, revAdd, List.foldl_nil]
  simp

theorem files_dropFile (cfg : Cfg) (w : WS) (t : String) (fi : FileIdx)
    (hg : w.idx.files.get t = some fi) (y : String) :
    (dropFile cfg w t).idx.files.get y = if t = y then none else w.idx.files.get y := by
  obtain ⟨_, _, _, _, _, _, hidx, _⟩ := dropFile_fields cfg w t fi hg
  rw [hidx, files_removeFile, get_erase]

theorem includesOf_dropFile (cfg : Cfg) (w : WS) (t : String) (fi : FileIdx)
    (hg : w.idx.files.get t = some fi) (y : String) :
    includesOf (dropFile cfg w t) y = if t = y then [] else includesOf w y := by
  unfold includesOf
  rw [files_dropFile cfg w t fi hg y]
  by_cases e : t = y <;> simp [e]

theorem dropFile_ginv (cfg : Cfg) (fs : FS) (w : WS) (D : String → Prop) (t : String)
    (fi : FileIdx) (h : GInv cfg fs w D) (hg : w.idx.files.get t = some fi) :
    GInv cfg fs (dropFile cfg w t) (fun q => q = t ∨ D q) := by
  obtain ⟨_, _, _, _, _, _, hidx, hinc, hrev, _, _⟩ := dropFile_fields cfg w t fi hg
  refine ⟨?_, ?_, ?_, ?_⟩
  · rw [hidx]; exact idxInv_removeFile cfg.fixT w.idx t h.idx
  · intro p fi' hg'
    rw [files_dropFile cfg w t fi hg p] at hg'
    by_cases e : t = p
    · simp [e] at hg'
    · simp only [e, if_false] at hg'; exact h.fresh p fi' hg'
  · intro p
    rw [hinc, includesOf_dropFile cfg w t fi hg p, getD_erase, getD_set]
    by_cases e : t = p
    · simp [e]
    · simp only [e, if_false]; exact h.incOk p
  · intro q x
    rw [hrev, includesOf_dropFile cfg w t fi hg x, getD_erase]
    have hti : includesOf w t = fi.includes := includesOf_eq w t fi hg
    by_cases e : t = q
    · subst e; simp
    · have e' : ¬ q = t := fun h => e h.symm
      simp only [e, if_false, mem_revRemove, h.revOk q x, e', false_or]
      by_cases e2 : t = x
      · subst e2
        simp only [if_true, List.not_mem_nil, and_false, iff_false, and_true, not_and]
        intro ⟨_, h2⟩ h3
        rw [hti] at h2; exact h3 h2
      · have e2' : ¬ x = t := fun h => e2 h.symm
        simp [e2, e2']

theorem dropFile_rinv (cfg : Cfg) (fs : FS) (w : WS) (t : String) (fi : FileIdx)
    (h : RInv fs w) (hg : w.idx.files.get t = some fi) : RInv fs (dropFile cfg w t) := by
  obtain ⟨hroot, hhas, hprim, _, _, _, _, _, _, hrf, hord⟩ := dropFile_fields cfg w t fi hg
  refine ⟨by rw [hhas]; exact h.has, by rw [hprim, hroot]; exact h.primary, ?_, ?_⟩
  · intro p
    rw [hrf, h.has, hroot, files_dropFile cfg w t fi hg p]
    simp only [if_true, get_erase]
    by_cases e : t = p
    · subst e; simp
    · simp only [e, if_false]; exact h.rfiles p
  · intro p
    rw [hord, hrf, h.has]
    simp only [if_true, get_erase, removeString, List.mem_filter, ne_eq, decide_eq_true_eq]
    by_cases e : t = p
    · subst e; simp
    · have e' : ¬ p = t := fun h => e h.symm
      simp only [e, if_false, e', not_false_eq_true, and_true]
      exact h.order p

theorem succG_dropFile (cfg : Cfg) (w : WS) (t : String) (fi : FileIdx)
    (hg : w.idx.files.get t = some fi) (u : String) :
    succG (dropFile cfg w t).incG u = if t = u then [] else succG w.incG u := by
  unfold succG
  obtain ⟨_, _, _, _, _, _, _, hinc, _⟩ := dropFile_fields cfg w t fi hg
  rw [hinc, getD_erase, getD_set]
  by_cases e : t = u <;> simp [e]

theorem reach_dropFile (cfg : Cfg) (w : WS) (t : String) (fi : FileIdx)
    (hg : w.idx.files.get t = some fi) (root : String) (ht : ¬ ReachS (succG w.incG) root t)
    (x : String) :
    ReachS (succG (dropFile cfg w t).incG) root x ↔ ReachS (succG w.incG) root x := by
  constructor
  · intro h
    apply reachS_mono h
    intro p _ q hq
    rw [succG_dropFile cfg w t fi hg p] at hq
    by_cases e : t = p
    · simp [e] at hq
    · simpa [e] using hq
  · intro h
    apply reachS_drop_unreachable (t := t) _ ht h
    intro u hu
    rw [succG_dropFile cfg w t fi hg u]
    simp [Ne.symm hu]

structure DropAll (cfg : Cfg) (fs : FS) (w w' : WS) (T : List String) (D : String → Prop) : Prop where
  files : ∀ y, w'.idx.files.get y = if y ∈ T then none else w.idx.files.get y
  g : GInv cfg fs w' (fun q => q ∈ T ∨ D q)
  r : RInv fs w'
  reach : ∀ x, ReachS (succG w'.incG) w.root x ↔ ReachS (succG w.incG) w.root x
  root : w'.root = w.root
  caches : w'.cFormats = w.cFormats ∧ w'.cComms = w.cComms ∧ w'.cAccts = w.cAccts

theorem dropAll (cfg : Cfg) (fs : FS) :
    ∀ (T : List String) (w : WS) (D : String → Prop), GInv cfg fs w D → RInv fs w → T.Nodup →
      (∀ t ∈ T, (w.idx.files.get t).isSome ∧ t ≠ w.root ∧ ¬ ReachS (succG w.incG) w.root t) →
      DropAll cfg fs w (T.foldl (dropFile cfg) w) T D := by
  intro T
  induction T with
  | nil =>
    intro w D hg hr _ _
    exact ⟨fun y => by simp, by simpa using hg, hr, fun x => Iff.rfl, rfl, ⟨rfl, rfl, rfl⟩⟩
  | cons t T ih =>
    intro w D hg hr hn hT
    rw [List.nodup_cons] at hn
    obtain ⟨ht1, ht2, ht3⟩ := hT t List.mem_cons_self
    obtain ⟨fi, hfi⟩ := Option.isSome_iff_exists.mp ht1
    obtain ⟨hroot, _, _, hcf, hcc, hca, _⟩ := dropFile_fields cfg w t fi hfi
    have hg1 := dropFile_ginv cfg fs w D t fi hg hfi
    have hr1 := dropFile_rinv cfg fs w t fi hr hfi
    have hT1 : ∀ t' ∈ T, ((dropFile cfg w t).idx.files.get t').isSome ∧ t' ≠ (dropFile cfg w t).root ∧
        ¬ ReachS (succG (dropFile cfg w t).incG) (dropFile cfg w t).root t' := by
      intro t' ht'
      obtain ⟨a1, a2, a3⟩ := hT t' (List.mem_cons_of_mem _ ht')
      have hne : ¬ t = t' := fun e => hn.1 (e ▸ ht')
      refine ⟨by rw [files_dropFile cfg w t fi hfi t']; simpa [hne] using a1, by rw [hroot]; exact a2, ?_⟩
      rw [hroot, reach_dropFile cfg w t fi hfi w.root ht3 t']; exact a3
    have := ih (dropFile cfg w t) _ hg1 hr1 hn.2 hT1
    simp only [List.foldl_cons]
    refine ⟨fun y => ?_, ⟨this.g.idx, this.g.fresh, this.g.incOk, fun q x => ?_⟩, this.r, fun x => ?_,
      this.root.trans hroot, ⟨this.caches.1.trans hcf, this.caches.2.1.trans hcc,
        this.caches.2.2.trans hca⟩⟩
    · rw [this.files y, files_dropFile cfg w t fi hfi y, ite_mem_cons _ _ _ _ _ _ fun _ => rfl]
    · rw [this.g.revOk q x]
      simp only [List.mem_cons, or_assoc, or_left_comm]
    · rw [← reach_dropFile cfg w t fi hfi w.root ht3 x, ← hroot]
      exact this.reach x

theorem mem_computeReachable (w : WS) (h : w.root ≠ "") (x : String) :
    x ∈ computeReachable w ↔ ReachS (succG w.incG) w.root x := by
  unfold computeReachable
  simp only [h, if_false]
  exact mem_bfs_iff w.incG w.root x

/-- the state after `removeUnreachableLocked`: invariant restored, every indexed file reachable
    in the include graph of the index -/
theorem removeUnreachable_spec (cfg : Cfg) (fs : FS) (w : WS) (h : PInv cfg fs w) :
    let w' := removeUnreachable cfg w (computeReachable w)
    PInv cfg fs w' ∧
    (∀ y, w'.idx.files.get y =
      if y ∈ computeReachable w then w.idx.files.get y else none) ∧
    (∀ x, ReachS (succG w'.incG) w.root x ↔ ReachS (succG w.incG) w.root x) ∧
    w'.root = w.root ∧
    (w'.cFormats = w.cFormats ∧ w'.cComms = w.cComms ∧ w'.cAccts = w.cAccts) := by
  intro w'
  have hR := mem_computeReachable w h.root_ne
  have hT : ∀ t ∈ w.idx.files.keys.filter (· ∉ computeReachable w),
      (w.idx.files.get t).isSome ∧ t ≠ w.root ∧ ¬ ReachS (succG w.incG) w.root t := by
    intro t ht
    simp only [List.mem_filter, decide_eq_true_eq] at ht
    refine ⟨(mem_keys_iff _ _).mp ht.1, ?_, fun hr => ht.2 ((hR t).mpr hr)⟩
    intro e
    exact ht.2 ((hR t).mpr (e ▸ .base))
  have hd : DropAll cfg fs w w' _ NoDead := dropAll cfg fs _ w NoDead h.g h.r (h.g.idx.nodup.filter _) hT
  have hfiles : ∀ y, w'.idx.files.get y = if y ∈ computeReachable w then w.idx.files.get y else none := by
    intro y
    rw [hd.files y]
    by_cases e : y ∈ computeReachable w
    · simp [e]
    · simp only [e, if_false, List.mem_filter, decide_eq_true_eq, not_false_eq_true, and_true]
      by_cases e2 : y ∈ w.idx.files.keys
      · simp [e2]
      · simp [e2, (get_eq_none_iff _ _).mpr e2]
  refine ⟨⟨by rw [hd.root]; exact h.root_ne, ?_, ?_, hd.r⟩, hfiles, hd.reach, hd.root, hd.caches⟩
  · rw [hd.root, hfiles, if_pos ((hR _).mpr .base)]; exact h.rootIdx
  · -- the dead set is empty again: nothing indexed includes a removed path
    have hg := hd.g
    refine ⟨hg.idx, hg.fresh, hg.incOk, ?_⟩
    intro q x
    rw [hg.revOk q x]
    simp only [NoDead, not_false_eq_true, true_and, or_false]
    constructor
    · exact fun h => h.2
    · intro hq
      refine ⟨?_, hq⟩
      intro hqT
      simp only [List.mem_filter, decide_eq_true_eq] at hqT
      apply hqT.2
      -- x is indexed, hence reachable; q is one of its include targets
      have hx : (w'.idx.files.get x).isSome := by
        unfold includesOf at hq
        cases e : w'.idx.files.get x with
        | some _ => rfl
        | none => simp [e] at hq
      rw [hfiles x] at hx
      by_cases e : x ∈ computeReachable w
      · have hxr : ReachS (succG w'.incG) w.root x := (hd.reach x).mpr ((hR x).mp e)
        have : ReachS (succG w'.incG) w.root q := .step hxr (by unfold succG; rw [hg.incOk x]; exact hq)
        exact (hR q).mpr ((hd.reach q).mp this)
      · simp [e] at hx

/-- the loop body of `addMissingReachableLocked` -/
def addStep (cfg : Cfg) (fsr : FS) (wa : WS × Bool) (path : String) : WS × Bool :=
  match fsr.get path with
  | none => wa
  | some c => (updateResolved (putFile cfg wa.1 path c []) path c, true)

/-- the paths `addMissingReachableLocked` tries, in its order -/
def missingOf (w : WS) (R : List String) : List String :=
  isort (R.filter fun p => (w.idx.files.get p).isNone)

/-- what the disk shows for files that are not indexed is what the invariant is about -/
def Agree (fsr fsd : FS) (w : WS) : Prop := ∀ q, w.idx.files.get q = none → fsr.get q = fsd.get q

theorem succG_putFile (cfg : Cfg) (w : WS) (x : String) (c : Contrib) (old : List String) (u : String) :
    succG (putFile cfg w x c old).incG u = if x = u then (mkFileIdx x c).includes else succG w.incG u := by
  unfold succG putFile
  rw [incG_update]

theorem addOne (cfg : Cfg) (fsr fsd : FS) (w : WS) (x : String) (c : Contrib)
    (h : PInv cfg fsd w) (hok : fsOk fsd = true) (hag : Agree fsr fsd w)
    (hx : w.idx.files.get x = none) (hc : fsr.get x = some c) :
    let w' := updateResolved (putFile cfg w x c []) x c
    PInv cfg fsd w' ∧ Agree fsr fsd w' ∧
    (∀ y, w'.idx.files.get y = if x = y then some (mkFileIdx x c) else w.idx.files.get y) ∧
    (∀ u, ReachS (succG w.incG) w.root u → ReachS (succG w'.incG) w.root u) ∧
    w'.root = w.root ∧
    (w'.cFormats = w.cFormats ∧ w'.cComms = w.cComms ∧ w'.cAccts = w.cAccts) := by
  intro w'
  have hcd : fsd.get x = some c := by rw [← hag x hx]; exact hc
  obtain ⟨hxne, hcok⟩ := fsOk_get fsd hok x c hcd
  have hinc0 : includesOf w x = [] := includesOf_none w x hx
  have hput := putFile_ginv cfg fsd fsd w x c h.g hxne hcok hcd (fun _ _ => rfl)
  rw [hinc0] at hput
  obtain ⟨f1, f2, f3, f4, _, f6, f7, f8⟩ := updateResolved_fields (putFile cfg w x c []) x c
  obtain ⟨p1, _, p3, p4, p5, p6, p7, p8⟩ := putFile_other cfg w x c []
  have hfiles : ∀ y, w'.idx.files.get y = if x = y then some (mkFileIdx x c) else w.idx.files.get y := by
    intro y
    show (updateResolved (putFile cfg w x c []) x c).idx.files.get y = _
    rw [f2]; exact files_putFile cfg w x c [] hxne y
  have hroot : w'.root = w.root := f1.trans p1
  refine ⟨⟨?_, ?_, updateResolved_ginv cfg fsd _ NoDead x c hput, ?_⟩, ?_, hfiles, ?_, hroot,
    ⟨f6.trans p6, f7.trans p7, f8.trans p8⟩⟩
  · rw [hroot]; exact h.root_ne
  · rw [hroot, hfiles]
    by_cases e : x = w.root
    · simp [e]
    · simp only [e, if_false]; exact h.rootIdx
  · exact updateResolved_rinv fsd fsd w (putFile cfg w x c []) x c h.r p1 ⟨p3, p4, p5⟩
      (fun y => files_putFile cfg w x c [] hxne y) hcd (fun _ _ => rfl)
  · intro q hq
    rw [hfiles q] at hq
    by_cases e : x = q
    · simp [e] at hq
    · simp only [e, if_false] at hq; exact hag q hq
  · intro u hu
    apply reachS_mono hu
    intro p _ q hq
    show q ∈ succG (updateResolved (putFile cfg w x c []) x c).incG p
    rw [f3, succG_putFile]
    by_cases e : x = p
    · subst e
      unfold succG at hq
      rw [h.g.incOk x, hinc0] at hq
      simp at hq
    · simpa [e] using hq

structure AddAll (cfg : Cfg) (fsr fsd : FS) (w : WS) (b : Bool) (L : List String)
    (w' : WS) (b' : Bool) : Prop where
  pinv : PInv cfg fsd w'
  agree : Agree fsr fsd w'
  files : ∀ y, (w'.idx.files.get y).isSome ↔
    ((w.idx.files.get y).isSome ∨ (y ∈ L ∧ (fsr.get y).isSome))
  keep : ∀ y fi, w.idx.files.get y = some fi → w'.idx.files.get y = some fi
  flag : b' = true ↔ (b = true ∨ ∃ y ∈ L, (fsr.get y).isSome)
  reach : ∀ u, ReachS (succG w.incG) w.root u → ReachS (succG w'.incG) w.root u
  root : w'.root = w.root
  caches : w'.cFormats = w.cFormats ∧ w'.cComms = w.cComms ∧ w'.cAccts = w.cAccts

theorem addSteps_ok (cfg : Cfg) (fsr fsd : FS) (hok : fsOk fsd = true) :
    ∀ (L : List String) (w : WS) (b : Bool), PInv cfg fsd w → Agree fsr fsd w → L.Nodup →
      (∀ x ∈ L, w.idx.files.get x = none) →
      AddAll cfg fsr fsd w b L ((L.foldl (addStep cfg fsr) (w, b)).1)
        ((L.foldl (addStep cfg fsr) (w, b)).2) := by
  intro L
  induction L with
  | nil =>
    intro w b h hag _ _
    exact ⟨h, hag, fun y => by simp, fun y fi h => h, by simp, fun u h => h, rfl, ⟨rfl, rfl, rfl⟩⟩
  | cons x L ih =>
    intro w b h hag hn hL
    rw [List.nodup_cons] at hn
    have hxn : w.idx.files.get x = none := hL x List.mem_cons_self
    simp only [List.foldl_cons]
    cases hc : fsr.get x with
    | none =>
      have e : addStep cfg fsr (w, b) x = (w, b) := by simp [addStep, hc]
      rw [e]
      have := ih w b h hag hn.2 (fun y hy => hL y (List.mem_cons_of_mem _ hy))
      have hx : ¬ (fsr.get x).isSome = true := by rw [hc]; nofun
      refine ⟨this.pinv, this.agree, fun y => ?_, this.keep, ?_, this.reach, this.root, this.caches⟩
      · rw [this.files y, List.mem_cons]
        exact or_congr_right ⟨fun h => ⟨Or.inr h.1, h.2⟩, fun h => ⟨h.1.resolve_left fun e => hx (e ▸ h.2), h.2⟩⟩
      · rw [this.flag]
        exact or_congr_right ⟨fun ⟨y, hy, h⟩ => ⟨y, List.mem_cons_of_mem _ hy, h⟩, fun ⟨y, hy, h⟩ =>
          ⟨y, (List.mem_cons.mp hy).resolve_left fun e => hx (e ▸ h), h⟩⟩
    | some c =>
      have e : addStep cfg fsr (w, b) x = (updateResolved (putFile cfg w x c []) x c, true) := by
        simp [addStep, hc]
      rw [e]
      obtain ⟨a1, a2, a3, a4, a5, a6⟩ := addOne cfg fsr fsd w x c h hok hag hxn hc
      have := ih _ true a1 a2 hn.2 (by
        intro y hy
        have hne : ¬ x = y := fun e => hn.1 (e ▸ hy)
        rw [a3 y]
        simp only [hne, if_false]
        exact hL y (List.mem_cons_of_mem _ hy))
      have hx : (fsr.get x).isSome = true := hc ▸ rfl
      refine ⟨this.pinv, this.agree, fun y => ?_, fun y fi hy => this.keep y fi ?_,
        this.flag.trans (iff_of_true (Or.inl rfl) (Or.inr ⟨x, List.mem_cons_self, hx⟩)),
        fun u hu => a5 ▸ this.reach u (a5 ▸ a4 u hu), this.root.trans a5,
        ⟨this.caches.1.trans a6.1, this.caches.2.1.trans a6.2.1, this.caches.2.2.trans a6.2.2⟩⟩
      · rw [this.files y, a3 y, List.mem_cons]
        by_cases e2 : x = y
        · subst e2; rw [if_pos rfl]; exact iff_of_true (Or.inl rfl) (Or.inr ⟨Or.inl rfl, hx⟩)
        · rw [if_neg e2]
          exact or_congr_right ⟨fun h => ⟨Or.inr h.1, h.2⟩, fun h => ⟨h.1.resolve_left fun e => e2 e.symm, h.2⟩⟩
      · rw [a3 y, if_neg fun e2 => nomatch (e2 ▸ hxn).symm.trans hy]; exact hy

theorem computeReachable_nodup (w : WS) : (computeReachable w).Nodup := by
  unfold computeReachable
  split
  · simp
  · exact bfsF_nodup _ _ _ _ (by simp)

theorem mem_missingOf (w : WS) (R : List String) (x : String) :
    x ∈ missingOf w R ↔ (x ∈ R ∧ w.idx.files.get x = none) := by
  simp [missingOf, List.mem_filter, Option.isNone_iff_eq_none]

theorem missingOf_nodup (w : WS) (R : List String) (h : R.Nodup) : (missingOf w R).Nodup :=
  isort_nodup _ (List.Pairwise.filter _ h)

/-- one iteration of the loop of `refreshIncludeTreeLocked` -/
def round (cfg : Cfg) (fsr : FS) (w : WS) : WS × Bool :=
  addMissingReachable cfg fsr (removeUnreachable cfg w (computeReachable w)) (computeReachable w)

theorem refreshF_succ (cfg : Cfg) (fsr : FS) (n : Nat) (w : WS) :
    refreshF cfg fsr (n + 1) w =
      if (round cfg fsr w).2 then refreshF cfg fsr n (round cfg fsr w).1
      else (round cfg fsr w).1 := rfl

theorem clearCaches_of_none (w : WS) (h : CachesNone w) : clearCaches w = w := by
  obtain ⟨h1, h2, h3⟩ := h
  cases w
  simp only [clearCaches] at *
  simp [h1, h2, h3]

/-- every indexed file is reachable in the include graph of the index -/
def Sound (w : WS) : Prop := ∀ y, (w.idx.files.get y).isSome → ReachS (succG w.incG) w.root y

/-- a file whose disk content is not the content the invariant speaks of stays reachable -/
def Keep (fsr fsd : FS) (w : WS) : Prop :=
  ∀ q, fsr.get q ≠ fsd.get q → ReachS (succG w.incG) w.root q

/-- number of files on disk that are not indexed -/
def mu (fsr : FS) (w : WS) : Nat := (fsr.keys.filter fun q => (w.idx.files.get q).isNone).length

theorem length_filter_lt {α : Type} (l : List α) (p p' : α → Bool)
    (h1 : ∀ a ∈ l, p' a = true → p a = true) (h2 : ∃ a ∈ l, p a = true ∧ p' a = false) :
    (l.filter p').length < (l.filter p).length := by
  have e : l.filter p' = (l.filter p).filter p' := by
    rw [List.filter_filter]
    exact List.filter_congr fun a ha => by cases h : p' a <;> simp [h1 a ha, h]
  obtain ⟨a, ha, hpa, hpa'⟩ := h2
  rw [e]
  exact List.length_filter_lt_length_iff_exists.mpr ⟨a, List.mem_filter.mpr ⟨ha, hpa⟩, by simp [hpa']⟩

structure RoundOk (cfg : Cfg) (fsr fsd : FS) (w w' : WS) (b : Bool) : Prop where
  pinv : PInv cfg fsd w'
  none : CachesNone w'
  agree : Agree fsr fsd w'
  keep : Keep fsr fsd w'
  sound : Sound w'
  root : w'.root = w.root
  closed : b = false → Closed fsd w'
  less : Sound w → b = true → mu fsr w' < mu fsr w

theorem round_ok (cfg : Cfg) (fsr fsd : FS) (w : WS)
    (h : PInv cfg fsd w) (hok : fsOk fsd = true) (hnone : CachesNone w)
    (hag : Agree fsr fsd w) (hkeep : Keep fsr fsd w) :
    RoundOk cfg fsr fsd w (round cfg fsr w).1 (round cfg fsr w).2 := by
  have hR := mem_computeReachable w h.root_ne
  obtain ⟨r1, r2, r3, r4, r5⟩ := removeUnreachable_spec cfg fsd w h
  generalize hw1 : removeUnreachable cfg w (computeReachable w) = w1 at r1 r2 r3 r4 r5
  have hag1 : Agree fsr fsd w1 := by
    intro q hq
    rw [r2 q] at hq
    by_cases e : q ∈ computeReachable w
    · simp only [e, if_true] at hq; exact hag q hq
    · apply Classical.byContradiction
      intro hne
      exact e ((hR q).mpr (hkeep q hne))
  have ha := addSteps_ok cfg fsr fsd hok (missingOf w1 (computeReachable w)) w1 false r1 hag1
    (missingOf_nodup _ _ (computeReachable_nodup w))
    (fun x hx => ((mem_missingOf _ _ _).mp hx).2)
  generalize hw2 : (List.foldl (addStep cfg fsr) (w1, false) (missingOf w1 (computeReachable w))) = r at ha
  have hnone1 : CachesNone w1 := by
    obtain ⟨c1, c2, c3⟩ := r5
    exact ⟨c1.trans hnone.1, c2.trans hnone.2.1, c3.trans hnone.2.2⟩
  have hnone2 : CachesNone r.1 := by
    obtain ⟨c1, c2, c3⟩ := ha.caches
    exact ⟨c1.trans hnone1.1, c2.trans hnone1.2.1, c3.trans hnone1.2.2⟩
  have hround : round cfg fsr w = (r.1, r.2) := by
    unfold round
    rw [hw1]
    show (let r := (missingOf w1 (computeReachable w)).foldl (addStep cfg fsr) (w1, false)
      if r.2 then (clearCaches r.1, true) else r) = _
    simp only [hw2]
    cases e : r.2 with
    | true => simp [clearCaches_of_none r.1 hnone2]
    | false =>
      simp only [Bool.false_eq_true, if_false]
      rw [← e]
  rw [hround]
  simp only
  have hroot2 : r.1.root = w.root := ha.root.trans r4
  -- indexed files of w1 are reachable
  have hidx1 : ∀ y, (w1.idx.files.get y).isSome → ReachS (succG w.incG) w.root y := by
    intro y hy
    rw [r2 y] at hy
    by_cases e : y ∈ computeReachable w
    · exact (hR y).mp e
    · simp [e] at hy
  have hreach12 : ∀ u, ReachS (succG w.incG) w.root u → ReachS (succG r.1.incG) r.1.root u := by
    intro u hu
    rw [hroot2, ← r4]
    exact ha.reach u (r4 ▸ (r3 u).mpr hu)
  refine ⟨ha.pinv, hnone2, ha.agree, ?_, ?_, hroot2, ?_, ?_⟩
  · intro q hq; exact hreach12 q (hkeep q hq)
  · intro y hy
    rcases (ha.files y).mp hy with h1 | ⟨h1, _⟩
    · exact hreach12 y (hidx1 y h1)
    · exact hreach12 y ((hR y).mp ((mem_missingOf _ _ _).mp h1).1)
  · -- no file was added: the indexed files are the reachable existing files
    intro hb
    have hno : ∀ y, y ∈ computeReachable w → w1.idx.files.get y = none → fsr.get y = none := by
      intro y hy hyn
      cases e : fsr.get y with
      | none => rfl
      | some c =>
        have : r.2 = true := ha.flag.mpr (Or.inr ⟨y, (mem_missingOf _ _ _).mpr ⟨hy, hyn⟩, by rw [e]; rfl⟩)
        rw [hb] at this; simp at this
    have hsame : ∀ y, r.1.idx.files.get y = w1.idx.files.get y := by
      intro y
      cases e : w1.idx.files.get y with
      | some fi => exact ha.keep y fi e
      | none =>
        cases e2 : r.1.idx.files.get y with
        | none => rfl
        | some fi =>
          have := (ha.files y).mp (by rw [e2]; rfl)
          rcases this with h1 | ⟨h1, h2⟩
          · rw [e] at h1; simp at h1
          · rw [hno y ((mem_missingOf _ _ _).mp h1).1 e] at h2; simp at h2
    intro p
    rw [hroot2, hsame p]
    constructor
    · intro hp
      obtain ⟨fi, hfi⟩ := Option.isSome_iff_exists.mp hp
      obtain ⟨c, hc, _⟩ := r1.g.fresh p fi hfi
      refine ⟨?_, by rw [hc]; rfl⟩
      have := reachG_sound cfg fsd w1 NoDead r1.g p (r4 ▸ (r3 p).mpr (hidx1 p hp))
      rw [r4] at this; exact this
    · rintro ⟨hp, hex⟩
      have key : ∀ x, Reach fsd w.root x →
          ReachS (succG w1.incG) w.root x ∧ ((fsd.get x).isSome → (w1.idx.files.get x).isSome) := by
        intro x hx
        induction hx with
        | base => exact ⟨.base, fun _ => r4 ▸ r1.rootIdx⟩
        | @step u v _ hq ih =>
          have hu : (fsd.get u).isSome := by
            cases e : fsd.get u with
            | some _ => rfl
            | none => simp [succs, e] at hq
          have hiu := ih.2 hu
          obtain ⟨fi, hfi⟩ := Option.isSome_iff_exists.mp hiu
          obtain ⟨c, hc, hfic⟩ := r1.g.fresh u fi hfi
          have hv : v ∈ c.incs := by simpa [succs, hc] using hq
          have hrv : ReachS (succG w1.incG) w.root v := by
            by_cases e : v = u
            · exact e ▸ ih.1
            · refine .step ih.1 ?_
              unfold succG
              rw [r1.g.incOk u, includesOf_eq w1 u fi hfi, hfic]
              exact (mem_resolveIncl u c.incs v).mpr ⟨hv, e⟩
          refine ⟨hrv, ?_⟩
          intro hexv
          cases e : w1.idx.files.get v with
          | some _ => rfl
          | none =>
            have hvR : v ∈ computeReachable w := (hR v).mpr ((r3 v).mp hrv)
            have := hno v hvR e
            rw [hag1 v e] at this
            rw [this] at hexv; simp at hexv
      exact (key p hp).2 hex
  · -- progress
    intro hs hb
    unfold mu
    have hw1eq : ∀ y, w1.idx.files.get y = w.idx.files.get y := by
      intro y
      rw [r2 y]
      by_cases e : y ∈ computeReachable w
      · simp [e]
      · cases e2 : w.idx.files.get y with
        | none => simp
        | some fi => exact absurd ((hR y).mpr (hs y (by rw [e2]; rfl))) e
    apply length_filter_lt
    · intro a _ ha'
      have : r.1.idx.files.get a = none := by simpa using ha'
      cases e : w.idx.files.get a with
      | none => rfl
      | some fi =>
        have := ha.keep a fi (by rw [hw1eq a]; exact e)
        simp_all
    · obtain hf | ⟨y, hy1, hy3⟩ := ha.flag.mp hb
      · simp at hf
      · have hy2 := ((mem_missingOf _ _ _).mp hy1).2
        refine ⟨y, (mem_keys_iff _ _).mpr hy3, ?_, ?_⟩
        · rw [← hw1eq y, hy2]; rfl
        · have := (ha.files y).mpr (Or.inr ⟨hy1, hy3⟩)
          cases e : r.1.idx.files.get y with
          | none => rw [e] at this; simp at this
          | some _ => rfl

structure RefreshOk (cfg : Cfg) (fsd : FS) (w w' : WS) : Prop where
  pinv : PInv cfg fsd w'
  closed : Closed fsd w'
  none : CachesNone w'
  root : w'.root = w.root

theorem refreshF_ok (cfg : Cfg) (fsr fsd : FS) (hok : fsOk fsd = true) :
    ∀ (n : Nat) (w : WS), PInv cfg fsd w → CachesNone w → Agree fsr fsd w → Keep fsr fsd w →
      Sound w → mu fsr w < n → RefreshOk cfg fsd w (refreshF cfg fsr n w) := by
  intro n
  induction n with
  | zero => intro w _ _ _ _ _ h; omega
  | succ n ih =>
    intro w h hnone hag hkeep hs hmu
    rw [refreshF_succ]
    have hr := round_ok cfg fsr fsd w h hok hnone hag hkeep
    cases hb : (round cfg fsr w).2 with
    | false =>
      simp only [Bool.false_eq_true, if_false]
      exact ⟨hr.pinv, hr.closed hb, hr.none, hr.root⟩
    | true =>
      simp only [if_true]
      have hlt := hr.less hs hb
      have := ih _ hr.pinv hr.none hr.agree hr.keep hr.sound (by omega)
      exact ⟨this.pinv, this.closed, this.none, this.root.trans hr.root⟩

/-- `refreshIncludeTreeLocked` restores the invariant and makes the index hold exactly the
    existing files reachable from the root; the fuel `len(disk) + 2` suffices. -/
theorem refresh_ok (cfg : Cfg) (fsr fsd : FS) (w : WS) (hok : fsOk fsd = true)
    (h : PInv cfg fsd w) (hnone : CachesNone w) (hag : Agree fsr fsd w) (hkeep : Keep fsr fsd w) :
    RefreshOk cfg fsd w (refreshIncludeTree cfg fsr w) := by
  unfold refreshIncludeTree
  simp only [h.root_ne, if_false]
  rw [refreshF_succ]
  have hr := round_ok cfg fsr fsd w h hok hnone hag hkeep
  cases hb : (round cfg fsr w).2 with
  | false =>
    simp only [Bool.false_eq_true, if_false]
    exact ⟨hr.pinv, hr.closed hb, hr.none, hr.root⟩
  | true =>
    simp only [if_true]
    have hmu : mu fsr (round cfg fsr w).1 < fsr.length + 1 := by
      unfold mu
      have := List.length_filter_le (fun q => ((round cfg fsr w).1.idx.files.get q).isNone) fsr.keys
      simp only [AList.keys, List.length_map] at this ⊢
      omega
    have := refreshF_ok cfg fsr fsd hok _ _ hr.pinv hr.none hr.agree hr.keep hr.sound hmu
    exact ⟨this.pinv, this.closed, this.none, this.root.trans hr.root⟩

end HL.Lemmas.Refresh
