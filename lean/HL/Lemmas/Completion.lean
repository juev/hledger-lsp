import HL.Model.Completion
import HL.Generated.Expect.Completion
import HL.Spec.CompletionSpec
/-! What the functions of HL.Model.Completion compute (scores, ranking, truncation, candidates, query and
  edit start); used by HL.Props.C16 and, for the edit range, by HL.Props.C08. -/
namespace HL.Completion
open HL.Text HL.CompletionSpec

theorem fuzzyLoop_sublist (text pat : Str) (i : Nat) (prev : Option Char) (last : Int) (bonus score : Nat) :
    (fuzzyLoop text pat i prev last bonus score).2 = [] → pat.Sublist text := by
  induction text generalizing pat i prev last bonus score with
  | nil =>
    intro h
    cases pat with
    | nil => exact List.Sublist.slnil
    | cons p ps => simp [fuzzyLoop] at h
  | cons t ts ih =>
    intro h
    cases pat with
    | nil => exact List.nil_sublist _
    | cons p ps =>
      unfold fuzzyLoop at h
      split at h
      · next heq => subst heq; exact (ih _ _ _ _ _ _ h).cons_cons _
      · exact (ih _ _ _ _ _ _ h).cons _

theorem fuzzyLoop_prefix (pat text : Str) (i : Nat) (prev : Option Char) (last : Int) (bonus score : Nat)
    (h : pat <+: text) :
    (fuzzyLoop text pat i prev last bonus score).2 = [] ∧
    score + scoreBase * pat.length ≤ (fuzzyLoop text pat i prev last bonus score).1 := by
  induction pat generalizing text i prev last bonus score with
  | nil => cases text <;> simp [fuzzyLoop]
  | cons p ps ih =>
    obtain ⟨r, rfl⟩ := h
    simp only [List.cons_append, fuzzyLoop, if_true, List.length_cons, Nat.mul_succ]
    -- a matching step adds at least the base score
    refine ⟨(ih _ _ _ _ _ _ (List.prefix_append _ _)).1, Nat.le_trans ?_ (ih _ _ _ _ _ _ (List.prefix_append _ _)).2⟩
    split <;> split <;> simp only [] <;> omega

theorem fuzzyScore_pos_sublist (lower : Char → Char) (text pat : Str)
    (h : 0 < fuzzyScore lower text pat) : (pat.map lower).Sublist (text.map lower) := by
  unfold fuzzyScore at h
  split at h
  · next hp => subst hp; exact List.nil_sublist _
  · simp only [] at h
    split at h
    · omega
    · next hr =>
      have : (fuzzyLoop (text.map lower) (pat.map lower) 0 none (-1) 0 0).2 = [] := by
        simpa using hr
      exact fuzzyLoop_sublist _ _ _ _ _ _ _ this

theorem fuzzyScore_pos_of_prefix (lower : Char → Char) (text pat : Str)
    (h : (pat.map lower) <+: (text.map lower)) : 0 < fuzzyScore lower text pat := by
  unfold fuzzyScore
  split
  · exact HL.Generated.Expect.fuzzy_empty_pos
  · next hp =>
    have := fuzzyLoop_prefix (pat.map lower) (text.map lower) 0 none (-1) 0 0 h
    simp only []
    rw [if_neg (by simp [this.1])]
    have hl : 0 < (pat.map lower).length := by
      cases pat with
      | nil => exact absurd rfl hp
      | cons _ _ => simp
    have hb : 0 < scoreBase := HL.Generated.Expect.fuzzy_base_pos
    have := Nat.mul_pos hb hl
    omega

theorem splitOn_ne_nil (c : Char) (s : Str) : splitOn c s ≠ [] := by
  induction s with
  | nil => simp [splitOn]
  | cons x xs ih =>
    unfold splitOn
    split
    · simp
    · split <;> simp

theorem splitOn_sublist (c : Char) (s seg : Str) (h : seg ∈ splitOn c s) : seg.Sublist s := by
  induction s generalizing seg with
  | nil => simp [splitOn] at h; subst h; exact List.Sublist.slnil
  | cons x xs ih =>
    unfold splitOn at h
    split at h
    · rcases List.mem_cons.1 h with h | h
      · subst h; exact List.nil_sublist _
      · exact (ih _ h).cons _
    · split at h
      · next heq => exact absurd heq (splitOn_ne_nil c xs)
      · next s0 ss heq =>
        rcases List.mem_cons.1 h with h | h
        · subst h
          exact (ih s0 (by rw [heq]; exact List.mem_cons_self)).cons_cons _
        · exact (ih seg (by rw [heq]; exact List.mem_cons_of_mem _ h)).cons _

theorem foldl_best_pos (f : Str → Nat) (segs : List Str) (b : Nat)
    (h : 0 < segs.foldl (fun best seg => if f seg > best then f seg else best) b) :
    0 < b ∨ ∃ seg ∈ segs, 0 < f seg := by
  induction segs generalizing b with
  | nil => exact Or.inl h
  | cons x xs ih =>
    simp only [List.foldl_cons] at h
    rcases ih _ h with h1 | ⟨seg, hm, hp⟩
    · split at h1
      · exact Or.inr ⟨x, List.mem_cons_self, h1⟩
      · exact Or.inl h1
    · exact Or.inr ⟨seg, List.mem_cons_of_mem _ hm, hp⟩

theorem bySegments_pos (lower : Char → Char) (name pat : Str)
    (h : 0 < fuzzyScoreBySegments lower name pat) :
    pat = [] ∨ ∃ seg ∈ splitOn ':' name, 0 < fuzzyScore lower seg pat := by
  unfold fuzzyScoreBySegments at h
  split at h
  · next hp => exact Or.inl hp
  · rcases foldl_best_pos (fun seg => fuzzyScore lower seg pat) _ 0 h with h0 | h1
    · omega
    · exact Or.inr h1

theorem bySegments_sublist (lower : Char → Char) (name pat : Str)
    (h : 0 < fuzzyScoreBySegments lower name pat) : (pat.map lower).Sublist (name.map lower) := by
  rcases bySegments_pos lower name pat h with hp | ⟨seg, hm, hs⟩
  · subst hp; exact List.nil_sublist _
  · exact (fuzzyScore_pos_sublist lower seg pat hs).trans ((splitOn_sublist _ _ _ hm).map lower)

theorem trimColon_append (q : Str) (h : q.getLast? = some ':') : trimColon q ++ [':'] = q := by
  unfold trimColon; rw [if_pos h]
  have hne : q ≠ [] := by rintro rfl; simp at h
  have hl : q.getLast hne = ':' := by
    rw [List.getLast?_eq_some_getLast hne] at h; exact Option.some.inj h
  have := List.dropLast_concat_getLast hne
  rwa [hl] at this

theorem lastIndexP_getElem (p : Char → Bool) (l : Str) (k : Nat) (h : lastIndexP p l = some k) :
    ∃ c, l[k]? = some c ∧ p c = true := by
  induction l generalizing k with
  | nil => simp [lastIndexP] at h
  | cons x xs ih =>
    unfold lastIndexP at h
    split at h
    · next k' hk' =>
      cases h
      obtain ⟨c, hc, hp⟩ := ih k' hk'
      exact ⟨c, by simpa using hc, hp⟩
    · split at h
      · next hpx => cases h; exact ⟨x, rfl, hpx⟩
      · cases h

theorem lastIndexP_lt (p : Char → Bool) (l : Str) (k : Nat) (h : lastIndexP p l = some k) : k < l.length := by
  obtain ⟨c, hc, _⟩ := lastIndexP_getElem p l k h
  exact (List.getElem?_eq_some_iff.1 hc).1

theorem take_succ_lastIndexP (c : Char) (l : Str) (k : Nat) (h : lastIndexP (· == c) l = some k) :
    l.take (k + 1) = l.take k ++ [c] := by
  obtain ⟨d, hd, hp⟩ := lastIndexP_getElem _ l k h
  rw [List.take_add_one, hd, beq_iff_eq.mp hp]; rfl

/-- What a positive score of the fuzzy branch guarantees, whatever the query: the query is a
    subsequence of the label, letter case ignored. -/
theorem fuzzyItemScore_pos (lower : Char → Char) (q l : Str) (h : 0 < fuzzyItemScore lower q l) :
    (q.map lower).Sublist (l.map lower) := by
  unfold fuzzyItemScore at h
  simp only [] at h
  cases hk : lastIndexP (· == ':') l with
  | none =>
    simp only [hk] at h
    exact fuzzyScore_pos_sublist lower l q (by simpa using h)
  | some k =>
    simp only [hk] at h
    by_cases hpos : fuzzyScoreBySegments lower (if q.getLast? = some ':' then l.take k else l) (trimColon q) > 0
    · by_cases hc : q.getLast? = some ':'
      · rw [if_pos hc] at hpos
        have h1 := bySegments_sublist lower (l.take k) (trimColon q) hpos
        have h2 : ((trimColon q ++ [':']).map lower).Sublist ((l.take k ++ [':']).map lower) := by
          simp only [List.map_append]
          exact List.Sublist.append h1 (List.Sublist.refl _)
        rw [trimColon_append q hc, ← take_succ_lastIndexP ':' l k hk] at h2
        exact h2.trans ((List.take_sublist _ _).map lower)
      · rw [if_neg hc] at hpos
        have := bySegments_sublist lower l (trimColon q) hpos
        rwa [trimColon, if_neg hc] at this
    · rw [if_neg hpos] at h
      exact fuzzyScore_pos_sublist lower l q h

theorem fuzzyItemScore_of_prefix (lower : Char → Char) (q l : Str)
    (h : (q.map lower) <+: (l.map lower)) : 0 < fuzzyItemScore lower q l := by
  have key : ∀ a b : Nat, 0 < b → 0 < if a > 0 then a else b := by
    intro a b hb; split <;> omega
  exact key _ _ (fuzzyScore_pos_of_prefix lower l q h)

theorem mem_filterAndScore (lower : Char → Char) (items : List Str) (q : Str) (fuzzy : Bool) (s : Scored)
    (h : s ∈ filterAndScore lower items q fuzzy) :
    s.label ∈ items ∧
    (q = [] ∧ s.score = fuzzyScoreEmptyPattern ∨
     q ≠ [] ∧ fuzzy = false ∧ s.score = fuzzyScoreEmptyPattern ∧ (q.map lower) <+: (s.label.map lower) ∨
     q ≠ [] ∧ fuzzy = true ∧ 0 < fuzzyItemScore lower q s.label) := by
  unfold filterAndScore at h
  split at h
  · next hq =>
    obtain ⟨l, hl, rfl⟩ := List.mem_map.1 h
    exact ⟨hl, Or.inl ⟨hq, rfl⟩⟩
  · next hq =>
    split at h
    · next hf =>
      unfold filterByPrefix at h
      obtain ⟨l, hl, rfl⟩ := List.mem_map.1 h
      obtain ⟨hl1, hl2⟩ := List.mem_filter.1 hl
      refine ⟨hl1, Or.inr (Or.inl ⟨hq, by simpa using hf, rfl, List.isPrefixOf_iff_prefix.1 hl2⟩)⟩
    · next hf =>
      obtain ⟨l, hl, hs⟩ := List.mem_filterMap.1 h
      simp only [] at hs
      split at hs
      · next hpos =>
        cases hs
        exact ⟨hl, Or.inr (Or.inr ⟨hq, by simpa using hf, hpos⟩)⟩
      · cases hs

theorem filterAndScore_complete (lower : Char → Char) (items : List Str) (q : Str) (fuzzy : Bool) (n : Str)
    (hn : n ∈ items) (hp : (q.map lower) <+: (n.map lower)) :
    n ∈ (filterAndScore lower items q fuzzy).map (·.label) := by
  unfold filterAndScore
  split
  · simp only [List.map_map]
    exact List.mem_map.2 ⟨n, hn, rfl⟩
  · split
    · unfold filterByPrefix
      simp only [List.map_map]
      exact List.mem_map.2 ⟨n, List.mem_filter.2 ⟨hn, List.isPrefixOf_iff_prefix.2 hp⟩, rfl⟩
    · refine List.mem_map.2 ⟨⟨n, fuzzyItemScore lower q n⟩, List.mem_filterMap.2 ⟨n, hn, ?_⟩, rfl⟩
      simp only []
      rw [if_pos (fuzzyItemScore_of_prefix lower q n hp)]

theorem less_iff (counts : Option (List (Str × Nat))) (a b : Scored) :
    less counts a b = true ↔
      (a.score > b.score ∨ (a.score = b.score ∧ countOf counts a.label > countOf counts b.label)) := by
  unfold less
  split <;> simp only [gt_iff_lt, decide_eq_true_eq] <;> omega

theorem less_false_iff (counts : Option (List (Str × Nat))) (a b : Scored) :
    less counts a b = false ↔
      (a.score < b.score ∨ (a.score = b.score ∧ countOf counts a.label ≤ countOf counts b.label)) := by
  rw [← Bool.not_eq_true, less_iff]; omega

theorem insertRanked_perm (counts : Option (List (Str × Nat))) (x : Scored) (l : List Scored) :
    (insertRanked counts x l).Perm (x :: l) := by
  induction l with
  | nil => exact List.Perm.refl _
  | cons y ys ih =>
    unfold insertRanked
    split
    · exact (List.Perm.cons y ih).trans (List.Perm.swap x y ys)
    · exact List.Perm.refl _

theorem insertRanked_sorted (counts : Option (List (Str × Nat))) (x : Scored) (l : List Scored)
    (h : l.Pairwise fun a b => less counts b a = false) :
    (insertRanked counts x l).Pairwise fun a b => less counts b a = false := by
  induction l with
  | nil => simp [insertRanked]
  | cons y ys ih =>
    have hy := List.pairwise_cons.1 h
    unfold insertRanked
    split
    · next hlt =>
      refine List.pairwise_cons.2 ⟨?_, ih hy.2⟩
      intro b hb
      rcases List.mem_cons.1 ((insertRanked_perm counts x ys).mem_iff.1 hb) with hb | hb
      · subst hb
        rw [less_false_iff]; rw [less_iff] at hlt; omega
      · exact hy.1 b hb
    · next hnl =>
      have hnl : less counts y x = false := by simpa using hnl
      refine List.pairwise_cons.2 ⟨?_, h⟩
      intro b hb
      rcases List.mem_cons.1 hb with hb | hb
      · subst hb; exact hnl
      · have := hy.1 b hb
        rw [less_false_iff] at this hnl ⊢; omega

/-- The executable ranking is one of the outcomes `sort.Slice` may produce. -/
theorem rankExec_isRanking (counts : Option (List (Str × Nat))) (l : List Scored) :
    IsRanking counts l (rankExec counts l) := by
  induction l with
  | nil => exact ⟨List.Perm.refl _, List.Pairwise.nil⟩
  | cons x xs ih =>
    unfold rankExec
    exact ⟨(insertRanked_perm counts x _).trans (List.Perm.cons x ih.1), insertRanked_sorted counts x _ ih.2⟩

theorem normMax_pos (raw : Int) : 0 < normMax raw := by
  unfold normMax; split <;> omega

theorem truncate_eq_take (m : Nat) (l : List Scored) (hm : 0 < m) : truncate m l = l.take m := by
  unfold truncate
  split
  · rfl
  · next h => exact (List.take_of_length_le (by omega)).symm

theorem truncate_sublist (m : Nat) (l : List Scored) : (truncate m l).Sublist l := by
  unfold truncate; split
  · exact List.take_sublist _ _
  · exact List.Sublist.refl _

theorem truncate_length_le (m : Nat) (l : List Scored) (hm : 0 < m) : (truncate m l).length ≤ m := by
  rw [truncate_eq_take m l hm, List.length_take]; omega

theorem accountsForPrefix_subset (lower : Char → Char) (t : Table) (pre l : Str)
    (h : l ∈ accountsForPrefix lower t pre) : l ∈ t.accounts := by
  unfold accountsForPrefix at h
  split at h
  · exact h
  · simp only [] at h
    split at h
    · exact h
    · exact (List.mem_filter.1 h).1

theorem accountsForPrefix_complete (lower : Char → Char) (t : Table) (pre n : Str) (hn : n ∈ t.accounts)
    (hk : (pre.map lower) <+: (n.map lower)) : n ∈ accountsForPrefix lower t pre := by
  unfold accountsForPrefix
  split
  · exact hn
  · simp only []
    split
    · exact hn
    · exact List.mem_filter.2 ⟨hn, List.isPrefixOf_iff_prefix.2 hk⟩

theorem judged_cases {c : Ctx} (h : judged c = true) :
    c = .account ∨ c = .payee ∨ c = .commodity ∨ c = .tagName := by
  cases c <;> simp [judged] at h ⊢

theorem labelsFor_subset (lower : Char → Char) (t : Table) (c : Ctx) (line : Str) (col : Nat)
    (hj : judged c = true) (l : Str) (h : l ∈ labelsFor lower t c line col) : l ∈ namesOf t c := by
  rcases judged_cases hj with rfl | rfl | rfl | rfl
  · exact accountsForPrefix_subset lower t _ l h
  all_goals exact h

theorem extractAccountPrefix_prefix (line : Str) (col : Nat) :
    extractAccountPrefix line col <+: extractQuery .account line col := by
  unfold extractAccountPrefix
  simp only []
  split
  · exact List.nil_prefix
  · exact List.take_prefix _ _

theorem labelsFor_complete (lower : Char → Char) (t : Table) (c : Ctx) (line : Str) (col : Nat)
    (hj : judged c = true) (n : Str) (hn : n ∈ namesOf t c)
    (hp : ((extractQuery c line col).map lower) <+: (n.map lower)) : n ∈ labelsFor lower t c line col := by
  rcases judged_cases hj with rfl | rfl | rfl | rfl
  · exact accountsForPrefix_complete lower t _ n hn (((extractAccountPrefix_prefix line col).map lower).trans hp)
  all_goals exact hn

theorem dropWhile_eq_drop {α : Type} (p : α → Bool) (l : List α) : l.dropWhile p = l.drop (l.takeWhile p).length := by
  have := congrArg (List.drop (l.takeWhile p).length) (List.takeWhile_append_dropWhile (p := p) (l := l))
  rwa [List.drop_left] at this

theorem length_takeWhile_le {α : Type} (p : α → Bool) (l : List α) : (l.takeWhile p).length ≤ l.length :=
  (List.takeWhile_sublist p).length_le

theorem drop_sub_dropWhile {α : Type} (p : α → Bool) (l : List α) :
    l.drop (l.length - (l.dropWhile p).length) = l.dropWhile p :=
  (List.suffix_iff_eq_drop.mp (List.dropWhile_suffix p)).symm

theorem amountEndFrom_le (r : Str) : amountEndFrom r ≤ r.length := by
  unfold amountEndFrom
  simp only []
  generalize hw : (r.takeWhile fun c => !isDigitOrSign c && c != ' ' && c != ')').length = w
  have h1 : w ≤ r.length := hw ▸ length_takeWhile_le _ r
  generalize hg : ((r.drop w).takeWhile isSign).length = g
  have h2 : g ≤ (r.drop w).length := hg ▸ length_takeWhile_le _ _
  generalize hd : (((r.drop w).drop g).takeWhile isNumChar).length = d
  have h3 : d ≤ ((r.drop w).drop g).length := hd ▸ length_takeWhile_le _ _
  have h4 : closeParen (((r.drop w).drop g).drop d) ≤ (((r.drop w).drop g).drop d).length := by
    unfold closeParen
    split
    · next t heq => rw [heq]; simp only [List.length_cons]; omega
    · omega
  simp only [List.length_drop] at h2 h3 h4
  omega

theorem findAmountEnd_le (s : Str) : findAmountEnd s ≤ s.length := by
  unfold findAmountEnd
  split
  · have := amountEndFrom_le ‹Str›; simp only [List.length_cons]; omega
  · exact amountEndFrom_le s

theorem findDoublespace_le (s : Str) (k : Nat) (h : findDoublespace s = some k) : k ≤ s.length := by
  induction s generalizing k with
  | nil => simp [findDoublespace] at h
  | cons a r ih =>
    cases r with
    | nil => simp [findDoublespace] at h
    | cons b r =>
      unfold findDoublespace at h
      split at h
      · cases h; omega
      · obtain ⟨k', hk', rfl⟩ := Option.map_eq_some_iff.1 h
        have := ih k' hk'
        simp only [List.length_cons] at this ⊢; omega

theorem indexOf_lt (c : Char) (s : Str) (k : Nat) (h : indexOf c s = some k) : k < s.length := by
  induction s generalizing k with
  | nil => simp [indexOf] at h
  | cons x xs ih =>
    unfold indexOf at h
    split at h
    · cases h; simp
    · obtain ⟨k', hk', rfl⟩ := Option.map_eq_some_iff.1 h
      have := ih k' hk'
      simp only [List.length_cons]; omega

theorem drop4 (s t a : Str) (A k B e : Nat) (h1 : s.drop A = t) (h2 : (t.drop k).drop B = a) :
    s.drop (A + k + B + e) = a.drop e := by
  subst h1; subst h2
  simp only [List.drop_drop]

theorem commodityStart_aux (s trimmed afterAccount : Str) (k e : Nat)
    (hind : s.drop (s.length - trimmed.length) = trimmed) (htl : trimmed.length ≤ s.length)
    (hk : k ≤ trimmed.length)
    (hskip : (trimmed.drop k).drop ((trimmed.drop k).length - afterAccount.length) = afterAccount)
    (hal : afterAccount.length ≤ (trimmed.drop k).length) (he : e ≤ afterAccount.length) :
    s.length - trimmed.length + k + ((trimmed.drop k).length - afterAccount.length) + e +
        ((s.drop (s.length - trimmed.length + k + ((trimmed.drop k).length - afterAccount.length) + e)).takeWhile
          isBlank).length ≤ s.length ∧
    s.drop (s.length - trimmed.length + k + ((trimmed.drop k).length - afterAccount.length) + e +
        ((s.drop (s.length - trimmed.length + k + ((trimmed.drop k).length - afterAccount.length) + e)).takeWhile
          isBlank).length) =
      if e ≥ afterAccount.length then [] else (afterAccount.drop e).dropWhile isBlank := by
  have hdl : (trimmed.drop k).length = trimmed.length - k := List.length_drop
  have hcs : s.drop (s.length - trimmed.length + k + ((trimmed.drop k).length - afterAccount.length) + e)
      = afterAccount.drop e :=
    drop4 s trimmed afterAccount _ k _ e hind hskip
  rw [hcs]
  have htw := length_takeWhile_le isBlank (afterAccount.drop e)
  have hde : (afterAccount.drop e).length = afterAccount.length - e := List.length_drop
  refine ⟨by omega, ?_⟩
  rw [← List.drop_drop, hcs, ← dropWhile_eq_drop]
  split
  · next hge => rw [List.drop_of_length_le hge]; rfl
  · rfl

/-- On the text before the cursor, `findCommodityStart` and the commodity branch of
    `extractQueryText` cut at the same place. -/
theorem findCommodityStart_spec (s : Str) :
    findCommodityStart s s.length ≤ s.length ∧
    s.drop (findCommodityStart s s.length) = commodityQuery s := by
  unfold findCommodityStart commodityQuery parsePosting
  simp only [trimLeftP]
  cases hds : findDoublespace (s.dropWhile isPostingLead) with
  | none => simp
  | some k =>
    simp only []
    exact commodityStart_aux s _ _ k _ (drop_sub_dropWhile isPostingLead s)
      (List.dropWhile_sublist _).length_le (findDoublespace_le _ _ hds)
      (drop_sub_dropWhile isBlank _) (List.dropWhile_sublist _).length_le (findAmountEnd_le _)

theorem hasPrefix_length (s p : Str) (h : hasPrefix s p = true) : p.length ≤ s.length := by
  unfold hasPrefix at h
  exact (List.isPrefixOf_iff_prefix.1 h).length_le

theorem accountQueryStart_le (before : Str) : accountQueryStart before ≤ before.length := by
  unfold accountQueryStart
  split
  · next h => exact hasPrefix_length _ _ h
  · split
    · next h => exact hasPrefix_length _ _ h
    · omega

theorem payeeQueryStart_le (before : Str) : payeeQueryStart before ≤ before.length := by
  unfold payeeQueryStart
  split <;> omega

theorem tagNameQueryStart_le (before : Str) : tagNameQueryStart before ≤ before.length := by
  unfold tagNameQueryStart; omega

/-- Char-index form of `edit_replaces_fragment`: in the four judged contexts the edit range
    starts at or before the cursor and covers exactly the query. -/
theorem editStart_query (c : Ctx) (line : Str) (col : Nat) (hcol : col ≤ line.length)
    (hc : c = .account ∨ c = .payee ∨ c = .commodity ∨ c = .tagName) :
    ∃ s, editStart c line col = some s ∧ s ≤ col ∧
      (line.take col).drop s = extractQuery c line col := by
  have hlen : (line.take col).length = col := by rw [List.length_take]; omega
  generalize hb : line.take col = before at hlen
  rcases hc with rfl | rfl | rfl | rfl
  · simp only [editStart, extractQuery, hb]
    exact ⟨_, rfl, hlen ▸ accountQueryStart_le before, rfl⟩
  · simp only [editStart, extractQuery, hb]
    exact ⟨_, rfl, hlen ▸ payeeQueryStart_le before, rfl⟩
  · simp only [editStart, extractQuery, hb]
    unfold cutPrefix hasPrefix
    by_cases h1 : directiveCommodity.isPrefixOf before = true
    · rw [if_pos h1, if_pos h1]
      exact ⟨_, rfl, hlen ▸ hasPrefix_length _ _ h1, rfl⟩
    · rw [if_neg h1, if_neg h1]
      have := findCommodityStart_spec before
      rw [hlen] at this
      exact ⟨_, rfl, this.1, this.2⟩
  · simp only [editStart, extractQuery, hb]
    exact ⟨_, rfl, hlen ▸ tagNameQueryStart_le before, rfl⟩

theorem editStart_le {c : Ctx} {line : Str} {col s : Nat} (hcol : col ≤ line.length)
    (h : editStart c line col = some s) : s ≤ col := by
  have hc : c = .account ∨ c = .payee ∨ c = .commodity ∨ c = .tagName := by
    cases c <;> simp [editStart] at h ⊢
  obtain ⟨s', hs', hle, _⟩ := editStart_query c line col hcol hc
  exact Option.some.inj (h.symm.trans hs') ▸ hle

theorem indexOf_append_cons (c : Char) (a b : Str) (h : c ∉ a) : indexOf c (a ++ c :: b) = some a.length := by
  induction a with
  | nil => simp [indexOf]
  | cons x xs ih =>
    have hx : x ≠ c := fun e => h (e ▸ List.mem_cons_self)
    have hxs : c ∉ xs := fun e => h (List.mem_cons_of_mem _ e)
    simp only [List.cons_append, indexOf, if_neg hx, ih hxs, Option.map_some, List.length_cons]

theorem lastIndexP_append_of_not (p : Char → Bool) (a b : Str) (h : ∀ x ∈ b, p x = false) :
    lastIndexP p (a ++ b) = lastIndexP p a := by
  induction a with
  | nil =>
    simp only [List.nil_append]
    induction b with
    | nil => rfl
    | cons y ys ih =>
      have hy := h y List.mem_cons_self
      have := ih (fun x hx => h x (List.mem_cons_of_mem _ hx))
      simp only [lastIndexP] at this ⊢
      simp [this, hy]
  | cons x xs ih => simp only [List.cons_append, lastIndexP, ih]

theorem lastIndexP_append_cons (p : Char → Bool) (a b : Str) (c : Char) (hc : p c = true)
    (hb : ∀ x ∈ b, p x = false) : lastIndexP p (a ++ c :: b) = some a.length := by
  induction a with
  | nil =>
    have := lastIndexP_append_of_not p [] b hb
    simp only [List.nil_append] at this
    simp [lastIndexP, this, hc]
  | cons x xs ih => simp only [List.cons_append, lastIndexP, ih, List.length_cons]

theorem sublist_insertRanked (counts : Option (List (Str × Nat))) (x : Scored) (l : List Scored) :
    l.Sublist (insertRanked counts x l) := by
  induction l with
  | nil => exact List.nil_sublist _
  | cons y ys ih =>
    unfold insertRanked
    split
    · exact ih.cons_cons y
    · exact (List.Sublist.refl _).cons x

theorem insertRanked_before (counts : Option (List (Str × Nat))) (x b : Scored) (l : List Scored)
    (hb : b ∈ l) (hnl : less counts b x = false) : [x, b].Sublist (insertRanked counts x l) := by
  induction l with
  | nil => cases hb
  | cons y ys ih =>
    unfold insertRanked
    split
    · next hlt =>
      have hne : b ≠ y := by rintro rfl; rw [hnl] at hlt; cases hlt
      have hb' : b ∈ ys := by
        rcases List.mem_cons.1 hb with h | h
        · exact absurd h hne
        · exact h
      exact (ih hb').cons y
    · exact (List.singleton_sublist.2 hb).cons_cons x

/-- `rankExec` is a stable sort: when `a` stands before `b` in the input and `b` need not go
    before `a` (equal keys, or `a` ranks higher), `a` stands before `b` in the output. -/
theorem rankExec_stable (counts : Option (List (Str × Nat))) (l : List Scored) (a b : Scored)
    (hab : [a, b].Sublist l) (hnl : less counts b a = false) : [a, b].Sublist (rankExec counts l) := by
  induction l with
  | nil => cases hab
  | cons x xs ih =>
    unfold rankExec
    cases hab with
    | cons _ h => exact (ih h).trans (sublist_insertRanked counts x _)
    | cons_cons _ h =>
      have hb : b ∈ rankExec counts xs :=
        ((rankExec_isRanking counts xs).1.mem_iff).2 (List.singleton_sublist.1 h)
      exact insertRanked_before counts a b _ hb hnl

theorem pair_sublist_antisymm {α : Type} (l : List α) (a b : α) (hnd : l.Nodup)
    (h1 : [a, b].Sublist l) (h2 : [b, a].Sublist l) : False := by
  induction l with
  | nil => cases h1
  | cons x xs ih =>
    have hx := (List.nodup_cons.1 hnd)
    cases h1 with
    | cons _ h1' =>
      cases h2 with
      | cons _ h2' => exact ih hx.2 h1' h2'
      | cons_cons _ h2' =>
        -- b = x, [a] <+ xs, and [a,b] <+ xs → b ∈ xs
        exact hx.1 (h1'.subset (by simp))
    | cons_cons _ h1' =>
      cases h2 with
      | cons _ h2' => exact hx.1 (h2'.subset (by simp))
      | cons_cons _ h2' =>
        exact hx.1 (List.singleton_sublist.1 h1')

theorem pair_sublist_total {α : Type} (l : List α) (a b : α) (ha : a ∈ l) (hb : b ∈ l) (hab : a ≠ b) :
    [a, b].Sublist l ∨ [b, a].Sublist l := by
  obtain ⟨s, t, rfl⟩ := List.append_of_mem ha
  rcases List.mem_append.mp hb with hb | hb
  · exact Or.inr ((List.singleton_sublist.2 hb).append ((List.nil_sublist t).cons_cons a))
  · have hb' : b ∈ t := (List.mem_cons.mp hb).resolve_left (Ne.symm hab)
    exact Or.inl (List.sublist_append_of_sublist_right ((List.singleton_sublist.2 hb').cons_cons a))

theorem skipCode_id (s : Str) (h : ∀ c ∈ s.head?, c ≠ '(') : skipCode s = s := by
  unfold skipCode
  split
  · exact absurd rfl (h '(' (by simp))
  · rfl

theorem dropWhile_append_frag (p : Char → Bool) (pre frag : Str) (hpre : ∀ c ∈ pre, p c = true)
    (hf : ∀ c ∈ frag.head?, p c = false) : (pre ++ frag).dropWhile p = frag := by
  rw [List.dropWhile_append_of_pos hpre]
  cases frag with
  | nil => rfl
  | cons f fs =>
    have := hf f (by simp)
    simp [this]

theorem drop_append_cons (a b : Str) (c : Char) : (a ++ c :: b).drop (a.length + 1) = b := by
  rw [← List.drop_drop, List.drop_left, List.drop_one, List.tail_cons]

/-- All the fragment theorems need of a context is where its query starts. -/
theorem fragment_of_start {c : Ctx} {start : Str → Nat}
    (hq : ∀ l k, extractQuery c l k = (l.take k).drop (start (l.take k)))
    (he : ∀ l k, editStart c l k = some (start (l.take k)))
    (p frag rest : Str) (hs : start (p ++ frag) = p.length) :
    extractQuery c (p ++ frag ++ rest) (p.length + frag.length) = frag ∧
    editStart c (p ++ frag ++ rest) (p.length + frag.length) = some p.length := by
  have ht : (p ++ frag ++ rest).take (p.length + frag.length) = p ++ frag := by
    rw [← List.length_append]; exact List.take_left' rfl
  rw [hq, he, ht, hs]; exact ⟨List.drop_left, rfl⟩

theorem length_sub_frag (p frag : Str) : (p ++ frag).length - frag.length = p.length := by
  rw [List.length_append]; omega

theorem not_comma_of_blanks_frag (blanks frag : Str) (hbl : ∀ c ∈ blanks, isBlankTab c = true) (hc : ',' ∉ frag) :
    ∀ x ∈ blanks ++ frag, (x == ',') = false := by
  intro x hx
  rcases List.mem_append.1 hx with hx | hx
  · have := hbl x hx
    simp only [isBlankTab, Bool.or_eq_true, beq_iff_eq] at this
    rcases this with rfl | rfl <;> rfl
  · simp only [beq_eq_false_iff_ne, ne_eq]; rintro rfl; exact hc hx

theorem normMax_id (n : Nat) (h : 1 ≤ n) : normMax (n : Int) = n := by
  unfold normMax; split <;> omega

theorem usage_eq_countOf (t : Table) (c : Ctx) (hj : judged c = true) (l : Str) :
    usage t c l = countOf (countsFor t c) l := by
  have key : ∀ m : List (Str × Nat),
      (match m.find? (·.1 == l) with | some p => p.2 | none => 0) = (m.lookup l).getD 0 := by
    intro m
    induction m with
    | nil => rfl
    | cons p ps ih =>
      obtain ⟨a, b⟩ := p
      simp only [List.find?_cons, List.lookup_cons]
      by_cases h : a = l
      · subst h; simp
      · have h1 : (a == l) = false := by simpa using h
        have h2 : (l == a) = false := by simpa using fun h' => h h'.symm
        simp only [h1, h2]; exact ih
  rcases judged_cases hj with rfl | rfl | rfl | rfl <;> exact key _

theorem nonIncreasing_of_pairwise (l : List Nat) (h : l.Pairwise (· ≥ ·)) : nonIncreasing l = true := by
  induction l with
  | nil => rfl
  | cons a r ih =>
    cases r with
    | nil => rfl
    | cons b r =>
      have h' := List.pairwise_cons.1 h
      simp only [nonIncreasing, Bool.and_eq_true, decide_eq_true_eq]
      exact ⟨h'.1 b List.mem_cons_self, ih h'.2⟩

theorem hasPrefix_false_of_head (line p : Str) (x y : Char) (hl : line.head? = some x) (hp : p.head? = some y)
    (hxy : y ≠ x) : hasPrefix line p = false := by
  cases line with
  | nil => simp at hl
  | cons a as =>
    cases p with
    | nil => simp at hp
    | cons b bs =>
      simp only [List.head?_cons, Option.some.injEq] at hl hp
      subst hl; subst hp
      simp [hasPrefix, List.isPrefixOf_cons_cons, hxy]

end HL.Completion
