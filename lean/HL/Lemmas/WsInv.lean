/-
  The workspace invariant and its preservation by the elementary steps of
  UpdateFile / refreshIncludeTreeLocked / buildIndexFromResolvedLocked:
  indexing one file (`putFile`), un-indexing one file (`dropFile`), recording it in the
  resolved journal.
-/
import HL.Lemmas.Index
import HL.Lemmas.Edges
import HL.Lemmas.Load
namespace HL.Lemmas.WsInv
open HL.Index HL.Workspace HL.Lemmas.AList HL.Lemmas.ReachIdx HL.Lemmas.Edges HL.Lemmas.Index
open HL.Spec.Rebuild

/-- include targets of an indexed file (`FileIndex.Includes`), none for other paths -/
def includesOf (w : WS) (p : String) : List String :=
  match w.idx.files.get p with
  | some fi => fi.includes
  | none => []

/-- no path is being removed -/
def NoDead : String → Prop := fun _ => False

/-- index, include graph and reverse graph are consistent with the directory `fs`.
    `D` holds of the paths whose reverse-graph entry has been deleted (used while a batch of
    unreachable files is being removed; `NoDead` otherwise). -/
structure GInv (cfg : Cfg) (fs : FS) (w : WS) (D : String → Prop) : Prop where
  idx : IdxInv cfg.fixT w.idx
  fresh : ∀ p fi, w.idx.files.get p = some fi → ∃ c, fs.get p = some c ∧ fi = mkFileIdx p c
  incOk : ∀ p, w.incG.getD p [] = includesOf w p
  revOk : ∀ q x, x ∈ w.revG.getD q [] ↔ (¬ D q ∧ q ∈ includesOf w x)

/-- the resolved journal holds the root as primary and exactly the other indexed files -/
structure RInv (fs : FS) (w : WS) : Prop where
  has : w.hasResolved = true
  primary : w.primary = fs.get w.root
  rfiles : ∀ p, w.rfiles.get p =
    if p = w.root then none else if (w.idx.files.get p).isSome then fs.get p else none
  order : ∀ p, p ∈ w.order ↔ (w.rfiles.get p).isSome

structure PInv (cfg : Cfg) (fs : FS) (w : WS) : Prop where
  root_ne : w.root ≠ ""
  rootIdx : (w.idx.files.get w.root).isSome
  g : GInv cfg fs w NoDead
  r : RInv fs w

def CachesNone (w : WS) : Prop := w.cFormats = none ∧ w.cComms = none ∧ w.cAccts = none

/-- a cached value is what the getter would compute now -/
def CacheOk (w : WS) : Prop :=
  (∀ f, w.cFormats = some f → f = computeFormats w) ∧
  (∀ f, w.cComms = some f → f = computeComms w) ∧
  (∀ f, w.cAccts = some f → f = computeAccts w)

/-- C12 `members_eq_reach`: the indexed files are the existing files reachable from the root -/
def Closed (fs : FS) (w : WS) : Prop :=
  ∀ p, (w.idx.files.get p).isSome ↔ (Reach fs w.root p ∧ (fs.get p).isSome)

theorem fsOk_get (fs : FS) (h : fsOk fs = true) (p : String) (c : Contrib)
    (hg : fs.get p = some c) : p ≠ "" ∧ contribOk c = true := by
  simp only [fsOk, Bool.and_eq_true, decide_eq_true_eq, List.all_eq_true] at h
  have := h.2 (p, c) (get_mem fs p c hg)
  simpa using this

theorem fsOk_nodup (fs : FS) (h : fsOk fs = true) : fs.keys.Nodup := by
  simp only [fsOk, Bool.and_eq_true, decide_eq_true_eq] at h
  exact nodup_of_dedup_eq _ h.1

theorem fsOk_set (fs : FS) (h : fsOk fs = true) (p : String) (c : Contrib) (hp : p ≠ "")
    (hc : contribOk c = true) : fsOk (fs.set p c) = true := by
  have hn := nodup_keys_set fs p c (fsOk_nodup fs h)
  simp only [fsOk, Bool.and_eq_true, decide_eq_true_eq, List.all_eq_true]
  refine ⟨(dedup_eq_self _ hn).symm, fun e he => ?_⟩
  have hg := mem_get_of_nodup _ e.1 e.2 hn he
  rw [get_set] at hg
  by_cases e1 : p = e.1
  · rw [if_pos e1] at hg; cases hg; simp [← e1, hp, hc]
  · rw [if_neg e1] at hg; simpa using fsOk_get fs h e.1 e.2 hg

theorem includesOf_eq (w : WS) (p : String) (fi : FileIdx) (h : w.idx.files.get p = some fi) :
    includesOf w p = fi.includes := by simp [includesOf, h]

theorem includesOf_none (w : WS) (p : String) (h : w.idx.files.get p = none) :
    includesOf w p = [] := by simp [includesOf, h]

theorem mem_includesOf (cfg : Cfg) (fs : FS) (w : WS) (D : String → Prop) (h : GInv cfg fs w D)
    (u v : String) (hv : v ∈ includesOf w u) :
    ∃ c, w.idx.files.get u = some (mkFileIdx u c) ∧ fs.get u = some c ∧ v ∈ c.incs ∧ v ≠ u := by
  unfold includesOf at hv
  cases e : w.idx.files.get u with
  | none => simp [e] at hv
  | some fi =>
    simp only [e] at hv
    obtain ⟨c, hc, hfi⟩ := h.fresh u fi e
    subst hfi
    simp only [mkFileIdx] at hv
    have := (mem_resolveIncl u c.incs v).mp hv
    exact ⟨c, rfl, hc, this.1, this.2⟩

theorem reachG_sound (cfg : Cfg) (fs : FS) (w : WS) (D : String → Prop) (h : GInv cfg fs w D)
    (x : String) (hx : ReachS (succG w.incG) w.root x) : Reach fs w.root x := by
  induction hx with
  | base => exact .base
  | @step u v _ hq ih =>
    simp only [succG, h.incOk u] at hq
    obtain ⟨c, _, hc, hv, _⟩ := mem_includesOf cfg fs w D h u v hq
    exact .step ih (by simp [succs, hc, hv])

/-- `SetFileIndex(path, BuildFileIndex…)` followed by `updateIncludeEdgesLocked(path, old, new)` -/
def putFile (cfg : Cfg) (w : WS) (x : String) (c : Contrib) (old : List String) : WS :=
  updateIncludeEdges { w with idx := setFileIndex cfg.fixT w.idx x (mkFileIdx x c) } x old
    (mkFileIdx x c).includes

theorem files_putFile (cfg : Cfg) (w : WS) (x : String) (c : Contrib) (old : List String)
    (hx : x ≠ "") (y : String) :
    (putFile cfg w x c old).idx.files.get y =
      if x = y then some (mkFileIdx x c) else w.idx.files.get y := by
  show (setFileIndex cfg.fixT w.idx x (mkFileIdx x c)).files.get y = _
  exact get_files_setFileIndex _ _ _ _ hx y

theorem includesOf_putFile (cfg : Cfg) (w : WS) (x : String) (c : Contrib) (old : List String)
    (hx : x ≠ "") (y : String) :
    includesOf (putFile cfg w x c old) y =
      if x = y then (mkFileIdx x c).includes else includesOf w y := by
  unfold includesOf
  rw [files_putFile cfg w x c old hx y]
  by_cases e : x = y <;> simp [e]

theorem putFile_other (cfg : Cfg) (w : WS) (x : String) (c : Contrib) (old : List String) :
    (putFile cfg w x c old).root = w.root ∧ (putFile cfg w x c old).hasResolved = w.hasResolved ∧
    (putFile cfg w x c old).primary = w.primary ∧ (putFile cfg w x c old).rfiles = w.rfiles ∧
    (putFile cfg w x c old).order = w.order ∧ (putFile cfg w x c old).cFormats = w.cFormats ∧
    (putFile cfg w x c old).cComms = w.cComms ∧ (putFile cfg w x c old).cAccts = w.cAccts :=
  ⟨rfl, rfl, rfl, rfl, rfl, rfl, rfl, rfl⟩

/-- `fs'` is `fs` with the content `c` at `x` -/
theorem putFile_ginv (cfg : Cfg) (fs fs' : FS) (w : WS) (x : String) (c : Contrib)
    (h : GInv cfg fs w NoDead) (hx : x ≠ "") (hc : contribOk c = true)
    (hfs : fs'.get x = some c) (hfs' : ∀ y, y ≠ x → fs'.get y = fs.get y) :
    GInv cfg fs' (putFile cfg w x c (includesOf w x)) NoDead where
  idx := idxInv_setFileIndex cfg.fixT w.idx x c h.idx hc
  fresh := by
    intro p fi hg
    rw [files_putFile cfg w x c _ hx p] at hg
    by_cases e : x = p
    · subst e
      simp only [if_true, Option.some.injEq] at hg
      exact ⟨c, hfs, hg.symm⟩
    · simp only [e, if_false] at hg
      obtain ⟨c', h1, h2⟩ := h.fresh p fi hg
      exact ⟨c', by rw [hfs' p (fun h => e h.symm)]; exact h1, h2⟩
  incOk := by
    intro p
    rw [includesOf_putFile cfg w x c _ hx p]
    show (updateIncludeEdges _ x _ _).incG.getD p [] = _
    rw [incG_update]
    by_cases e : x = p
    · simp [e]
    · simp only [e, if_false]; exact h.incOk p
  revOk := by
    intro q a
    rw [includesOf_putFile cfg w x c _ hx a]
    show a ∈ (updateIncludeEdges _ x _ _).revG.getD q [] ↔ _
    rw [mem_rev_update]
    have hr := h.revOk q a
    simp only [NoDead, not_false_eq_true, true_and] at hr ⊢
    show (a ∈ w.revG.getD q [] ∧ ¬ (q ∈ includesOf w x ∧ a = x)) ∨
      (q ∈ (mkFileIdx x c).includes ∧ a = x) ↔ _
    rw [hr]
    by_cases e : x = a
    · subst e
      simp only [if_true, and_true]
      constructor
      · rintro (⟨h1, h2⟩ | h1)
        · exact absurd h1 h2
        · exact h1
      · intro h1; exact Or.inr h1
    · have e' : ¬ a = x := fun h => e h.symm
      simp [e, e']

theorem updateResolved_fields (w : WS) (x : String) (c : Contrib) :
    (updateResolved w x c).root = w.root ∧ (updateResolved w x c).idx = w.idx ∧
    (updateResolved w x c).incG = w.incG ∧ (updateResolved w x c).revG = w.revG ∧
    (updateResolved w x c).hasResolved = true ∧
    (updateResolved w x c).cFormats = w.cFormats ∧ (updateResolved w x c).cComms = w.cComms ∧
    (updateResolved w x c).cAccts = w.cAccts := by
  unfold updateResolved
  by_cases h : x = w.root <;> simp [h]

theorem updateResolved_ginv (cfg : Cfg) (fs : FS) (w : WS) (D : String → Prop) (x : String)
    (c : Contrib) (h : GInv cfg fs w D) : GInv cfg fs (updateResolved w x c) D := by
  obtain ⟨_, h2, h3, h4, _⟩ := updateResolved_fields w x c
  have hinc : ∀ p, includesOf (updateResolved w x c) p = includesOf w p := by
    intro p; simp [includesOf, h2]
  exact
    { idx := h2 ▸ h.idx
      fresh := by rw [h2]; exact h.fresh
      incOk := by intro p; rw [h3, hinc]; exact h.incOk p
      revOk := by intro q a; rw [h4, hinc]; exact h.revOk q a }

/-- after `x` has been (re)indexed with content `c`: `updateResolvedLocked(x, journal)` -/
theorem updateResolved_rinv (fs fs' : FS) (w w1 : WS) (x : String) (c : Contrib)
    (hR : RInv fs w)
    (hroot : w1.root = w.root) (hres : w1.primary = w.primary ∧
      w1.rfiles = w.rfiles ∧ w1.order = w.order)
    (hfiles : ∀ y, w1.idx.files.get y = if x = y then some (mkFileIdx x c) else w.idx.files.get y)
    (hfs : fs'.get x = some c) (hfs' : ∀ y, y ≠ x → fs'.get y = fs.get y) :
    RInv fs' (updateResolved w1 x c) := by
  obtain ⟨hr2, hr3, hr4⟩ := hres
  -- `x` is the only path at which the index and the directory changed, and the only one at which
  -- the resolved journal changes: `primary` if `x` is the root, else `rfiles[x]` and `order`
  unfold updateResolved
  by_cases hx : x = w1.root
  · -- the root: primary := journal
    simp only [hx, if_true]
    have hx' : x = w.root := hx.trans hroot
    refine ⟨rfl, ?_, ?_, ?_⟩
    · show some c = fs'.get w1.root
      rw [← hx, hfs]
    · intro p
      show w1.rfiles.get p = if p = w1.root then none else
        if (w1.idx.files.get p).isSome then fs'.get p else none
      rw [hr3, hfiles p, hR.rfiles p, hroot]
      by_cases e : p = w.root
      · simp [e]
      · have e2 : ¬ x = p := fun h => e (h ▸ hx')
        simp only [e, if_false, e2]
        rw [hfs' p (fun h => e2 h.symm)]
    · intro p
      show p ∈ w1.order ↔ (w1.rfiles.get p).isSome
      rw [hr4, hr3]
      exact hR.order p
  · simp only [hx, if_false]
    have hx' : x ≠ w.root := fun e => hx (e.trans hroot.symm)
    refine ⟨rfl, ?_, ?_, ?_⟩
    · show w1.primary = fs'.get w1.root
      rw [hr2, hR.primary, hroot, hfs' w.root (fun e => hx' e.symm)]
    · intro p
      show (w1.rfiles.set x c).get p = if p = w1.root then none else
        if (w1.idx.files.get p).isSome then fs'.get p else none
      rw [get_set, hr3, hfiles p, hroot]
      by_cases e : x = p
      · subst e; simp [hx', hfs]
      · simp only [e, if_false]
        rw [hR.rfiles p, hfs' p (fun h => e h.symm)]
    · intro p
      show p ∈ addString w1.order x ↔ ((w1.rfiles.set x c).get p).isSome
      rw [get_set, hr3, hr4]
      unfold addString
      by_cases e : x = p
      · subst e
        by_cases hm : x ∈ w.order <;> simp [hm]
      · simp only [e, if_false]
        rw [← hR.order p]
        have e' : ¬ p = x := fun h => e h.symm
        by_cases hm : x ∈ w.order <;> simp [hm, e']

end HL.Lemmas.WsInv
