import HL.Lemmas.Balance

/-! Lemmas for `Balance.accountBalances` and the hover counters (C20). -/
namespace HL
namespace Balance
open Ast Spec.Bal

/-- `balances[acct][c]` as an optional value (absent account or absent commodity: `none`). -/
def lookup (b : AccountBalances) (acct c : Bytes) : Option Dec :=
  (KV.find? b acct).bind fun inner => KV.find? inner c

theorem get_nil_find? (b : AccountBalances) (acct c : Bytes) :
    KV.find? (KV.get b acct []) c = lookup b acct c := by
  unfold lookup
  rw [KV.get_eq_find?]
  cases KV.find? b acct <;> rfl

theorem lookup_addPosting (b : AccountBalances) (p : Posting) (acct c : Bytes) :
    lookup (addPosting b p) acct c =
      match p.amount with
      | none => lookup b acct c
      | some a =>
        if p.account.name = acct ∧ a.commodity.symbol = c then
          some (Dec.add ((lookup b acct c).getD Dec.zero) a.quantity)
        else lookup b acct c := by
  unfold addPosting
  cases p.amount with
  | none => rfl
  | some a =>
    simp only
    by_cases h1 : p.account.name = acct
    · subst h1
      rw [lookup, KV.find?_set, if_pos rfl, Option.bind_some, KV.find?_set, KV.get_eq_find?, get_nil_find?,
        get_nil_find?]
      simp only [true_and]
      split
      · rename_i h2; rw [h2]
      · rfl
    · rw [lookup, KV.find?_set, if_neg h1, if_neg fun e => h1 e.1]; rfl

/-- quantities explicitly posted to `acct` in commodity `c`, in order. -/
def expl (l : List Posting) (acct c : Bytes) : List Rat :=
  l.filterMap fun p => match p.amount with
    | some a => if p.account.name = acct ∧ a.commodity.symbol = c then some (Dec.toRat a.quantity) else none
    | none => none

theorem foldl_addPosting_spec (l : List Posting) (b : AccountBalances) (acct c : Bytes) :
    ((lookup (l.foldl addPosting b) acct c).isSome ↔ (lookup b acct c).isSome ∨ expl l acct c ≠ []) ∧
    Dec.toRat ((lookup (l.foldl addPosting b) acct c).getD Dec.zero) =
      Dec.toRat ((lookup b acct c).getD Dec.zero) + sumRat (expl l acct c) := by
  induction l generalizing b with
  | nil => simp [expl, sumRat_nil, Rat.add_zero]
  | cons p r ih =>
    obtain ⟨ih1, ih2⟩ := ih (addPosting b p)
    unfold expl at ih1 ih2 ⊢
    rw [List.foldl_cons, ih1, ih2, lookup_addPosting, List.filterMap_cons]
    cases p.amount with
    | none => exact ⟨Iff.rfl, rfl⟩
    | some a =>
      by_cases h : p.account.name = acct ∧ a.commodity.symbol = c
      · simp only [h, and_self, if_true, Option.isSome_some, true_or, ne_eq, reduceCtorEq, not_false_eq_true,
          or_true, Option.getD_some, Dec.add_exact, sumRat_cons, Rat.add_assoc]
      · simp only [h, if_false, true_and]

theorem foldl_flatMap_postings (txs : List Transaction) (b : AccountBalances) :
    txs.foldl (fun b tx => tx.postings.foldl addPosting b) b =
      (txs.flatMap (·.postings)).foldl addPosting b := by
  induction txs generalizing b with
  | nil => rfl
  | cons tx r ih => rw [List.foldl_cons, List.flatMap_cons, List.foldl_append, ih]

theorem explicit_image (txs : List Transaction) (acct c : Bytes) :
    ((explicit (txs.map image)).filterMap fun (x : Bytes × Bytes × Rat) =>
        if x.1 = acct ∧ x.2.1 = c then some x.2.2 else none) =
      expl (txs.flatMap (·.postings)) acct c := by
  unfold explicit expl
  rw [List.flatMap_map]
  induction txs with
  | nil => rfl
  | cons tx r ih =>
    rw [List.flatMap_cons, List.filterMap_append, ih, List.flatMap_cons, List.filterMap_append]
    congr 1
    unfold image
    rw [List.filterMap_map, List.filterMap_filterMap]
    congr 1
    funext p
    simp only [Function.comp, imagePosting]
    cases p.amount <;> rfl

/-- counting loops: `for … { if P { count++ } }`. -/
theorem foldl_count {α} (P : α → Bool) (l : List α) (k : Nat) :
    l.foldl (fun n x => if P x then n + 1 else n) k = k + (l.filter P).length := by
  induction l generalizing k with
  | nil => rfl
  | cons a r ih =>
    rw [List.foldl_cons, ih, List.filter_cons]
    cases P a <;> simp <;> omega

end Balance
end HL
