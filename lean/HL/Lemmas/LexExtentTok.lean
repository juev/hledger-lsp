import HL.Lemmas.LexExtent
import HL.Lemmas.LexExt
/-!
  Layer L3 of DESIGN 7.C03, part 2: one *extent lemma* per token class.

  If the unread input starts with the printed form of a lexeme followed by a continuation that
  satisfies an explicit stop predicate, `Next` returns that token with exactly that value and
  extent and leaves the lexer right behind it.  Every lemma holds for every lexer state (any
  line, column, consumed input), every lexeme length and every Unicode classifier `C`
  (`commodity` and `text` ask `C` about the ASCII letters they see; that is a hypothesis).

  At a line start (`next_start`): `next_date`, `next_indent`, `next_blank_line_c`; inside a line
  (`next_inline`: `Next` = `scanInLineAt` behind the skipped blanks): `scanInLineAt_text`, `_account`,
  `_sign`, `_number`, `_commodity`, `_newline_c`, `_eof`.
-/
namespace HL.Lex
open HL HL.Utf8 Ctl

/-- a statement about all 256 bytes, checked by evaluation -/
theorem forall_uint8 (P : UInt8 → Bool) (h : (List.range 256).all (fun n => P (UInt8.ofNat n)) = true) :
    ∀ c, P c = true := by
  intro c
  have := List.all_eq_true.mp h c.toNat (List.mem_range.mpr c.toNat_lt)
  simpa using this

/-- `l.atStart = false` behind the first token of a line -/
def Z.started (z : Z) : Z := { z with atStart := false }

@[simp] theorem started_after (z : Z) : z.started.after = z.after := rfl
@[simp] theorem started_before (z : Z) : z.started.before = z.before := rfl
@[simp] theorem started_line (z : Z) : z.started.line = z.line := rfl
@[simp] theorem started_col (z : Z) : z.started.col = z.col := rfl
@[simp] theorem started_position (z : Z) : z.started.position = z.position := rfl

/-- the token of type `ty` and value `v` that starts at `z` and covers `n` ASCII bytes -/
def tokAt (ty : TokType) (v : Bytes) (z : Z) (n : Nat) : Token :=
  ⟨ty, v, z.position, ⟨z.line, z.col + n, z.before.length + n⟩⟩

theorem mkTok_over (ty : TokType) (v : Bytes) (z : Z) (l rest : Bytes) :
    mkTok ty v z (z.over l rest) = (tokAt ty v z l.length, z.over l rest) := by
  simp [mkTok, tokAt, over_position]

def dateByte (ch : UInt8) : Bool := isDigit ch || ch == 0x2D || ch == 0x2F || ch == 0x2E
def indentByte (c : UInt8) : Bool := isWhitespace c && c != 0x0A && c != 0x0D
def alnum (c : UInt8) : Bool := isLetter c || isDigit c
/-- a byte inside a text lexeme: none of LF, CR, `;`, `|` -/
def textByte (ch : UInt8) : Bool := !(ch == 0x0A || ch == 0x0D || ch == 0x3B || ch == 0x7C)
/-- the loop condition of `scanText` (line ends are tested separately, `atEol`) -/
def textP (ch : UInt8) : Bool := !(ch == 0x3B || ch == 0x7C)
def isLower (c : UInt8) : Bool := 0x61 ≤ c && c ≤ 0x7A
def isUpper (c : UInt8) : Bool := 0x41 ≤ c && c ≤ 0x5A

theorem isDigit_lt {c : UInt8} (h : isDigit c = true) : c < 0x80 := by
  simp only [isDigit, Bool.and_eq_true, decide_eq_true_eq] at h
  exact UInt8.lt_of_le_of_lt h.2 (by decide)

theorem dateByte_lt {c : UInt8} (h : dateByte c = true) : c < 0x80 := by
  simp only [dateByte, Bool.or_eq_true, beq_iff_eq] at h
  rcases h with ((h | rfl) | rfl) | rfl
  · exact isDigit_lt h
  all_goals decide

theorem indentByte_facts {c : UInt8} (h : indentByte c = true) :
    isWhitespace c = true ∧ c < 0x80 ∧ c ≠ 0x3B ∧ c ≠ 0x0A ∧ c ≠ 0x0D := by
  simp only [indentByte, Bool.and_eq_true, bne_iff_ne] at h
  obtain ⟨⟨hw, h1⟩, h2⟩ := h
  refine ⟨hw, ?_, ?_, h1, h2⟩ <;>
  · simp only [isWhitespace, Bool.or_eq_true, beq_iff_eq] at hw
    rcases hw with ((rfl | rfl) | rfl) | rfl <;> first | decide | exact absurd rfl h1 | exact absurd rfl h2

theorem textByte_line {c : UInt8} (h : textByte c = true) : textP c = true ∧ c ≠ 0x0A ∧ c ≠ 0x0D := by
  simp only [textByte, textP, Bool.not_eq_true', Bool.or_eq_false_iff, beq_eq_false_iff_ne] at h ⊢
  exact ⟨⟨h.1.2, h.2⟩, h.1.1.1, h.1.1.2⟩

/-- what the dispatch of `scanInLine` and of `scanLineStart` asks of a digit and, below, of a letter -/
theorem digit_facts : ∀ c : UInt8, (!isDigit c ||
    (c != 0x3B && !isWhitespace c && c != 0x0A && c != 0x0D &&
     (c != 0x28 && c != 0x29 && c != 0x5B && c != 0x5D && c != 0x7C && c != 0x40 && c != 0x3D && c != 0x2A &&
      c != 0x21 && !isCurrencySymbol c.toNat && c != 0x22 && c != 0x2D && c != 0x2B))) = true :=
  forall_uint8 _ (by decide +kernel)

theorem letter_facts : ∀ c : UInt8, (!isLetter c ||
    (decide (c < 0x80) && c != 0x3B && !isWhitespace c && !isDigit c && c != 0x0A && c != 0x0D &&
     (c != 0x28 && c != 0x29 && c != 0x5B && c != 0x5D && c != 0x7C && c != 0x40 && c != 0x3D && c != 0x2A &&
      c != 0x21 && !isCurrencySymbol c.toNat && c != 0x22 && c != 0x2D && c != 0x2B))) = true :=
  forall_uint8 _ (by decide +kernel)

theorem letter_start {c : UInt8} (h : isLetter c = true) :
    c < 0x80 ∧ c ≠ 0x3B ∧ isWhitespace c = false ∧ isDigit c = false := by
  have hf := letter_facts c
  simp only [h, Bool.not_true, Bool.false_or, Bool.and_eq_true, decide_eq_true_eq, bne_iff_ne, ne_eq,
    Bool.not_eq_true'] at hf
  obtain ⟨⟨⟨⟨⟨⟨hlt, h3b⟩, hw⟩, hd⟩, _⟩, _⟩, _⟩ := hf
  exact ⟨hlt, h3b, hw, hd⟩

theorem isLetter_eq (c : UInt8) : isLetter c = (isLower c || isUpper c) := rfl

theorem isUpper_lt {c : UInt8} (h : isUpper c = true) : c < 0x80 := by
  simp only [isUpper, Bool.and_eq_true, decide_eq_true_eq] at h
  exact UInt8.lt_of_le_of_lt h.2 (by decide)

theorem lower_facts {c : UInt8} (h : isLower c = true) :
    isLetter c = true ∧ c < 0x80 ∧ textByte c = true ∧ isUpper c = false := by
  have ne : ∀ k : UInt8, isLower k = false → (c == k) = false := fun k hk => by
    cases hc : c == k
    · rfl
    · rw [beq_iff_eq.mp hc, hk] at h; cases h
  refine ⟨by rw [isLetter_eq, h]; rfl, ?_, ?_, ?_⟩
  · simp only [isLower, Bool.and_eq_true, decide_eq_true_eq] at h
    exact UInt8.lt_of_le_of_lt h.2 (by decide)
  · simp only [textByte, ne _ (by decide : isLower 0x0A = false), ne _ (by decide : isLower 0x0D = false),
      ne _ (by decide : isLower 0x3B = false), ne _ (by decide : isLower 0x7C = false), Bool.or_self, Bool.not_false]
  · simp only [isLower, isUpper, Bool.and_eq_true, decide_eq_true_eq, Bool.and_eq_false_iff,
      decide_eq_false_iff_not, UInt8.not_le] at h ⊢
    exact Or.inr (UInt8.lt_of_lt_of_le (by decide : (0x5A : UInt8) < 0x61) h.1)

theorem alnum_facts : ∀ c : UInt8, (alnum c || (!isLetter c && !isDigit c)) = true := by
  intro c
  unfold alnum
  cases isLetter c <;> cases isDigit c <;> rfl

theorem Stops.letter_of_alnum {rest : Bytes} (h : Stops alnum rest) : Stops isLetter rest := by
  intro c t hr
  have := h c t hr
  simp only [alnum, Bool.or_eq_false_iff] at this
  exact this.1

theorem next_start (C : Classes) {z : Z} {c : UInt8} {t : Bytes} (hs : z.atStart = true) (hc : z.col = 1)
    (hz : z.after = c :: t) :
    next C z =
      if c == 0x3B then scanComment z.started
      else if isWhitespace c && !atEol (c :: t) then scanIndent z.started
      else if isDigit c then scanDate z.started
      else if isLetter c then scanDirectiveOrAccount z.started
      else scanInLine C z.started := by
  have hp : peek z.started = c := by rw [peek, started_after, hz]; rfl
  have e : next C z = scanLineStartAt C z.started := by
    rw [next, hz]; dsimp only; rw [hs, hc]; rfl
  rw [e, scanLineStartAt, hp, started_after, hz]

theorem next_date (C : Classes) {z : Z} {d rest : Bytes} (hs : z.atStart = true) (hc : z.col = 1)
    (hz : z.after = d ++ rest) (h0 : ∃ c t, d = c :: t ∧ isDigit c = true)
    (hd : ∀ c ∈ d, dateByte c = true) (hstop : Stops dateByte rest) :
    next C z = (tokAt .date d z d.length, z.started.over d rest) := by
  obtain ⟨c, t, rfl, hc0⟩ := h0
  have hf := digit_facts c
  simp only [hc0, Bool.not_true, Bool.false_or, Bool.and_eq_true, bne_iff_ne, ne_eq, Bool.not_eq_true'] at hf
  obtain ⟨⟨⟨⟨h3b, hw⟩, _⟩, _⟩, _⟩ := hf
  have he : advWhile (fun ch => isDigit ch || ch == 0x2D || ch == 0x2F || ch == 0x2E) z.started
      = z.started.over (c :: t) rest :=
    advWhile_over dateByte (z := z.started) hz (fun x hx => ⟨hd x hx, dateByte_lt (hd x hx)⟩) hstop
  rw [next_start C hs hc hz, if_neg (by simpa using h3b), hw, hc0, Bool.false_and, if_neg Bool.false_ne_true, if_pos rfl, scanDate, he,
    between_over, mkTok_over]
  rfl

theorem next_indent (C : Classes) {z : Z} {sp rest : Bytes} (hs : z.atStart = true) (hc : z.col = 1)
    (hz : z.after = sp ++ rest) (hne : sp ≠ []) (hsp : ∀ c ∈ sp, indentByte c = true)
    (hstop : StopsL isWhitespace rest) :
    next C z = (tokAt .indent sp z sp.length, z.started.over sp rest) := by
  obtain ⟨c, t, rfl⟩ := List.exists_cons_of_ne_nil hne
  obtain ⟨hw, _, h3b, hlf, hcr⟩ := indentByte_facts (hsp c (by simp))
  have he : advLine isWhitespace z.started = z.started.over (c :: t) rest :=
    advLine_over isWhitespace (z := z.started) hz
      (fun x hx => by obtain ⟨h1, h2, _, h4, h5⟩ := indentByte_facts (hsp x hx); exact ⟨h1, h2, h4, h5⟩) hstop
  rw [next_start C hs hc hz, if_neg (by simpa using h3b), hw, atEol_of_ne hlf hcr,
    if_pos (show (true && !false) = true from rfl), scanIndent, he, between_over, mkTok_over]
  rfl

theorem scanInLine_eol (C : Classes) {z : Z} {t : Bytes} (cr : Bool) (hz : z.after = eol cr ++ t) :
    scanInLine C z = scanNewline z := by
  have hb : Stops isBlank z.after := by
    rw [hz]; cases cr <;> exact Stops.cons _ (by decide)
  rw [scanInLine, skipSpaces_none hb, scanInLineAt_eol C (hz ▸ atEol_eol cr t)]

/-- **Blank line** (at a line start): `Next` returns the Newline token for `"\n"` / `"\r\n"`. -/
theorem next_blank_line_c (C : Classes) {z : Z} {t : Bytes} (cr : Bool) (hz : z.after = eol cr ++ t) :
    next C z = (nlTokc z cr, z.nlc cr t) := by
  have ha : atEol z.after = true := hz ▸ atEol_eol cr t
  obtain ⟨ch, u, hcu, _⟩ := atEol_head ha
  rw [next, hcu]
  dsimp only
  split
  · rw [scanLineStart, scanLineStartAt_eol C (z := { z with atStart := false }) ha,
      scanInLine_eol C cr (z := { z with atStart := false }) hz]
    exact scanNewline_atc (z := z.started) cr hz
  · rw [scanInLine_eol C cr hz, scanNewline_atc cr hz]

theorem next_blank_line (C : Classes) {z : Z} {t : Bytes} (hz : z.after = LF :: t) :
    next C z = (nlTok z, z.nl t) :=
  next_blank_line_c C false (by simpa using hz)

theorem next_inline (C : Classes) {z : Z} (hs : z.atStart = false) :
    next C z = scanInLineAt C (skipSpaces z) := by
  unfold next
  cases hz : z.after with
  | nil =>
    have : skipSpaces z = z := skipSpaces_none (by rw [hz]; exact Stops.nil _)
    simp [this, scanInLineAt, hz]
  | cons c t => simp [hs, scanInLine]

theorem next_skip (C : Classes) {z : Z} {sp rest : Bytes} (hs : z.atStart = false) (hz : z.after = sp ++ rest)
    (hsp : ∀ c ∈ sp, c = 0x20) (hstop : Stops isBlank rest) :
    next C z = scanInLineAt C (z.over sp rest) := by
  rw [next_inline C hs, skipSpaces_over hz hsp hstop]

theorem scanInLineAt_eof (C : Classes) {z : Z} (hz : z.after = []) :
    scanInLineAt C z = (⟨.eof, [], z.position, z.position⟩, z) := by
  simp [scanInLineAt, hz, mkTok]

theorem scanInLineAt_newline_c (C : Classes) {z : Z} {t : Bytes} (cr : Bool) (hz : z.after = eol cr ++ t) :
    scanInLineAt C z = (nlTokc z cr, z.nlc cr t) := by
  rw [scanInLineAt_eol C (hz ▸ atEol_eol cr t)]
  exact scanNewline_atc cr hz

theorem scanInLineAt_newline (C : Classes) {z : Z} {t : Bytes} (hz : z.after = LF :: t) :
    scanInLineAt C z = (nlTok z, z.nl t) :=
  scanInLineAt_newline_c C false (by simpa using hz)

theorem scanInLineAt_letter (C : Classes) {z : Z} {c : UInt8} {t : Bytes} (hz : z.after = c :: t)
    (hl : isLetter c = true) :
    scanInLineAt C z = if looksLikeAccount z.after then scanAccount z else scanCommodityOrText C z := by
  have hf := letter_facts c
  simp only [hl, Bool.not_true, Bool.false_or, Bool.and_eq_true, decide_eq_true_eq, bne_iff_ne, ne_eq,
    Bool.not_eq_true'] at hf
  obtain ⟨⟨⟨⟨⟨⟨hlt, h3b⟩, _⟩, hd⟩, hlf⟩, hcr⟩, hf⟩ := hf
  unfold scanInLineAt
  simp [hz, atEol_of_ne hlf hcr, peekRune, decodeRune_of_lt hlt t, h3b, hd, hf, hl]

theorem scanInLineAt_digit (C : Classes) {z : Z} {c : UInt8} {t : Bytes} (hz : z.after = c :: t)
    (hd : isDigit c = true) :
    scanInLineAt C z = if looksLikeDate z.after then scanDate z else scanNumber z := by
  have hf := digit_facts c
  simp only [hd, Bool.not_true, Bool.false_or, Bool.and_eq_true, bne_iff_ne, ne_eq, Bool.not_eq_true'] at hf
  obtain ⟨⟨⟨⟨h3b, _⟩, hlf⟩, hcr⟩, hf⟩ := hf
  unfold scanInLineAt
  simp [hz, atEol_of_ne hlf hcr, peekRune, decodeRune_of_lt (isDigit_lt hd) t, h3b, hf, hd]

theorem scanNumber_over {z : Z} {l rest : Bytes} (hz : z.after = l ++ rest)
    (hl : ∀ c ∈ l, numByte c = true) (hstop : NumStop rest) :
    scanNumber z = (tokAt .number l z l.length, z.over l rest) := by
  unfold scanNumber
  rw [scanNumberF_over l _ z false rest hz (by simp [hz]) hl hstop]
  simp only [between_over, mkTok_over]

/-- **Number.**  Digits and `.`, first a digit, not shaped like a date. -/
theorem scanInLineAt_number (C : Classes) {z : Z} {l rest : Bytes} (hz : z.after = l ++ rest)
    (h0 : ∃ c t, l = c :: t ∧ isDigit c = true) (hl : ∀ c ∈ l, numByte c = true) (hstop : NumStop rest)
    (hdate : looksLikeDate z.after = false) :
    scanInLineAt C z = (tokAt .number l z l.length, z.over l rest) := by
  obtain ⟨c, t, rfl, hc0⟩ := h0
  rw [scanInLineAt_digit C (by simpa using hz) hc0, hdate]
  simp only [Bool.false_eq_true, if_false]
  exact scanNumber_over hz hl hstop

/-- a sign directly in front of a digit -/
theorem scanInLineAt_sign (C : Classes) {z : Z} {s d : UInt8} {t : Bytes} (hz : z.after = s :: d :: t)
    (hs : s = 0x2D ∨ s = 0x2B) (hd : isDigit d = true) :
    scanInLineAt C z = (tokAt .sign [s] z 1, z.over [s] (d :: t)) := by
  have hnd : nextIsDigit z.after = true := by rw [hz]; exact hd
  have hlt : s < 0x80 := by rcases hs with rfl | rfl <;> decide
  have hr : peekRune z = s.toNat := by rw [peekRune, hz]; exact congrArg Prod.fst (decodeRune_of_lt hlt _)
  have hp : peek z = s := by rw [peek, hz]; rfl
  have e : scanInLineAt C z = scanSign z := by
    unfold scanInLineAt; rw [hr, hnd, Bool.or_true, hz]; rcases hs with rfl | rfl <;> rfl
  have he : encodeRune s.toNat = [s] := by rcases hs with rfl | rfl <;> rfl
  rw [e, scanSign, advance_over hz hlt, hp, he, mkTok_over]
  rfl

theorem looksLikeAccountF_over (a : Bytes) :
    ∀ (n : Nat) (rest : Bytes) (hc : Bool), a.length ≤ n → (∀ c ∈ a, acctByte c = true) → AcctStop rest →
      looksLikeAccountF n (a ++ rest) hc = (hc || a.contains 0x3A) := by
  induction a with
  | nil =>
    intro n rest hc _ _ hstop
    rw [looksLikeAccountF_eq, loopF_none (by rw [lookStep, List.nil_append, acctAct_stop hstop])]
    exact (Bool.or_false hc).symm
  | cons c a ih =>
    intro n rest hc hn ha hstop
    obtain ⟨n, rfl⟩ : ∃ m, n = m + 1 := ⟨n - 1, by simp at hn; omega⟩
    obtain ⟨hact, hlt⟩ := acctAct_byte (a ++ rest) (ha c (by simp))
    have hs : lookStep (c :: a ++ rest, hc) = some (a ++ rest, hc || c.toNat == 0x3A) := by
      rw [lookStep]; simp only [List.cons_append, hact, decodeRune_of_lt hlt _, List.drop_one, List.tail_cons]
    have hcol : (c.toNat == 0x3A) = (c == 0x3A) := by
      cases h : c == 0x3A
      · exact beq_eq_false_iff_ne.mpr fun e => (beq_eq_false_iff_ne.mp h) (UInt8.toNat_inj.mp (by simpa using e))
      · rw [beq_iff_eq.mp h]; rfl
    rw [looksLikeAccountF_eq, loopF_some hs, ← looksLikeAccountF_eq,
      ih n rest _ (by simpa using hn) (fun x hx => ha x (by simp [hx])) hstop, hcol, List.contains_cons, Bool.or_assoc]
    congr 2
    exact Bool.beq_comm

/-- **Account.**  A blank-free name with a colon, first a letter, ended by `AcctStop`. -/
theorem scanInLineAt_account (C : Classes) {z : Z} {a rest : Bytes} (hz : z.after = a ++ rest)
    (h0 : ∃ c t, a = c :: t ∧ isLetter c = true) (ha : ∀ c ∈ a, acctByte c = true)
    (hcolon : a.contains 0x3A = true) (hstop : AcctStop rest) :
    scanInLineAt C z = (tokAt .account a z a.length, z.over a rest) := by
  obtain ⟨c, t, rfl, hc0⟩ := h0
  have hlla : looksLikeAccount z.after = true := by
    unfold looksLikeAccount
    rw [hz, looksLikeAccountF_over _ _ rest false (by simp) ha hstop, hcolon]; rfl
  rw [scanInLineAt_letter C (by simpa using hz) hc0, hlla]
  simp only [if_true]
  unfold scanAccount
  rw [scanAccountF_over (c :: t) _ z z rest hz (by simp [hz]) ha hstop]
  simp only [reduceCtorEq, if_false]
  rw [between_over, ← mkTok_over]
  rfl

theorem runesF_ascii (u : Bytes) : ∀ n, u.length ≤ n → (∀ c ∈ u, c < 0x80) → runesF n u = u.map (·.toNat) := by
  induction u with
  | nil => intro n _ _; cases n <;> rfl
  | cons c u ih =>
    intro n hn hu
    obtain ⟨n, rfl⟩ : ∃ m, n = m + 1 := ⟨n - 1, by simp at hn; omega⟩
    unfold runesF
    simp only [decodeRune_of_lt (hu c (by simp)) u, List.drop_one, List.tail_cons, List.map_cons]
    rw [ih n (by simpa using hn) (fun x hx => hu x (by simp [hx]))]

theorem runes_ascii (u : Bytes) (hu : ∀ c ∈ u, c < 0x80) : runes u = u.map (·.toNat) :=
  runesF_ascii u _ (Nat.le_refl _) hu

theorem scanCommodityOrText_commodity (C : Classes) {z : Z} {u rest : Bytes} (hz : z.after = u ++ rest)
    (hne : u ≠ []) (hup : ∀ c ∈ u, isUpper c = true) (hC : ∀ c ∈ u, C.isUpper c.toNat = true)
    (hstop : Stops alnum rest) :
    scanCommodityOrText C z = (tokAt .commodity u z u.length, z.over u rest) := by
  have hu : ∀ c ∈ u, isLetter c = true ∧ c < 0x80 := fun c hc =>
    ⟨by rw [isLetter_eq, hup c hc, Bool.or_true], isUpper_lt (hup c hc)⟩
  have h1 : advWhile isLetter z = z.over u rest := advWhile_over isLetter hz hu hstop.letter_of_alnum
  have h2 : advWhile (fun c => isLetter c || isDigit c) (z.over u rest) = z.over u rest :=
    advWhile_none (p := alnum) hstop
  have h3 : looksLikeCommodity C u = true := by
    unfold looksLikeCommodity
    rw [runes_ascii u (fun c hc => (hu c hc).2)]
    simp only [Bool.and_eq_true, Bool.not_eq_true', List.isEmpty_eq_false_iff, ne_eq, hne, not_false_eq_true,
      List.all_map, List.all_eq_true, Function.comp_apply, Bool.or_eq_true, true_and]
    intro c hc
    exact Or.inl (hC c hc)
  unfold scanCommodityOrText
  simp only [h1, h2, between_over, h3, if_true, mkTok_over]
  split <;> rfl

/-- **Commodity.**  An upper-case ASCII word that `C` calls upper case, not followed by a letter
    or digit, on a line without a colon ahead. -/
theorem scanInLineAt_commodity (C : Classes) {z : Z} {u rest : Bytes} (hz : z.after = u ++ rest)
    (hne : u ≠ []) (hup : ∀ c ∈ u, isUpper c = true) (hC : ∀ c ∈ u, C.isUpper c.toNat = true)
    (hstop : Stops alnum rest) (hacc : looksLikeAccount z.after = false) :
    scanInLineAt C z = (tokAt .commodity u z u.length, z.over u rest) := by
  obtain ⟨c, t, rfl⟩ := List.exists_cons_of_ne_nil hne
  have hl : isLetter c = true := by rw [isLetter_eq, hup c (by simp), Bool.or_true]
  rw [scanInLineAt_letter C (by simpa using hz) hl, hacc]
  simp only [Bool.false_eq_true, if_false]
  exact scanCommodityOrText_commodity C hz hne hup hC hstop

/-- `strings.TrimSpace` leaves a string alone that starts and ends with a non-blank ASCII byte -/
theorem trimSpace_id (c : UInt8) (m : Bytes) (d : UInt8) (hc : c < 0x80) (hcs : asciiSpace c = false)
    (hd : d < 0x80) (hds : asciiSpace d = false) : trimSpace (c :: (m ++ [d])) = c :: (m ++ [d]) := by
  have hc' : ¬ c ≥ 0x80 := by simpa using hc
  have hd' : ¬ d ≥ 0x80 := by simpa using hd
  unfold trimSpace
  rw [if_neg hc']
  simp only [hcs, Bool.false_eq_true, if_false]
  have : (c :: (m ++ [d])).reverse = d :: (m.reverse ++ [c]) := by simp
  rw [this]
  unfold trimSpaceRight
  rw [if_neg hd']
  simp [hds]

theorem trimSpace_single (c : UInt8) (hc : c < 0x80) (hcs : asciiSpace c = false) : trimSpace [c] = [c] := by
  have hc' : ¬ c ≥ 0x80 := by simpa using hc
  unfold trimSpace
  rw [if_neg hc']
  simp only [hcs, Bool.false_eq_true, if_false, List.reverse_cons, List.reverse_nil, List.nil_append]
  unfold trimSpaceRight
  rw [if_neg hc']
  simp [hcs]

theorem ascii_nonspace_rune : ∀ c : UInt8, (!(decide (c < 0x80)) || asciiSpace c || !isSpaceRune c.toNat) = true :=
  forall_uint8 _ (by decide +kernel)

/-- `strings.TrimRightFunc(s, unicode.IsSpace)` leaves a string alone that ends with a non-blank
    ASCII byte -/
theorem trimRightFunc_id (m : Bytes) (d : UInt8) (hd : d < 0x80) (hds : asciiSpace d = false) :
    trimRightFunc (m ++ [d]) = m ++ [d] := by
  have hsp : isSpaceRune d.toNat = false := by
    have := ascii_nonspace_rune d
    simpa [hd, hds] using this
  have hd' : ¬ d ≥ 0x80 := by simpa using hd
  have hrev : (m ++ [d]).reverse = d :: m.reverse := by simp
  have hl : (m ++ [d]).length = m.length + 1 := by simp
  have hget : (m ++ [d]).getD m.length 0 = d := by simp [List.getD]
  unfold trimRightFunc
  rw [hrev, hl]
  simp only [lastIndexNotSpaceF, decodeLastRuneRev, hd, if_true, hsp, Bool.not_false, List.drop_succ_cons,
    List.drop_zero, List.length_reverse, hget, if_neg hd']
  rw [← hl, List.take_length]

/-- **Text.**  A lower-case word `w` followed by more text `r` (no CR) up to a line end, `;` or `|`:
    one Text token for `w ++ r` (the lexer decides on the first word: it is neither a commodity
    for `C` nor, with no colon ahead, an account). -/
theorem scanInLineAt_text (C : Classes) {z : Z} {w r rest : Bytes} (hz : z.after = w ++ r ++ rest)
    (hne : w ≠ []) (hw : ∀ c ∈ w, isLower c = true)
    (hC : ∀ c ∈ w, C.isUpper c.toNat = false ∧ C.isDigit c.toNat = false)
    (hr : ∀ c ∈ r, textByte c = true ∧ c < 0x80) (hrs : Stops alnum (r ++ rest)) (hstop : StopsL textP rest)
    (hacc : looksLikeAccount z.after = false) (htrim : trimSpace (w ++ r) = w ++ r)
    (htrimR : trimRightFunc (w ++ r) = w ++ r) :
    scanInLineAt C z = (tokAt .text (w ++ r) z (w ++ r).length, z.over (w ++ r) rest) := by
  obtain ⟨c, t, rfl⟩ := List.exists_cons_of_ne_nil hne
  have hlow : ∀ x ∈ c :: t, isLetter x = true ∧ x < 0x80 ∧ textByte x = true ∧ isUpper x = false :=
    fun x hx => lower_facts (hw x hx)
  have hz' : z.after = (c :: t) ++ (r ++ rest) := by simpa using hz
  rw [scanInLineAt_letter C (by simpa using hz) (hlow c (by simp)).1, hacc]
  simp only [Bool.false_eq_true, if_false]
  have h1 : advWhile isLetter z = z.over (c :: t) (r ++ rest) :=
    advWhile_over isLetter hz' (fun x hx => ⟨(hlow x hx).1, (hlow x hx).2.1⟩) hrs.letter_of_alnum
  have h2 : advWhile (fun c => isLetter c || isDigit c) (z.over (c :: t) (r ++ rest)) = z.over (c :: t) (r ++ rest) :=
    advWhile_none (p := alnum) hrs
  have h3 : looksLikeCommodity C (c :: t) = false := by
    unfold looksLikeCommodity
    rw [runes_ascii _ (fun x hx => (hlow x hx).2.1)]
    simp [(hC c (by simp)).1, (hC c (by simp)).2]
  have h4 : isAllUppercase (c :: t) = false := by
    have := (hlow c (by simp)).2.2.2
    simp only [isUpper] at this
    simp [isAllUppercase, this]
  have h5 : advLine (fun ch => !(ch == 0x3B || ch == 0x7C)) z = z.over (c :: t ++ r) rest := by
    refine advLine_over textP (by simpa using hz) ?_ hstop
    intro x hx
    rcases List.mem_append.mp hx with hx | hx
    · have := textByte_line (hlow x hx).2.2.1
      exact ⟨this.1, (hlow x hx).2.1, this.2⟩
    · have := textByte_line (hr x hx).1
      exact ⟨this.1, (hr x hx).2, this.2⟩
  unfold scanCommodityOrText
  simp only [h1, h2, between_over, h3, h4, Bool.false_and, Bool.and_false, Bool.false_eq_true, if_false]
  have hasc : ∀ x ∈ c :: t ++ r, x < 0x80 := by
    intro x hx
    rcases List.mem_append.mp hx with hx | hx
    · exact (hlow x hx).2.1
    · exact (hr x hx).2
  unfold scanText
  simp only [h5, between_over, htrim, textStop, htrimR, runes_ascii _ hasc, List.length_map]
  rw [if_neg (by simp), ← mkTok_over]
  simp [mkTok, mkTokAt, over_position]

end HL.Lex
