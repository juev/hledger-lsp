import HL.Model.Srv
/-!
# The inductive invariant of the repaired publish protocol (`guarded := true`)

`Inv diag s` holds in the initial state and is preserved by every enabled transition of
`HL.Srv.step? diag true` (`inv_step`), hence in every state reached by any finite trace
(`inv_run`).  `Props/C13.lean` reads the property off the invariant.

Then progress: `work` counts the task steps outstanding; in a state that is not quiescent some
task step is enabled and lowers it (`progress`), so the tasks can run to completion (`drain`).
-/

namespace HL.Srv
variable {Text Diags : Type}

/-- * `task_le`, `ver_le`, `pub_le`: every version in use was issued by the counter.
    * `docs_ver`: `documents` and `docVersions` have the same keys (both are written by the handler
      thread in the same event).
    * `task_ver`: the version table of a URI always holds the newest version issued for it, so no
      task is ahead of it.
    * `cur_text`: the task that carries the current version carries the current text.
    * `pc_diag`: the diagnostics a task carries were computed from the text it captured.
    * `owner`: mutual exclusion — whoever is between Lock and Unlock is the owner of `publishMu`.
    * `unpub`: a task that has not yet published has no entry in the client's log.
    * `checked_max`: a task that passed the version check (and still holds the mutex) is newer
      than everything published for its URI.
    * `pub_ver`: nothing newer than the current version has been published.
    * `main`: for each open URI, either the task of the current version is still in flight and has
      not published yet, or the client's last notification for the URI is that version's, with
      the diagnostics of the current text.
    * `sorted`: the versions in the client's log of a URI are strictly increasing.
    * `lock_live`: `publishMu` is only ever held by a task that is still running (used for progress). -/
structure Inv (diag : Text → Diags) (s : St Text Diags) : Prop where
  task_le : ∀ i k, s.tasks i = some k → i ≤ s.seq
  ver_le : ∀ u v, s.ver u = some v → v ≤ s.seq
  pub_le : ∀ u p, p ∈ s.log u → p.1 ≤ s.seq
  docs_ver : ∀ u, (s.docs u).isSome = (s.ver u).isSome
  task_ver : ∀ i k v, s.tasks i = some k → s.ver k.uri = some v → i ≤ v
  cur_text : ∀ i k, s.tasks i = some k → s.ver k.uri = some i → s.docs k.uri = some k.text
  pc_diag : ∀ i k d, s.tasks i = some k → k.pc.diag? = some d → d = diag k.text
  owner : ∀ i k, s.tasks i = some k → k.pc.holds = true → s.lock = some i
  unpub : ∀ i k, s.tasks i = some k → k.pc ≠ .unlocking → ∀ p ∈ s.log k.uri, p.1 ≠ i
  checked_max : ∀ i k d, s.tasks i = some k → k.pc = .checked d → ∀ p ∈ s.log k.uri, p.1 < i
  pub_ver : ∀ u v, s.ver u = some v → ∀ p ∈ s.log u, p.1 ≤ v
  main : ∀ u t v, s.docs u = some t → s.ver u = some v →
     (∃ k, s.tasks v = some k ∧ k.uri = u ∧ k.pc ≠ .unlocking) ∨
     ((s.log u).getLast? = some (v, diag t))
  sorted : ∀ u, ((s.log u).map (·.1)).Pairwise (· < ·)
  lock_live : ∀ i, s.lock = some i → ∃ k, s.tasks i = some k ∧ k.pc.holds = true

section
variable {diag : Text → Diags} {s : St Text Diags} {i : Nat} {k : Task Text Diags}

/-! Each transition: the fields that speak only of what the step leaves alone are taken over from
`h`; each of the others follows from the fields of `h` named in its proof, by cases on `upd`. -/

theorem inv_spawn (h : Inv diag s) (u : Uri) (t : Text) : Inv diag (spawn s u t) := by
  unfold spawn
  exact { h with
    task_le := by have := h.task_le; grind [upd]
    ver_le := by have := h.ver_le; grind [upd]
    pub_le := by have := h.pub_le; grind
    docs_ver := by have := h.docs_ver; grind [upd]
    task_ver := by have := h.task_le; have := h.task_ver; grind [upd]
    cur_text := by have := h.task_le; have := h.cur_text; grind [upd]
    pc_diag := by have := h.pc_diag; grind [upd, PC.diag?]
    owner := by have := h.owner; grind [upd, PC.holds]
    unpub := by have := h.pub_le; have := h.unpub; grind [upd]
    checked_max := by have := h.checked_max; grind [upd]
    pub_ver := by have := h.pub_le; have := h.pub_ver; grind [upd]
    lock_live := by have := h.task_le; have := h.lock_live; grind [upd]
    main := by
      intro u' t' v' hd hv
      by_cases hu : u' = u
      · obtain rfl : s.seq + 1 = v' := by simpa [upd, hu] using hv
        exact .inl ⟨_, upd_same .., hu.symm, nofun⟩
      · simp only [upd, hu, if_false] at hd hv ⊢
        have := h.ver_le _ _ hv
        rw [if_neg (by omega)]
        exact h.main _ _ _ hd hv }

theorem inv_close (h : Inv diag s) (u : Uri) :
    Inv diag { s with docs := upd s.docs u none, ver := upd s.ver u none } :=
  { h with
    ver_le := by have := h.ver_le; grind [upd]
    docs_ver := by have := h.docs_ver; grind [upd]
    task_ver := by have := h.task_ver; grind [upd]
    cur_text := by have := h.cur_text; grind [upd]
    pub_ver := by have := h.pub_ver; grind [upd]
    main := by have := h.main; grind [upd] }

/-- What `analyse`, `lock` and `check` have in common: a task moves to `pc`, `publishMu` becomes
    `l`, the log stays. -/
theorem inv_setPc (h : Inv diag s) (hk : s.tasks i = some k) (hnu : k.pc ≠ .unlocking)
    {pc : PC Diags} {l : Option Nat}
    (hd : ∀ d, pc.diag? = some d → d = diag k.text)
    (hc : ∀ d, pc = .checked d → s.ver k.uri = some i)
    (hm : pc = .unlocking → s.ver k.uri ≠ some i)
    (hl : pc.holds = k.pc.holds ∧ l = s.lock ∨ pc.holds = true ∧ l = some i ∧ s.lock = none) :
    Inv diag { setPc s i k pc with lock := l } := by
  unfold setPc
  exact { h with
    task_le := by have := h.task_le; grind [upd]
    task_ver := by have := h.task_ver; grind [upd]
    cur_text := by have := h.cur_text; grind [upd]
    pc_diag := by have := h.pc_diag; grind [upd]
    owner := by have := h.owner; grind [upd]
    unpub := by have := h.unpub; grind [upd]
    checked_max := by
      -- `checked` is entered with the current version: nothing newer is published (`pub_ver`),
      -- nor the task's own version (`unpub`)
      have := h.unpub i k hk hnu; have := h.pub_ver; have := h.checked_max; grind [upd]
    main := by have := h.main; grind [upd]
    lock_live := by have := h.lock_live; grind [upd] }

theorem inv_analyse (h : Inv diag s) (hk : s.tasks i = some k) (hpc : k.pc = .start) :
    Inv diag (setPc s i k (.ready (diag k.text))) :=
  inv_setPc h hk (by simp [hpc]) (by simp [PC.diag?]) (by simp) (by simp)
    (.inl ⟨by simp [hpc, PC.holds], rfl⟩)

theorem inv_lock (h : Inv diag s) {d : Diags} (hl : s.lock = none) (hk : s.tasks i = some k)
    (hpc : k.pc = .ready d) : Inv diag { setPc s i k (.locked d) with lock := some i } :=
  inv_setPc h hk (by simp [hpc]) (fun d' e => h.pc_diag i k d' hk (hpc ▸ e)) (by simp) (by simp)
    (.inr ⟨rfl, rfl, hl⟩)

theorem inv_check (h : Inv diag s) {d : Diags} (hk : s.tasks i = some k) (hpc : k.pc = .locked d) :
    Inv diag (setPc s i k (if s.ver k.uri = some i then .checked d else .unlocking)) :=
  inv_setPc h hk (by simp [hpc])
    (fun d' e => h.pc_diag i k d' hk (by rw [hpc]; split at e <;> simp_all [PC.diag?]))
    (by split <;> simp [*]) (by split <;> simp [*])
    (.inl ⟨by rw [hpc]; split <;> rfl, rfl⟩)

theorem inv_publish (h : Inv diag s) {d : Diags} (hk : s.tasks i = some k) (hpc : k.pc = .checked d) :
    Inv diag { setPc s i k .unlocking with log := upd s.log k.uri (s.log k.uri ++ [(i, d)]) } := by
  unfold setPc
  exact { h with
    task_le := by have := h.task_le; grind [upd]
    task_ver := by have := h.task_ver; grind [upd]
    cur_text := by have := h.cur_text; grind [upd]
    pc_diag := by have := h.pc_diag; grind [upd, PC.diag?]
    owner := by have := h.owner; grind [upd, PC.holds]
    lock_live := by have := h.lock_live; grind [upd, PC.holds]
    pub_le := by have := h.task_le i k hk; have := h.pub_le; grind [upd]
    pub_ver := by have := h.task_ver i k; have := h.pub_ver; grind [upd]
    unpub := by have := h.unpub; grind [upd]
    -- only `i` is `checked` (it owns the mutex, `owner`), and it moves on: nobody is left to check
    checked_max := by have := h.owner; have := h.checked_max; grind [upd, PC.holds]
    sorted := by have := h.checked_max i k d hk hpc; have := h.sorted; grind [upd]
    main := by
      intro u t v hd hv
      rcases h.main u t v hd hv with ⟨b, hb, hu, hp⟩ | hlast
      · by_cases hvi : v = i
        · -- task `i` carried the current version: what it has just published is the last entry
          subst hvi hu
          obtain rfl : k = b := Option.some.inj (hk.symm.trans hb)
          obtain rfl : k.text = t := Option.some.inj ((h.cur_text v k hk hv).symm.trans hd)
          obtain rfl : d = diag k.text := h.pc_diag v k d hk (hpc ▸ rfl)
          exact .inr (by simp [upd])
        · exact .inl ⟨b, by simpa [upd, hvi] using hb, hu, hp⟩
      · by_cases hu : u = k.uri
        · -- the last entry cannot be below `i` (`checked_max`) and the current version (`task_ver`)
          subst hu
          exact absurd (h.checked_max i k d hk hpc _ (List.mem_of_getLast? hlast))
            (Nat.not_lt.mpr (h.task_ver i k v hk hv))
        · exact .inr (by simpa [upd, hu] using hlast) }

theorem inv_unlock (h : Inv diag s) (hk : s.tasks i = some k) (hpc : k.pc = .unlocking) :
    Inv diag { s with tasks := upd s.tasks i none, lock := none } :=
  { h with
    task_le := by have := h.task_le; grind [upd]
    task_ver := by have := h.task_ver; grind [upd]
    cur_text := by have := h.cur_text; grind [upd]
    pc_diag := by have := h.pc_diag; grind [upd]
    owner := by have := h.owner; grind [upd, PC.holds]
    unpub := by have := h.unpub; grind [upd]
    checked_max := by have := h.checked_max; grind [upd]
    main := by have := h.main; grind [upd]
    lock_live := nofun }

end

theorem inv_init (diag : Text → Diags) : Inv diag (St.init : St Text Diags) := by
  constructor <;> simp [St.init]

theorem inv_step {diag : Text → Diags} {s s' : St Text Diags} (h : Inv diag s) (e : Ev Text)
    (hs : step? diag true s e = some s') : Inv diag s' := by
  cases e <;> simp only [step?] at hs <;> (try split at hs) <;> (try split at hs) <;> cases hs
  · exact inv_spawn h _ _
  · exact h
  · exact inv_spawn h _ _
  · exact inv_close h _
  · exact inv_analyse h ‹_› ‹_›
  · exact inv_lock h ‹_› ‹_› ‹_›
  · exact inv_check h ‹_› ‹_›
  · exact inv_publish h ‹_› ‹_›
  · cases ‹true = false›
  · exact inv_unlock h ‹_› ‹_›

theorem step_some {diag : Text → Diags} {g : Bool} {s s' : St Text Diags} {e : Ev Text}
    (h : step? diag g s e = some s') : step diag g s e = s' := congrArg (·.getD s) h

theorem step_none {diag : Text → Diags} {g : Bool} {s : St Text Diags} {e : Ev Text}
    (h : step? diag g s e = none) : step diag g s e = s := congrArg (·.getD s) h

theorem inv_foldl {diag : Text → Diags} (es : List (Ev Text)) {s : St Text Diags} (h : Inv diag s) :
    Inv diag (es.foldl (step diag true) s) := by
  induction es generalizing s with
  | nil => exact h
  | cons e es ih =>
    refine ih ?_
    cases hs : step? diag true s e with
    | none => rw [step_none hs]; exact h
    | some s' => rw [step_some hs]; exact inv_step h e hs

theorem inv_run (diag : Text → Diags) (es : List (Ev Text)) : Inv diag (run diag true es) :=
  inv_foldl es (inv_init diag)

def Ev.isTask : Ev Text → Bool
  | .openDoc _ _ | .change _ _ | .close _ => false
  | _ => true

/-- Steps a task still has to take. -/
def PC.rem : PC Diags → Nat
  | .start => 5 | .ready _ => 4 | .locked _ => 3 | .checked _ => 2 | .unlocking => 1

def remT : Option (Task Text Diags) → Nat
  | none => 0
  | some k => k.pc.rem

def sumTo (f : Nat → Nat) : Nat → Nat
  | 0 => f 0
  | n + 1 => sumTo f n + f (n + 1)

theorem sumTo_congr {f g : Nat → Nat} : ∀ n, (∀ m, m ≤ n → f m = g m) → sumTo f n = sumTo g n
  | 0, h => h 0 (Nat.le_refl 0)
  | n + 1, h => by
    rw [sumTo, sumTo, sumTo_congr n fun m hm => h m (Nat.le_succ_of_le hm), h _ (Nat.le_refl _)]

theorem sumTo_upd (f : Nat → Nat) (i v n : Nat) (h : i ≤ n) :
    sumTo (upd f i v) n + f i = sumTo f n + v := by
  induction n with
  | zero => obtain rfl : i = 0 := by omega
            simp only [sumTo, upd_same]; omega
  | succ n ih =>
    simp only [sumTo]
    by_cases hi : i = n + 1
    · subst hi
      rw [sumTo_congr n fun m hm => upd_other f _ v m (by omega), upd_same]; omega
    · rw [upd_other f i v (n + 1) (Ne.symm hi)]
      have := ih (by omega)
      omega

/-- Total number of task steps outstanding. -/
def work (s : St Text Diags) : Nat := sumTo (fun i => remT (s.tasks i)) s.seq

theorem work_lt (s s' : St Text Diags) (i : Nat) (x : Option (Task Text Diags)) (hi : i ≤ s.seq)
    (hx : remT x < remT (s.tasks i)) (ht : s'.tasks = upd s.tasks i x) (hseq : s'.seq = s.seq) :
    work s' < work s := by
  have h := sumTo_upd (fun j => remT (s.tasks j)) i (remT x) s.seq hi
  have e : (fun j => remT (s'.tasks j)) = upd (fun j => remT (s.tasks j)) i (remT x) := by
    funext j; simp only [ht, upd]; split <;> rfl
  simp only [work, hseq, e]
  omega

theorem holder_step (diag : Text → Diags) {s : St Text Diags} {i : Nat} {k : Task Text Diags}
    (hk : s.tasks i = some k) (hi : i ≤ s.seq) (hh : k.pc.holds = true) :
    ∃ e s', Ev.isTask e = true ∧ step? diag true s e = some s' ∧ work s' < work s ∧ s'.docs = s.docs := by
  cases hpc : k.pc with
  | start | ready d => simp [hpc, PC.holds] at hh
  | locked d =>
    refine ⟨.check i, setPc s i k (if s.ver k.uri = some i then .checked d else .unlocking), rfl, by simp only [step?, hk, hpc], work_lt s _ i _ hi ?_ rfl rfl, rfl⟩
    split <;> simp [remT, hk, hpc, PC.rem]
  | checked d =>
    exact ⟨.publish i, { setPc s i k .unlocking with log := upd s.log k.uri (s.log k.uri ++ [(i, d)]) }, rfl, by simp only [step?, hk, hpc],
      work_lt s _ i _ hi (by simp [remT, hk, hpc, PC.rem]) rfl rfl, rfl⟩
  | unlocking =>
    exact ⟨.unlock i, { s with tasks := upd s.tasks i none, lock := none }, rfl, by simp only [step?, hk, hpc],
      work_lt s _ i _ hi (by simp [remT, hk, hpc, PC.rem]) rfl rfl, rfl⟩

/-- In every reachable state that is not quiescent some task step is enabled, and it reduces the
    outstanding work: no deadlock on `publishMu`, no livelock. -/
theorem progress {diag : Text → Diags} {s : St Text Diags} (h : Inv diag s) (hq : ¬ Quiescent s) :
    ∃ e s', Ev.isTask e = true ∧ step? diag true s e = some s' ∧ work s' < work s ∧ s'.docs = s.docs := by
  have ⟨i, hi⟩ := Classical.not_forall.mp hq
  have ⟨hi, hne⟩ := Classical.not_imp.mp hi
  obtain ⟨k, hk⟩ := Option.ne_none_iff_exists'.mp hne
  -- a task without the mutex moves unless another holds it; then that one moves
  cases hpc : k.pc with
  | start =>
    exact ⟨.analyse i, setPc s i k (.ready (diag k.text)), rfl, by simp only [step?, hk, hpc],
      work_lt s _ i _ hi (by simp [remT, hk, hpc, PC.rem]) rfl rfl, rfl⟩
  | ready d =>
    cases hl : s.lock with
    | none =>
      exact ⟨.lock i, { setPc s i k (.locked d) with lock := some i }, rfl, by simp only [step?, hk, hpc, hl],
        work_lt s _ i _ hi (by simp [remT, hk, hpc, PC.rem]) rfl rfl, rfl⟩
    | some j =>
      obtain ⟨kj, hkj, hh⟩ := h.lock_live j hl
      exact holder_step diag hkj (h.task_le j kj hkj) hh
  | locked d | checked d | unlocking => exact holder_step diag hk hi (by rw [hpc]; rfl)

theorem drain {diag : Text → Diags} (s : St Text Diags) (h : Inv diag s) :
    ∃ es : List (Ev Text), (∀ e ∈ es, Ev.isTask e = true) ∧
      Quiescent (es.foldl (step diag true) s) ∧ (es.foldl (step diag true) s).docs = s.docs := by
  by_cases hq : Quiescent s
  · exact ⟨[], nofun, hq, rfl⟩
  · obtain ⟨e, s', het, hs, hlt, hd⟩ := progress h hq
    obtain ⟨es, hall, hqq, hdd⟩ := drain s' (inv_step h e hs)
    have hstep : step diag true s e = s' := step_some hs
    exact ⟨e :: es, List.forall_mem_cons.mpr ⟨het, hall⟩, by rwa [List.foldl_cons, hstep],
      by rw [List.foldl_cons, hstep, hdd, hd]⟩
termination_by work s

end HL.Srv
