import HL.Lemmas.Num

/-! `Decimal.String()` followed by `NewFromString` returns the same value: the figures printed in
    the UNBALANCED message and in hovers denote exactly the decimals they were printed from. -/
namespace HL
namespace Num

/-- the digits of `natDigitsF`, as digits. -/
def digitsOfNatF : Nat → Nat → List G.Digit
  | 0, _ => []
  | fuel + 1, n => if n < 10 then [Fin.ofNat 10 n] else digitsOfNatF fuel (n / 10) ++ [Fin.ofNat 10 n]

theorem natDigitsF_eq (fuel n : Nat) : Dec.natDigitsF fuel n = G.digitsBytes (digitsOfNatF fuel n) := by
  induction fuel generalizing n with
  | zero => rfl
  | succ f ih =>
    unfold Dec.natDigitsF digitsOfNatF
    split
    · rfl
    · rw [ih, digitsBytes_append]; rfl

theorem natOf_digitsOfNatF (fuel n : Nat) (h : n < fuel) : G.natOf (digitsOfNatF fuel n) = n := by
  induction fuel generalizing n with
  | zero => omega
  | succ f ih =>
    unfold digitsOfNatF
    split
    · simp [G.natOf, Fin.ofNat]; omega
    · rw [natOf_append, ih (n / 10) (by omega)]
      simp [G.natOf, Fin.ofNat]; omega

/-- the decimal digits of `n`, as `natDigits` prints them. -/
def digitsOfNat (n : Nat) : List G.Digit := digitsOfNatF (n + 1) n

theorem natDigits_eq (n : Nat) : Dec.natDigits n = G.digitsBytes (digitsOfNat n) := natDigitsF_eq _ _
theorem natOf_digitsOfNat (n : Nat) : G.natOf (digitsOfNat n) = n := natOf_digitsOfNatF _ _ (by omega)
theorem digitsOfNat_ne_nil (n : Nat) : digitsOfNat n ≠ [] := by
  unfold digitsOfNat digitsOfNatF
  split <;> simp

theorem natOf_replicate_zero (k : Nat) : G.natOf (List.replicate k (0 : G.Digit)) = 0 := by
  induction k with
  | zero => rfl
  | succ k ih => rw [List.replicate_succ, natOf_cons, ih]; simp

/-- trailing zeros dropped from a digit list. -/
def dropTrailingZerosD (l : List G.Digit) : List G.Digit := (l.reverse.dropWhile (· == 0)).reverse

theorem dropTrailingZeros_digits (l : List G.Digit) :
    Dec.dropTrailingZeros (G.digitsBytes l) = G.digitsBytes (dropTrailingZerosD l) := by
  unfold Dec.dropTrailingZeros dropTrailingZerosD G.digitsBytes
  have hp : ((fun b : UInt8 => b == 48) ∘ G.digitByte) = (fun d : G.Digit => d == 0) :=
    funext (by decide : ∀ d : G.Digit, (G.digitByte d == 48) = (d == 0))
  rw [← List.map_reverse, List.dropWhile_map, ← List.map_reverse, hp]

theorem dropTrailingZerosD_spec (l : List G.Digit) :
    ∃ k, l = dropTrailingZerosD l ++ List.replicate k 0 := by
  refine ⟨(l.reverse.takeWhile (· == 0)).length, ?_⟩
  have hrep : l.reverse.takeWhile (· == 0) = List.replicate (l.reverse.takeWhile (· == 0)).length 0 :=
    List.eq_replicate_iff.2 ⟨rfl, fun x hx => by
      simpa using List.all_eq_true.1 (List.all_takeWhile (p := (· == (0 : G.Digit))) (l := l.reverse)) x hx⟩
  have h := congrArg List.reverse (List.takeWhile_append_dropWhile (p := (· == (0 : G.Digit))) (l := l.reverse))
  rw [List.reverse_append, List.reverse_reverse, hrep, List.reverse_replicate] at h
  exact h.symm

theorem intDigits_eq (c : Int) :
    Dec.intDigits c = signBytes (decide (c < 0)) ++ G.digitsBytes (digitsOfNat c.natAbs) := by
  unfold Dec.intDigits signBytes
  by_cases h : c < 0 <;> simp [h, natDigits_eq, MINUS]

theorem toStr_neg (trim : Bool) (d : Dec) (h : ¬ d.exp ≥ 0) :
    ∃ ip fp : List G.Digit, ip ≠ [] ∧ fp.length = (-d.exp).toNat ∧ G.natOf (ip ++ fp) = d.coef.natAbs ∧
      Dec.toStr trim d = signBytes (decide (d.coef < 0)) ++ G.digitsBytes ip ++
        fracBytes (!(if trim then dropTrailingZerosD fp else fp).isEmpty)
          (if trim then dropTrailingZerosD fp else fp) := by
  unfold Dec.toStr
  rw [if_neg h]
  extract_lets str n ip fp fp' number
  obtain ⟨S, hS, hv⟩ : ∃ S, str = G.digitsBytes S ∧ G.natOf S = d.coef.natAbs :=
    ⟨_, natDigits_eq _, natOf_digitsOfNat _⟩
  obtain ⟨ipD, fpD, hip, hfp, h1, h2, h3⟩ : ∃ ipD fpD : List G.Digit, ip = G.digitsBytes ipD ∧
      fp = G.digitsBytes fpD ∧ ipD ≠ [] ∧ fpD.length = n ∧ G.natOf (ipD ++ fpD) = d.coef.natAbs := by
    simp only [ip, fp, hS, G.digitsBytes, List.length_map]
    by_cases hL : S.length > n
    · refine ⟨S.take (S.length - n), S.drop (S.length - n), ?_, ?_, ?_, ?_, ?_⟩
      · simp only [if_pos hL, List.map_take]
      · simp only [if_pos hL, List.map_drop]
      · intro e
        have := congrArg List.length e
        simp at this; omega
      · simp; omega
      · rw [List.take_append_drop, hv]
    · refine ⟨[0], List.replicate (n - S.length) 0 ++ S, ?_, ?_, by simp, ?_, ?_⟩
      · simp only [if_neg hL]; rfl
      · simp only [if_neg hL, List.map_append, List.map_replicate]; rfl
      · simp; omega
      · rw [natOf_append, natOf_append, natOf_replicate_zero, hv]; simp [G.natOf]
  refine ⟨ipD, fpD, h1, h2, h3, ?_⟩
  have hfr : fp' = G.digitsBytes (if trim then dropTrailingZerosD fpD else fpD) := by
    simp only [fp', hfp]
    cases trim
    · rfl
    · exact dropTrailingZeros_digits fpD
  generalize (if trim then dropTrailingZerosD fpD else fpD) = fr at hfr ⊢
  simp only [number, hfr, hip]
  by_cases hneg : d.coef < 0 <;> cases fr <;> simp [hneg, signBytes, fracBytes, G.digitsBytes, MINUS, DOT]

theorem toStr_nonneg (trim : Bool) (d : Dec) (h : d.exp ≥ 0) :
    Dec.toStr trim d = signBytes (decide (d.coef * 10 ^ d.exp.toNat < 0)) ++
      G.digitsBytes (digitsOfNat (d.coef * 10 ^ d.exp.toNat).natAbs) := by
  have hc : (Dec.rescale d 0).coef = d.coef * 10 ^ d.exp.toNat := by
    simp [Dec.rescale, show ¬ 0 > d.exp by omega]
  rw [Dec.toStr, if_pos h, hc, intDigits_eq]

theorem toStr_canon (trim : Bool) (d : Dec) :
    ∃ (neg : Bool) (ip fr : List G.Digit), ip ≠ [] ∧ min d.exp 0 ≤ 0 - (fr.length : Int) ∧
      Dec.toStr trim d = signBytes neg ++ G.digitsBytes ip ++ fracBytes (!fr.isEmpty) fr ∧
      Dec.toRat ⟨if neg then -(G.natOf (ip ++ fr) : Int) else (G.natOf (ip ++ fr) : Int), 0 - fr.length⟩ =
        Dec.toRat d := by
  by_cases h : d.exp ≥ 0
  · refine ⟨_, _, [], digitsOfNat_ne_nil _, by simp only [List.length_nil]; omega,
      (toStr_nonneg trim d h).trans (List.append_nil _).symm, ?_⟩
    have hs := Dec.toRat_scale d.coef d.exp d.exp.toNat
    rw [show d.exp - (d.exp.toNat : Int) = 0 by omega] at hs
    rw [List.append_nil, natOf_digitsOfNat]
    refine Eq.trans (congrArg (fun c => Dec.toRat ⟨c, _⟩) ?_) hs
    by_cases hneg : d.coef * 10 ^ d.exp.toNat < 0 <;> simp [hneg] <;> omega
  · obtain ⟨ip, fp, h1, h2, h3, hs⟩ := toStr_neg trim d h
    obtain ⟨k, hk⟩ : ∃ k, fp = (if trim then dropTrailingZerosD fp else fp) ++ List.replicate k 0 := by
      cases trim
      · exact ⟨0, (List.append_nil fp).symm⟩
      · exact dropTrailingZerosD_spec fp
    generalize (if trim then dropTrailingZerosD fp else fp) = fr at hk hs
    -- dropping `k` zeros divides the coefficient by `10 ^ k` and adds `k` to the exponent
    have hN : (G.natOf (ip ++ fr) : Int) * 10 ^ k = d.coef.natAbs := by
      rw [← h3, hk, ← List.append_assoc, natOf_append (ip ++ fr), natOf_replicate_zero, List.length_replicate]
      simp
    have hn : (0 : Int) - fr.length - k = d.exp := by
      rw [hk, List.length_append, List.length_replicate] at h2
      omega
    refine ⟨_, ip, fr, h1, by omega, hs, ?_⟩
    rw [← Dec.toRat_scale _ _ k, hn]
    congr 2
    by_cases hneg : d.coef < 0
    · simp only [hneg, decide_true, if_true, Int.neg_mul, hN]; omega
    · simp only [hneg, decide_false, Bool.false_eq_true, if_false, hN]; omega

theorem toStr_roundtrip (trim : Bool) (d : Dec) (hlo : Dec.int32Min ≤ d.exp) :
    (Dec.ofString (Dec.toStr trim d)).map Dec.toRat = some (Dec.toRat d) := by
  obtain ⟨neg, ip, fr, h1, h2, hs, hv⟩ := toStr_canon trim d
  have := ofString_canon neg ip fr (!fr.isEmpty) none h1
    (fun hm => by cases fr with | nil => rfl | cons _ _ => cases hm) (fun e he => by cases he)
    (by simp only [G.expValue, Dec.int32Min] at hlo ⊢; omega) (by simp only [G.expValue, Dec.int32Max]; omega)
  rw [show G.renderExp none = [] from rfl, List.append_nil] at this
  rw [hs, this, Option.map_some, ← hv]
  rfl

/-- `NewFromString(d.String())` denotes the same number as `d`. -/
theorem toString_roundtrip (d : Dec) (hlo : Dec.int32Min ≤ d.exp) :
    (Dec.ofString (Dec.toString d)).map Dec.toRat = some (Dec.toRat d) :=
  toStr_roundtrip true d hlo

end Num
end HL
