import HL.Model.BalanceDiag
import HL.Lemmas.Balance
/-!
  Helper lemmas for the journal-level balance analysis (`Balance.analyzeTxs`):
  finite-map facts (`find?` against membership under unique keys), the message order
  (`sortedDifferences` holds the same map), and a lower bound for the decimal exponents that
  `sumByCommodity` can produce (needed to read the printed numbers back:
  `Num.toString_roundtrip` wants the exponent inside int32).
-/
namespace HL
namespace KV

theorem find?_of_mem {β} (m : List (Bytes × β)) (hn : (keys m).Nodup) (c : Bytes) (v : β) (h : (c, v) ∈ m) :
    find? m c = some v := by
  induction m with
  | nil => cases h
  | cons a r ih =>
    obtain ⟨k, w⟩ := a
    have hn' := List.nodup_cons.1 hn
    rcases List.mem_cons.1 h with h | h
    · cases h; simp only [find?, if_true]
    · have hk : k ≠ c := fun e => hn'.1 (e ▸ List.mem_map.2 ⟨(c, v), h, rfl⟩)
      simp only [find?, hk, if_false]
      exact ih hn'.2 h

theorem mem_set {β} (m : List (Bytes × β)) (k : Bytes) (v : β) (kv : Bytes × β) (h : kv ∈ set m k v) :
    kv = (k, v) ∨ kv ∈ m := by
  induction m with
  | nil => exact Or.inl (List.mem_singleton.1 h)
  | cons a r ih =>
    unfold set at h
    split at h
    · exact (List.mem_cons.1 h).imp_right (List.mem_cons_of_mem _)
    · rcases List.mem_cons.1 h with h | h
      · exact Or.inr (h ▸ List.mem_cons_self)
      · exact (ih h).imp_right (List.mem_cons_of_mem _)

theorem get_mem_or_default {β} (m : List (Bytes × β)) (k : Bytes) (z : β) :
    get m k z = z ∨ (k, get m k z) ∈ m := by
  rw [get_eq_find?]
  cases h : find? m k with
  | none => exact Or.inl rfl
  | some v => exact Or.inr (mem_of_find? m k v h)

theorem sortStrings_perm (l : List Bytes) : (sortStrings l).Perm l := by
  have ins : ∀ (k : Bytes) (l : List Bytes), (insertSorted k l).Perm (k :: l) := by
    intro k l
    induction l with
    | nil => exact List.Perm.refl _
    | cons x r ih =>
      unfold insertSorted
      split
      · exact List.Perm.refl _
      · exact (List.Perm.cons x ih).trans (List.Perm.swap k x r)
  induction l with
  | nil => exact List.Perm.refl _
  | cons x r ih => exact (ins x _).trans (List.Perm.cons x ih)

end KV

namespace Balance
open Ast

theorem add_exp_lower (a b : Dec) (B : Int) (ha : B ≤ a.exp) (hb : B ≤ b.exp) : B ≤ (Dec.add a b).exp := by
  unfold Dec.add Dec.rescalePair
  simp only
  split
  · exact ha
  · split
    · simp only [Dec.rescale_exp]; exact hb
    · exact ha

/-- Without costs every summand of `sumByCommodity` is an amount's own quantity, and a sum of
    decimals has the smallest of their exponents: nothing below `B` can appear. -/
theorem sum_exp_lower (l : List Posting) (m m' : Sums) (h : sumByCommodity l m = some m')
    (B : Int) (hB : B ≤ 0) (hm : ∀ kv ∈ m, B ≤ kv.2.exp)
    (hl : ∀ p ∈ l, ∀ k q, contribution p = some (some (k, q)) → B ≤ q.exp) :
    ∀ kv ∈ m', B ≤ kv.2.exp := by
  induction l generalizing m with
  | nil => cases h; exact hm
  | cons p r ih =>
    have hl' := fun p' hp' => hl p' (List.mem_cons_of_mem _ hp')
    rcases sum_cons_some h with ⟨_, h⟩ | ⟨k, q, hc, h⟩
    · exact ih m h hm hl'
    · refine ih _ h (fun kv hkv => ?_) hl'
      rcases KV.mem_set m k _ kv hkv with rfl | e
      · apply add_exp_lower _ _ _ _ (hl p List.mem_cons_self k q hc)
        rcases KV.get_mem_or_default m k Dec.zero with e | e
        · rw [e]; exact hB
        · exact hm _ e
      · exact hm kv e

theorem mem_differencesOf (sums : Sums) (kv : Bytes × Dec) (h : kv ∈ differencesOf sums) :
    ∃ v0, (kv.1, v0) ∈ sums ∧ kv.2 = Dec.abs v0 := by
  obtain ⟨⟨k, v⟩, ha, hf⟩ := List.mem_filterMap.1 h
  simp only at hf
  split at hf <;> cases hf
  exact ⟨v, ha, rfl⟩

theorem sortStrings_perm' (l : List Bytes) : (KV.sortStrings l).Perm l := KV.sortStrings_perm l

theorem keys_sortedDifferences (d : Sums) : KV.keys (sortedDifferences d) = KV.sortStrings (KV.keys d) := by
  unfold sortedDifferences KV.keys
  rw [List.map_map]
  exact List.map_id _

/-- every entry of the sorted list is an entry of the map (whether or not its keys are unique). -/
theorem find?_of_mem_sortedDifferences (d : Sums) (kv : Bytes × Dec) (h : kv ∈ sortedDifferences d) :
    KV.find? d kv.1 = some kv.2 := by
  obtain ⟨k, hk, rfl⟩ := List.mem_map.1 h
  have hk' : k ∈ KV.keys d := (KV.sortStrings_perm _).mem_iff.1 hk
  simp only [KV.get_eq_find?]
  cases hf : KV.find? d k with
  | some v => rfl
  | none => exact absurd hk' ((KV.find?_eq_none_iff d k).1 hf)

/-- sorting the commodities for the message changes nothing in the map the message names -/
theorem find?_sortedDifferences (d : Sums) (hn : (KV.keys d).Nodup) (c : Bytes) :
    KV.find? (sortedDifferences d) c = KV.find? d c := by
  have hperm : (KV.keys (sortedDifferences d)).Perm (KV.keys d) := by
    rw [keys_sortedDifferences]; exact KV.sortStrings_perm _
  cases hf : KV.find? d c with
  | none =>
    exact (KV.find?_eq_none_iff _ c).2 fun hc => (KV.find?_eq_none_iff d c).1 hf (hperm.mem_iff.1 hc)
  | some v =>
    apply KV.find?_of_mem _ (hperm.nodup_iff.2 hn)
    have hc : c ∈ KV.sortStrings (KV.keys d) :=
      (KV.sortStrings_perm _).mem_iff.2 (Decidable.of_not_not fun hc => by
        rw [(KV.find?_eq_none_iff d c).2 hc] at hf; cases hf)
    refine List.mem_map.2 ⟨c, hc, ?_⟩
    rw [KV.get_eq_find?, hf]
    rfl

theorem mem_sortedDifferences (d : Sums) (kv : Bytes × Dec) (h : kv ∈ sortedDifferences d) (hn : (KV.keys d).Nodup) :
    kv ∈ d :=
  KV.mem_of_find? d kv.1 kv.2 (find?_of_mem_sortedDifferences d kv h)

end Balance
end HL
