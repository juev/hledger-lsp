/-
  Histories, for C12: the workspace invariant `WInv` holds after `Initialize` and after every
  edit (`run_ok`); `Setting` collects the hypotheses the C12 theorems share.
-/
import HL.Lemmas.Init
namespace HL.Lemmas.Run
open HL.Index HL.Workspace HL.Lemmas.AList HL.Lemmas.WsInv HL.Lemmas.Update HL.Lemmas.Init
open HL.Spec.Rebuild

/-- every edit names a file and carries a well-formed contribution -/
def updsOk (us : List Upd) : Bool := us.all fun u => u.path ≠ "" && contribOk u.c

/-- the directory after the edits -/
def finalFs (fs : FS) (us : List Upd) : FS := us.foldl (fun fs u => fs.set u.path u.c) fs

theorem foldl_step_ok (cfg : Cfg) :
    ∀ (us : List Upd) (s : St), WInv cfg s.fs s.w → fsOk s.fs = true → updsOk us = true →
      WInv cfg (us.foldl (step cfg) s).fs (us.foldl (step cfg) s).w ∧
      fsOk (us.foldl (step cfg) s).fs = true ∧ (us.foldl (step cfg) s).w.root = s.w.root ∧
      (us.foldl (step cfg) s).fs = finalFs s.fs us
  | [], _, h, hok, _ => ⟨h, hok, rfl, rfl⟩
  | u :: us, s, h, hok, hus => by
    simp only [updsOk, List.all_cons, Bool.and_eq_true, decide_eq_true_eq] at hus
    obtain ⟨s1, s2, s3, s4⟩ := step_ok cfg s u h hok hus.1.1 hus.1.2
    obtain ⟨r1, r2, r3, r4⟩ := foldl_step_ok cfg us (step cfg s u) s1 s2 hus.2
    exact ⟨r1, r2, r3.trans s3, r4.trans (by rw [s4]; rfl)⟩

theorem run_ok (cfg : Cfg) (fs : FS) (us : List Upd) (hok : fsOk fs = true)
    (hne : fs ≠ []) (hclean : graphsClean cfg fs) (hlim : fs.length ≤ cfg.limit)
    (hus : updsOk us = true) :
    WInv cfg (finalFs fs us) (run cfg fs us).w ∧ fsOk (finalFs fs us) = true ∧
    (run cfg fs us).w.root = rootSel fs ∧ (run cfg fs us).fs = finalFs fs us := by
  obtain ⟨i1, i2, _⟩ := init_ok cfg fs hok hne hclean hlim
  obtain ⟨r1, r2, r3, r4⟩ :=
    foldl_step_ok cfg us (start cfg fs) (observe_winv cfg fs _ i1) hok hus
  have hroot : (start cfg fs).w.root = rootSel fs := by
    show (observe (init cfg fs)).2.root = _
    rw [observe_snd]; exact i2
  exact ⟨r4 ▸ r1, r4 ▸ r2, r3.trans hroot, r4⟩

/-- hypotheses shared by the theorems: a non-empty directory of well-formed contributions with
    distinct non-empty names, within the loader's depth limit; well-formed edits; and the
    include graphs are empty when indexing starts (`graphsClean`: `Cfg.fixG`, or a root chosen
    by name). -/
structure Setting (cfg : Cfg) (fs : FS) (us : List Upd) : Prop where
  ok : fsOk fs = true
  nonempty : fs ≠ []
  limit : fs.length ≤ cfg.limit
  clean : graphsClean cfg fs
  upds : updsOk us = true

end HL.Lemmas.Run
