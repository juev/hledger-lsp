import HL.Lemmas.LexLocal
/-!
  Stream-level consequences of `next_step`, stated with the executable oracle of
  HL/Spec/LexSpec.lean: the Newline tokens are exactly the LF bytes (`lexS_newlines`), each spans
  one line end (`next_newline_shape`); what no token covers is blanks and tabs, and white space
  behind a text token (`lexS_gapsOk`; `ordered_pieces`: gaps and extents tile the input); a
  token's lines count the line feeds before its start and its end (`lexS_lines`).  `lexS_forall_inv`
  lifts a fact about every call of `Next` to the stream.
-/
namespace HL.Lex
open HL HL.Utf8 HL.Spec.LexSpec Ctl

theorem lfOffsetsFrom_append_noLF (i : Nat) (p q : Bytes) (h : LF ∉ p) :
    lfOffsetsFrom i (p ++ q) = lfOffsetsFrom (i + p.length) q := by
  induction p generalizing i with
  | nil => simp
  | cons c t ih =>
    have hc : (c == LF) = false := by
      cases hcc : (c == LF)
      · rfl
      · simp only [beq_iff_eq] at hcc; subst hcc; simp at h
    have ht : LF ∉ t := fun hm => h (List.mem_cons_of_mem _ hm)
    simp only [List.cons_append, lfOffsetsFrom, hc, Bool.false_eq_true, if_false, ih _ ht, List.length_cons]
    congr 1; omega

theorem newlineOffsets_cons (t : Token) (rest : List Token) :
    newlineOffsets (t :: rest) = (if t.ty == .newline then [t.stop.off - 1] else []) ++ newlineOffsets rest := by
  simp only [newlineOffsets, List.filter_cons]
  split <;> simp

/-- Every LF byte becomes exactly one Newline token, which ends with it, in order — and there
    are no other Newline tokens. -/
theorem lexS_newlines (C : Classes) (z : Z) :
    newlineOffsets (lexS C z) = lfOffsetsFrom z.before.length z.after := by
  refine lexS_induct C (motive := fun z l => newlineOffsets l = lfOffsetsFrom z.before.length z.after)
    (fun z he => ?_) (fun z hne hih => ?_) z
  · have hr0 := ((next_res C z).eof he).1
    cases next_step C z with
    | tok sp pre hsp hpre hafter hbefore hline hty hpl hpo _hstopt =>
      rw [hr0, List.append_nil] at hafter
      have hno : LF ∉ sp ++ pre := fun hm => (List.mem_append.mp hm).elim (spaces_noLF hsp) hpre
      have := lfOffsetsFrom_append_noLF z.before.length (sp ++ pre) [] hno
      rw [List.append_nil] at this
      rw [hafter, this]
      simp [newlineOffsets, he, lfOffsetsFrom]
    | newline sp cr hsp hcr hafter hbefore hline hcol hstart hty hpl hpo hstop =>
      rw [hty] at he; exact absurd he (by decide)
  · rw [newlineOffsets_cons, hih]
    cases next_step C z with
    | tok sp pre hsp hpre hafter hbefore hline hty hpl hpo _hstopt =>
      have hno : LF ∉ sp ++ pre := fun hm => (List.mem_append.mp hm).elim (spaces_noLF hsp) hpre
      have hty' : ((next C z).1.ty == TokType.newline) = false := by simpa using hty
      rw [hafter, lfOffsetsFrom_append_noLF _ _ _ hno, hbefore, hty']
      simp; congr 1; omega
    | newline sp cr hsp hcr hafter hbefore hline hcol hstart hty hpl hpo hstop =>
      have hno : LF ∉ sp ++ cr := by
        intro hm
        rcases List.mem_append.mp hm with hm | hm
        · exact spaces_noLF hsp hm
        · rcases hcr with rfl | rfl <;> simp at hm
      rw [hafter, lfOffsetsFrom_append_noLF _ _ _ hno, hbefore, hty, hstop]
      simp [lfOffsetsFrom, Z.position, hbefore]
      constructor
      · omega
      · congr 1; omega

theorem mem_take_prefix {sp rest : Bytes} {k : Nat} (hk : k ≤ sp.length) (h : ∀ c ∈ sp, isBlank c = true) :
    ∀ c ∈ (sp ++ rest).take k, isBlank c = true := by
  intro c hc
  rw [List.take_append_of_le_length hk] at hc
  exact h c (List.mem_of_mem_take hc)

/-- the bytes between the lexer position and the start of the next token are exactly the
    blanks and tabs `skipSpaces` stepped over -/
theorem first_gap {z : Z} {r : Token × Z} (h : Step z r) :
    ∀ c ∈ (z.input.drop z.before.length).take (r.1.pos.off - z.before.length), isBlank c = true := by
  rw [input_drop_before]
  cases h with
  | tok sp pre hsp hpre hafter hbefore hline hty hpl hpo _hstopt =>
    rw [hafter, List.append_assoc]
    exact mem_take_prefix (by omega) hsp
  | newline sp cr hsp hcr hafter hbefore hline hcol hstart hty hpl hpo hstop =>
    rw [hafter, List.append_assoc]
    exact mem_take_prefix (by omega) hsp

theorem isGapByte_eq (c : UInt8) : isGapByte c = isBlank c := rfl

theorem gapOk_nil (ty : Option TokType) : gapOk ty [] = true := by
  unfold gapOk; split
  · exact wsOnly_nil
  · rfl

theorem gapOk_append_blanks (ty : Option TokType) (g sp : Bytes) (hg : gapOk ty g = true)
    (hsp : ∀ c ∈ sp, isBlank c = true) : gapOk ty (g ++ sp) = true := by
  unfold gapOk at hg ⊢
  split
  · rename_i ht
    rw [if_pos ht] at hg
    exact wsOnly_append _ _ hg (wsOnly_blanks sp hsp)
  · rename_i ht
    rw [if_neg ht] at hg
    rw [List.all_append, hg, Bool.true_and, List.all_eq_true]
    exact fun c hc => hsp c hc

theorem gapOk_of_tail {ty : TokType} {tl : Bytes} (h : TailOk ty tl) : gapOk (some ty) tl = true := by
  unfold TailOk at h
  unfold gapOk
  by_cases ht : ty = .text
  · subst ht
    simpa using h
  · rw [if_neg ht] at h
    have hne : ¬ ((some ty == some TokType.text) = true) := by simpa using ht
    rw [if_neg hne]
    split at h
    · rcases h with rfl | rfl <;> decide
    · subst h; rfl

theorem before_split_stop {r : Token × Z} (h : r.1.stop.off ≤ r.2.before.length) :
    r.2.before.reverse = (r.2.before.drop (r.2.before.length - r.1.stop.off)).reverse ++ gapBehind r ∧
      (r.2.before.drop (r.2.before.length - r.1.stop.off)).reverse.length = r.1.stop.off := by
  constructor
  · rw [gapBehind, ← List.reverse_append, List.take_append_drop]
  · simp only [List.length_reverse, List.length_drop]; omega

/-- Cover, from any state: `A ++ g` is what was consumed, `A` ends with the previous token
    (type `ty`), `g` is the gap consumed behind it so far. -/
theorem lexS_gapsOk (C : Classes) (z : Z) (ty : Option TokType)
    (A g : Bytes) (hb : z.before.reverse = A ++ g) (hg : gapOk ty g = true) :
    gapsOk z.input ty A.length (lexS C z) = true := by
  revert ty A g
  refine lexS_induct C (motive := fun z l => ∀ (ty : Option TokType) (A g : Bytes), z.before.reverse = A ++ g →
    gapOk ty g = true → gapsOk z.input ty A.length l = true) (fun z he => ?_) (fun z hne ih => ?_) z <;>
    intro ty A g hb hg
  all_goals
    have hres := next_res C z
    have hstep := next_step C z
    have hlen : z.before.length = A.length + g.length := by
      have := congrArg List.length hb; simpa using this
    -- the gap in front of the token: `g` and the blanks `skipSpaces` stepped over
    have hfirst : ∀ sp rest, (∀ c ∈ sp, isBlank c = true) → z.after = sp ++ rest →
        (next C z).1.pos.off = z.before.length + sp.length →
        gapOk ty ((z.input.drop A.length).take ((next C z).1.pos.off - A.length)) = true := by
      intro sp rest hsp hafter hpo
      rw [Z.input, hb, hafter, List.append_assoc, List.drop_left, hpo, hlen, ← List.append_assoc]
      have : A.length + g.length + sp.length - A.length = (g ++ sp).length := by simp; omega
      rw [this, List.take_left]
      exact gapOk_append_blanks ty g sp hg hsp
    simp only [gapsOk, Bool.and_eq_true]
  · refine ⟨?_, ?_⟩
    · cases hstep with
      | tok sp pre hsp hpre hafter hbefore hline hty hpl hpo hstop =>
        exact hfirst sp _ hsp (by rw [hafter, List.append_assoc]) hpo
      | newline sp cr hsp hcr hafter hbefore hline hcol hstart hty hpl hpo hstop =>
        rw [hty] at he; exact absurd he (by decide)
    · rw [hres.stop_eof he, ← hres.adv.input, input_drop_before, (hres.eof he).1]
      exact gapOk_nil _
  · -- behind the token
    have hnext : (next C z).1.stop.off ≤ (next C z).2.before.length →
        gapOk (some (next C z).1.ty) (gapBehind (next C z)) = true →
        gapsOk z.input (some (next C z).1.ty) (next C z).1.stop.off (lexS C (next C z).2) = true := by
      intro hle htl
      obtain ⟨e1, e2⟩ := before_split_stop hle
      have := ih (some (next C z).1.ty) _ _ e1 htl
      rw [e2, hres.adv.input] at this
      exact this
    cases hstep with
    | tok sp pre hsp hpre hafter hbefore hline hty hpl hpo hstop =>
      exact ⟨hfirst sp _ hsp (by rw [hafter, List.append_assoc]) hpo, hnext hstop.le (gapOk_of_tail hstop.tail)⟩
    | newline sp cr hsp hcr hafter hbefore hline hcol hstart hty hpl hpo hstop =>
      refine ⟨hfirst sp _ hsp (by rw [hafter, List.append_assoc]) hpo, hnext (by rw [hstop]; exact Nat.le_refl _) ?_⟩
      have : gapBehind (next C z) = [] := by
        simp [gapBehind, hstop, Z.position]
      rw [this]
      exact gapOk_nil _

/-- Pure list fact: for an ordered stream the gaps and the token extents, concatenated in
    order, are the input — every byte lies in exactly one gap or one token extent. -/
theorem ordered_pieces (input : Bytes) (prev : Nat) (toks : List Token)
    (h : ordered input.length prev toks = true) : pieces input prev toks = input.drop prev := by
  induction toks generalizing prev with
  | nil => rfl
  | cons t rest ih =>
    have split2 : ∀ (a b : Nat), a ≤ b → input.drop a = (input.drop a).take (b - a) ++ input.drop b := by
      intro a b hab
      have h1 := (List.take_append_drop (b - a) (input.drop a)).symm
      rw [List.drop_drop] at h1
      have : a + (b - a) = b := by omega
      rw [this] at h1
      exact h1
    cases rest with
    | nil =>
      simp only [ordered, Bool.and_eq_true, decide_eq_true_eq, beq_iff_eq] at h
      obtain ⟨⟨⟨_, h2⟩, h3⟩, h4⟩ := h
      simp only [pieces]
      rw [h4, h3]
      simp only [Nat.sub_self, List.take_zero, List.append_nil, List.drop_length]
      have := split2 prev input.length (by omega)
      rw [List.drop_length, List.append_nil] at this
      exact this.symm
    | cons t2 rest =>
      rw [ordered_cons_cons] at h
      simp only [Bool.and_eq_true, decide_eq_true_eq, bne_iff_ne, ne_eq] at h
      obtain ⟨⟨⟨⟨_, h2⟩, h3⟩, _⟩, h5⟩ := h
      rw [pieces, ih _ h5]
      rw [List.append_assoc, ← split2 t.pos.off t.stop.off (by omega), ← split2 prev t.pos.off h2]

theorem countLF_reverse (s : Bytes) : countLF s.reverse = countLF s := by
  simp [countLF, List.filter_reverse]

theorem take_input {z : Z} {p rest : Bytes} (h : z.after = p ++ rest) :
    z.input.take (z.before.length + p.length) = z.before.reverse ++ p := by
  have : z.before.length + p.length = (z.before.reverse ++ p).length := by simp
  rw [Z.input, h, ← List.append_assoc, this, List.take_left]

theorem step_lines {z : Z} {r : Token × Z} (L : Nat) (h : Step z r) (hinv : z.line = L + countLF z.before) :
    r.1.pos.line = L + countLF (z.input.take r.1.pos.off) ∧
      r.1.stop.line = L + countLF (z.input.take r.1.stop.off) ∧ r.2.line = L + countLF r.2.before := by
  cases h with
  | tok sp pre hsp hpre hafter hbefore hline hty hpl hpo hstop =>
    have ha : z.after = sp ++ (pre ++ r.2.after) := by rw [hafter, List.append_assoc]
    have hnosp := spaces_noLF hsp
    refine ⟨?_, ?_, ?_⟩
    · rw [hpo, take_input ha, hpl, hinv]
      simp only [countLF_append, countLF_reverse, countLF_of_not_mem hnosp]
      omega
    · -- the token ends on its line: between its start and its end there is no line feed
      have hge := hstop.ge
      have hle := hstop.le
      have hlen : r.2.before.length = z.before.length + sp.length + pre.length := by
        rw [hbefore]; simp; omega
      obtain ⟨k, hk, hk2⟩ : ∃ k, r.1.stop.off = z.before.length + (sp ++ pre.take k).length ∧ k ≤ pre.length :=
        ⟨r.1.stop.off - r.1.pos.off, by rw [List.length_append, List.length_take]; omega, by omega⟩
      have hz : z.after = (sp ++ pre.take k) ++ (pre.drop k ++ r.2.after) := by
        rw [hafter]; simp only [List.append_assoc, List.append_cancel_left_eq]
        rw [← List.append_assoc, List.take_append_drop]
      rw [hstop.line, hpl, hk, take_input hz, hinv]
      have hnopre : LF ∉ pre.take k := fun hm => hpre (List.mem_of_mem_take hm)
      simp only [countLF_append, countLF_reverse, countLF_of_not_mem hnosp, countLF_of_not_mem hnopre]
      omega
    · rw [hline, hbefore, hinv]
      simp only [countLF_append, countLF_reverse, countLF_of_not_mem hpre, countLF_of_not_mem hnosp]
      omega
  | newline sp cr hsp hcr hafter hbefore hline hcol hstart hty hpl hpo hstop =>
    have ha : z.after = sp ++ (cr ++ LF :: r.2.after) := by rw [hafter, List.append_assoc]
    have ha2 : z.after = (sp ++ cr ++ [LF]) ++ r.2.after := by rw [hafter]; simp
    have hb : r.2.before = [LF] ++ cr.reverse ++ sp.reverse ++ z.before := by simp [hbefore]
    have hcr0 : countLF cr = 0 := by rcases hcr with rfl | rfl <;> decide
    have hinv' : r.2.line = L + countLF r.2.before := by
      rw [hline, hb, hinv]
      simp only [countLF_append, countLF_reverse, countLF_of_not_mem (spaces_noLF hsp), hcr0]
      simp [countLF]
      omega
    refine ⟨?_, ?_, hinv'⟩
    · rw [hpo, take_input ha, hpl, hinv]
      simp only [countLF_append, countLF_reverse, countLF_of_not_mem (spaces_noLF hsp)]
      omega
    · have : r.2.before.length = z.before.length + (sp ++ cr ++ [LF]).length := by rw [hb]; simp; omega
      rw [hstop]
      show r.2.line = L + countLF (z.input.take r.2.before.length)
      rw [this, take_input ha2, hinv', hb]
      simp only [countLF_append, countLF_reverse]
      omega

theorem lexS_forall_inv (C : Classes) (I : Z → Prop) (P : Token → Prop)
    (h : ∀ z, I z → P (next C z).1 ∧ I (next C z).2) {z : Z} (hz : I z) : ∀ t ∈ lexS C z, P t := by
  revert hz
  refine lexS_induct C (motive := fun z l => I z → ∀ t ∈ l, P t) (fun z _ hz t ht => ?_) (fun z _ ih hz t ht => ?_) z
  · rw [List.mem_singleton.mp ht]; exact (h z hz).1
  · rcases List.mem_cons.mp ht with rfl | ht
    · exact (h z hz).1
    · exact ih (h z hz).2 t ht

theorem lexS_forall (C : Classes) (P : Token → Prop) (h : ∀ z, P (next C z).1) (n : Nat) (z : Z)
    (hn : z.after.length ≤ n) : ∀ t ∈ lexS C z, P t :=
  lexS_forall_inv C (fun _ => True) P (fun z _ => ⟨h z, trivial⟩) trivial

theorem lexS_forall_input (C : Classes) (input : Bytes) (P : Token → Prop)
    (h : ∀ z, z.input = input → P (next C z).1) (z : Z) (hi : z.input = input) : ∀ t ∈ lexS C z, P t :=
  lexS_forall_inv C (·.input = input) P (fun z hz => ⟨h z hz, by rw [(next_res C z).adv.input, hz]⟩) hi

theorem lexS_lines (C : Classes) (L : Nat) (z : Z) (hinv : z.line = L + countLF z.before) :
    ∀ t ∈ lexS C z, t.pos.line = L + countLF (z.input.take t.pos.off) ∧
      t.stop.line = L + countLF (z.input.take t.stop.off) := by
  refine lexS_forall_inv C (fun z' => z'.input = z.input ∧ z'.line = L + countLF z'.before) _ (fun z' hz' => ?_)
    ⟨rfl, hinv⟩
  obtain ⟨h1, h2, h3⟩ := step_lines L (next_step C z') hz'.2
  rw [hz'.1] at h1 h2
  exact ⟨⟨h1, h2⟩, by rw [(next_res C z').adv.input, hz'.1], h3⟩

/-- a Newline token spans exactly one line end — one byte, or two of which the first is a
    carriage return — and ends at column 1 of the next line -/
theorem next_newline_shape (C : Classes) (z : Z) :
    (next C z).1.ty = .newline → newlineShape z.input (next C z).1 = true := by
  intro hty
  cases next_step C z with
  | tok sp pre hsp hpre hafter hbefore hline hty' hpl hpo _hstopt => exact absurd hty hty'
  | newline sp cr hsp hcr hafter hbefore hline hcol hstart hty' hpl hpo hstop =>
    have hin : z.input[z.before.length + sp.length]? = (cr ++ LF :: (next C z).2.after)[0]? := by
      have : z.before.length + sp.length = (z.before.reverse ++ sp).length := by simp
      rw [Z.input, hafter, List.append_assoc, ← List.append_assoc z.before.reverse, this,
        List.getElem?_append_right (Nat.le_refl _)]
      simp
    simp only [newlineShape, hstop, hpo, hpl, Z.position, hbefore, hline, hcol, hin]
    rcases hcr with rfl | rfl
    · simp; omega
    · simp; omega

end HL.Lex
