/-
  The configuration code of `HL.Model.Settings`, field by field (C19): what `set`,
  `applySettingsMap`, `normalize` and `parseSettingsFromRaw` do to `get s l`; the closed form
  `normVal` of normalisation and its fixed points `Normal`; the candidates a payload offers a field.
-/
import HL.Model.Settings
import HL.Spec.SettingsSpec

namespace HL.Lemmas.Settings
open HL.Settings

/-- a value of the Go type of the field -/
def typeOK : Leaf → Val → Bool
  | l, .b _ => l.coerce = .toBool
  | l, .i _ => l.coerce = .toInt || l.coerce = .toInt64
  | l, .s _ => l.coerce = .toString

/-! `Leaf.all.map (get s)` lists the fields; `set` replaces the entry at the leaf's position in
`Leaf.all`, and a value of the wrong type nothing.  One `rfl` per leaf and kind of value compares
the two lists; reading and writing different fields then is `List.getElem?_set_ne`. -/

theorem all_ctorIdx (l : Leaf) : Leaf.all[l.ctorIdx]? = some l := by cases l <;> rfl

theorem ctorIdx_inj {l l' : Leaf} (h : l.ctorIdx = l'.ctorIdx) : l = l' :=
  Option.some.inj ((all_ctorIdx l).symm.trans (h ▸ all_ctorIdx l'))

theorem getElem?_fields (s : Settings) (l : Leaf) :
    (Leaf.all.map (get s))[l.ctorIdx]? = some (get s l) := by
  rw [List.getElem?_map, all_ctorIdx]; rfl

theorem fields_set (s : Settings) (l : Leaf) (v : Val) :
    Leaf.all.map (get (set s l v)) =
      if typeOK l v then (Leaf.all.map (get s)).set l.ctorIdx v else Leaf.all.map (get s) := by
  cases l <;> cases v <;> rfl

theorem get_set_same (s : Settings) (l : Leaf) (v : Val) (h : typeOK l v = true) :
    get (set s l v) l = v := by
  have := getElem?_fields (set s l v) l
  have hlt : l.ctorIdx < (Leaf.all.map (get s)).length :=
    List.length_map (get s) ▸ (List.getElem?_eq_some_iff.mp (all_ctorIdx l)).1
  rw [fields_set, if_pos h, List.getElem?_set_self hlt] at this
  exact (Option.some.inj this).symm

theorem get_set_ne (s : Settings) (l l' : Leaf) (v : Val) (h : l ≠ l') :
    get (set s l' v) l = get s l := by
  have := getElem?_fields (set s l' v) l
  rw [fields_set] at this
  split at this
  · rw [List.getElem?_set_ne fun e => h (ctorIdx_inj e.symm), getElem?_fields] at this
    exact (Option.some.inj this).symm
  · rw [getElem?_fields] at this
    exact (Option.some.inj this).symm

/-- a value none of the four coercions accepts is accepted for no field -/
theorem coerceLeaf_none (l : Leaf) {j : Json} (hb : toBool j = none) (hi : toInt j = none)
    (hi' : toInt64 j = none) (hs : toStr j = none) : coerceLeaf l j = none := by
  unfold coerceLeaf
  cases l.coerce <;> simp only [hb, hi, hi', hs, Option.map_none]

theorem coerceLeaf_typeOK (l : Leaf) (j : Json) (v : Val) (h : coerceLeaf l j = some v) :
    typeOK l v = true := by
  unfold coerceLeaf at h
  cases hc : l.coerce <;> simp only [hc] at h
  all_goals
    simp only [Option.map_eq_some_iff] at h
    obtain ⟨a, _, rfl⟩ := h
    simp [typeOK, hc]


/-- the values the statements of a table assign to field `l`, in source order -/
def candidatesIn (t : List Entry) (raw : List (String × Json)) (l : Leaf) : List Val :=
  (t.filter fun e => e.leaf = l).filterMap fun e => coerceLeaf l (entryRaw raw e)

def candidates (raw : List (String × Json)) (l : Leaf) : List Val := candidatesIn keyTable raw l

theorem get_applyEntry (raw : List (String × Json)) (s : Settings) (e : Entry) (l : Leaf) :
    get (applyEntry raw s e) l =
      if e.leaf = l then (coerceLeaf l (entryRaw raw e)).getD (get s l) else get s l := by
  unfold applyEntry
  by_cases h : e.leaf = l
  · subst h
    simp only [if_true]
    cases hc : coerceLeaf e.leaf (entryRaw raw e) with
    | none => rfl
    | some v => exact get_set_same s e.leaf v (coerceLeaf_typeOK _ _ _ hc)
  · simp only [h, if_false]
    cases hc : coerceLeaf e.leaf (entryRaw raw e) with
    | none => rfl
    | some v => exact get_set_ne s l e.leaf v (fun h' => h h'.symm)

theorem get_foldl (t : List Entry) (raw : List (String × Json)) (s : Settings) (l : Leaf) :
    get (t.foldl (applyEntry raw) s) l = ((candidatesIn t raw l).getLast?).getD (get s l) := by
  induction t generalizing s with
  | nil => rfl
  | cons e t ih =>
    simp only [List.foldl_cons]
    rw [ih, get_applyEntry]
    unfold candidatesIn
    by_cases h : e.leaf = l
    · simp only [h, if_true, List.filter_cons, decide_true, List.filterMap_cons]
      cases hc : coerceLeaf l (entryRaw raw e) with
      | none => simp
      | some v =>
        simp only [Option.getD_some]
        cases hl : (List.filterMap (fun e => coerceLeaf l (entryRaw raw e))
            (List.filter (fun e => decide (e.leaf = l)) t)) with
        | nil => simp
        | cons a r =>
          simp only [List.getLast?_cons_cons]
          cases h2 : (a :: r).getLast? with
          | none => simp at h2
          | some x => rfl
    · simp [h]

/-- **applySettingsMap, per field**: the last statement (in source order) whose coercion
    succeeds decides; if none succeeds the field is untouched. -/
theorem get_applySettingsMap (s : Settings) (raw : List (String × Json)) (l : Leaf) :
    get (applySettingsMap s raw) l = ((candidates raw l).getLast?).getD (get s l) :=
  get_foldl keyTable raw s l

theorem get_resetIf (s : Settings) (r : NormRule) (l : Leaf)
    (hr : typeOK r.leaf r.value = true) :
    HL.Settings.get (resetIf s r) l =
      if r.leaf = l then stepVal (HL.Settings.get s l) r else HL.Settings.get s l := by
  unfold resetIf stepVal
  by_cases h : r.leaf = l
  · subst h
    simp only [if_true]
    split
    · exact get_set_same _ _ _ hr
    · rfl
  · simp only [h, if_false]
    split
    · exact get_set_ne _ _ _ _ (fun h' => h h'.symm)
    · rfl

theorem get_foldl_resetIf (rules : List NormRule) (s : Settings) (l : Leaf)
    (hty : ∀ r ∈ rules, typeOK r.leaf r.value = true) :
    HL.Settings.get (rules.foldl resetIf s) l =
      (rules.filter fun r => r.leaf = l).foldl stepVal (HL.Settings.get s l) := by
  induction rules generalizing s with
  | nil => rfl
  | cons r rules ih =>
    simp only [List.foldl_cons]
    rw [ih _ (fun r hr => hty r (List.mem_cons_of_mem _ hr)),
      get_resetIf _ _ _ (hty r (List.mem_cons_self ..))]
    by_cases h : r.leaf = l
    · simp [h]
    · simp [h]

theorem get_normalize (s : Settings) (l : Leaf) :
    HL.Settings.get (normalize s) l = normLeaf l (HL.Settings.get s l) := by
  unfold normalize normLeaf
  exact get_foldl_resetIf normRules s l (by decide)


theorem ext_get (a b : Settings) (h : ∀ l, HL.Settings.get a l = HL.Settings.get b l) : a = b := by
  have := List.map_congr_left (l := Leaf.all) fun l _ => h l
  obtain ⟨⟨_, _, _, _, _, _, _, _, _, _⟩, ⟨_, _, _⟩, ⟨_, _, _⟩, ⟨_, _, _⟩, ⟨_, _, _⟩, ⟨_, _⟩⟩ := a
  obtain ⟨⟨_, _, _, _, _, _, _, _, _, _⟩, ⟨_, _, _⟩, ⟨_, _, _⟩, ⟨_, _, _⟩, ⟨_, _, _⟩, ⟨_, _⟩⟩ := b
  cases this
  rfl

/-- `normLeaf` in closed form: what `normalizeServerSettings` does to each field -/
def normVal : Leaf → Val → Val
  | .cMaxResults, .i n => .i (if n ≤ 0 then 50 else n)
  | .oIndentSize, .i n => .i (if n ≤ 0 then 4 else if n > 32 then 32 else n)
  | .oMinAlignmentColumn, .i n => .i (if n < 0 then 0 else if n > 500 then 500 else n)
  | .xPath, .s p => .s (if p = "" then "hledger" else p)
  | .xTimeout, .i n => .i (if n ≤ 0 then 30000000000 else n)
  | .lMaxFileSizeBytes, .i n => .i (if n ≤ 0 then 10485760 else n)
  | .lMaxIncludeDepth, .i n => .i (if n ≤ 0 then 50 else n)
  | _, v => v

/-- the statements of `normalizeServerSettings` about one field -/
def rulesOf : Leaf → List NormRule
  | .cMaxResults => [⟨.cMaxResults, .nonPositive, .default⟩]
  | .oIndentSize => [⟨.oIndentSize, .nonPositive, .default⟩, ⟨.oIndentSize, .above 32, .const 32⟩]
  | .oMinAlignmentColumn => [⟨.oMinAlignmentColumn, .negative, .default⟩,
      ⟨.oMinAlignmentColumn, .above 500, .const 500⟩]
  | .xPath => [⟨.xPath, .emptyString, .default⟩]
  | .xTimeout => [⟨.xTimeout, .nonPositive, .default⟩]
  | .lMaxFileSizeBytes => [⟨.lMaxFileSizeBytes, .nonPositive, .default⟩]
  | .lMaxIncludeDepth => [⟨.lMaxIncludeDepth, .nonPositive, .default⟩]
  | _ => []

theorem stepVal_b (b : Bool) (r : NormRule) : stepVal (.b b) r = .b b := by
  unfold stepVal; cases hc : r.cond <;> simp [NormCond.holds]

theorem stepVal_nonPositive (l : Leaf) (n : Int) :
    stepVal (.i n) ⟨l, .nonPositive, .default⟩ = if n ≤ 0 then HL.Settings.get defaults l else .i n := by
  simp [stepVal, NormCond.holds, NormRule.value]

theorem stepVal_negative (l : Leaf) (n : Int) :
    stepVal (.i n) ⟨l, .negative, .default⟩ = if n < 0 then HL.Settings.get defaults l else .i n := by
  simp [stepVal, NormCond.holds, NormRule.value]

theorem stepVal_above (l : Leaf) (n m : Int) :
    stepVal (.i n) ⟨l, .above m, .const m⟩ = if n > m then .i m else .i n := by
  simp [stepVal, NormCond.holds, NormRule.value]

theorem stepVal_empty (l : Leaf) (p : String) :
    stepVal (.s p) ⟨l, .emptyString, .default⟩ = if p = "" then HL.Settings.get defaults l else .s p := by
  simp [stepVal, NormCond.holds, NormRule.value]

theorem stepVal_s_int (p : String) (l : Leaf) (c : NormCond) (t : NormTo) (hc : c ≠ .emptyString) :
    stepVal (.s p) ⟨l, c, t⟩ = .s p := by
  unfold stepVal; cases c <;> simp_all [NormCond.holds]

theorem stepVal_i_empty (n : Int) (l : Leaf) (t : NormTo) :
    stepVal (.i n) ⟨l, .emptyString, t⟩ = .i n := by
  simp [stepVal, NormCond.holds]

theorem foldl_stepVal_b (b : Bool) (rs : List NormRule) : rs.foldl stepVal (.b b) = .b b := by
  induction rs with
  | nil => rfl
  | cons r rs ih => simp only [List.foldl_cons, stepVal_b, ih]

theorem normVal_b (l : Leaf) (x : Bool) : normVal l (.b x) = .b x := by cases l <;> rfl

theorem normLeaf_eq (l : Leaf) (v : Val) : normLeaf l v = normVal l v := by
  unfold normLeaf
  rw [show (normRules.filter fun r => r.leaf = l) = rulesOf l by cases l <;> rfl]
  cases v with
  | b x => rw [foldl_stepVal_b, normVal_b]
  | i n =>
    -- a field with no statement, or with the one about the empty string, is left alone
    cases l <;> try rfl
    all_goals
      simp only [rulesOf, List.foldl_cons, List.foldl_nil, normVal, stepVal_nonPositive,
        stepVal_negative, HL.Settings.get, defaults, defaultLimits, millisecond]
      split <;> simp only [stepVal_above, Int.reduceMul, *] <;> (try split) <;> first | rfl | omega
  | s p =>
    cases l <;> try rfl
    simp only [rulesOf, List.foldl_cons, List.foldl_nil, normVal, stepVal_empty, HL.Settings.get, defaults]
    split <;> rfl

theorem normVal_idem (l : Leaf) (v : Val) : normVal l (normVal l v) = normVal l v := by
  cases l <;> cases v <;> try rfl
  case xPath.s p => simp only [normVal]; split <;> simp [*]
  all_goals simp only [normVal, Val.i.injEq]; omega

/-- stored settings: fixed points of normalisation -/
def Normal (s : Settings) : Prop := normalize s = s

theorem normal_normalize (s : Settings) : Normal (normalize s) := by
  apply ext_get
  intro l
  rw [get_normalize, get_normalize, normLeaf_eq, normLeaf_eq, normVal_idem]

theorem normal_get (s : Settings) (h : Normal s) (l : Leaf) :
    normLeaf l (HL.Settings.get s l) = HL.Settings.get s l := by
  rw [← get_normalize, h]


open HL.SettingsSpec (levels levelsIn)

section
/- `normalize` stays folded: left to itself `rfl` compares `normalize a` and `normalize b` by
   running the nine statements on both sides. -/
attribute [local irreducible] normalize

theorem parse_obj (base : Settings) (kvs : List (String × Json)) :
    parseSettingsFromRaw base (.obj kvs) =
      (parseNested (applySettingsMap base kvs) kvs).getD (normalize (applySettingsMap base kvs)) :=
  have (o : Option Settings) (d : Settings) : (match o with | some r => r | none => d) = o.getD d := by
    cases o <;> rfl
  this _ _

theorem parseNested_cons (s : Settings) (k : String) (v : Json) (r : List (String × Json)) :
    parseNested s ((k, v) :: r) =
      if k = "hledger" then (match v with | .obj _ => some (parseSettingsFromRaw s v) | _ => none)
      else parseNested s r := rfl

theorem levelsIn_cons (k : String) (v : Json) (r : List (String × Json)) :
    levelsIn ((k, v) :: r) = if k = "hledger" then levels v else levelsIn r := rfl

mutual
/-- **The wrapper, for every JSON shape.**  `parseSettingsFromRaw` applies every object of the
    `hledger` chain — the payload itself, its member `hledger` if that is an object, that
    object's member `hledger` if …, exactly the `levels` of the statement's rule — outermost
    first, and normalises once at the end.  Anything that is not an object contributes
    nothing. -/
theorem parse_eq (base : Settings) : ∀ j : Json,
    parseSettingsFromRaw base j = normalize ((levels j).foldl applySettingsMap base)
  | .obj kvs => (parse_obj base kvs).trans (parseNested_eq (applySettingsMap base kvs) kvs)
  | .null | .bool _ | .num _ _ | .str _ | .arr _ => rfl
theorem parseNested_eq (s : Settings) : ∀ kvs : List (String × Json),
    (parseNested s kvs).getD (normalize s) = normalize ((levelsIn kvs).foldl applySettingsMap s)
  | [] => rfl
  | (k, v) :: r => by
    rw [parseNested_cons, levelsIn_cons]
    split
    · cases v with
      | obj m => exact parse_eq s (.obj m)
      | _ => rfl
    · exact parseNested_eq s r
end
end

/-- the values the statements of `applySettingsMap` assign to field `l` over the whole chain,
    in the order in which they are assigned -/
def allCandidates (j : Json) (l : Leaf) : List Val := (levels j).flatMap fun m => candidates m l

theorem mem_allCandidates {j : Json} {l : Leaf} {w : Val} :
    w ∈ allCandidates j l ↔
      ∃ m ∈ levels j, ∃ e ∈ keyTable, e.leaf = l ∧ coerceLeaf l (entryRaw m e) = some w := by
  simp only [allCandidates, candidates, candidatesIn, List.mem_flatMap, List.mem_filterMap,
    List.mem_filter, decide_eq_true_eq, and_assoc]

theorem get_foldl_levels (lv : List (List (String × Json))) (s : Settings) (l : Leaf) :
    HL.Settings.get (lv.foldl applySettingsMap s) l =
      (((lv.flatMap fun m => candidates m l).getLast?)).getD (HL.Settings.get s l) := by
  induction lv generalizing s with
  | nil => rfl
  | cons m lv ih =>
    simp only [List.foldl_cons, List.flatMap_cons]
    rw [ih, get_applySettingsMap, List.getLast?_append]
    cases (lv.flatMap fun m => candidates m l).getLast? <;> simp

theorem wrap64_small (x : Int) (h1 : -9223372036854775808 ≤ x) (h2 : x < 9223372036854775808) :
    wrap64 x = x := by
  unfold wrap64 pow63
  rw [Int.emod_eq_of_lt (by omega) (by omega)]
  omega

end HL.Lemmas.Settings
