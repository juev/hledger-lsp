/-
  `Initialize` on a fresh loader establishes the workspace invariant; a whole edit
  (didChange, disk write, didSave, with observations in between) preserves it.
-/
import HL.Lemmas.Update
namespace HL.Lemmas.Init
open HL.Index HL.Workspace HL.Lemmas.AList HL.Lemmas.ReachIdx HL.Lemmas.Edges HL.Lemmas.Index
open HL.Lemmas.WsInv HL.Lemmas.Refresh HL.Lemmas.Update HL.Lemmas.Load HL.Spec.Rebuild

/-- the include graphs are empty when indexing starts: the repaired code resets them; the
    pinned code leaves the edges collected by `findRootByIncludeGraph`, which runs only if
    neither `main.journal` nor `.hledger.journal` exists. -/
def graphsClean (cfg : Cfg) (fs : FS) : Prop :=
  cfg.fixG = true ∨ (fs.get "main.journal").isSome ∨ (fs.get ".hledger.journal").isSome

/-- the root chosen by `findRootJournal` -/
def rootSel (fs : FS) : String := (findRootJournal fs {}).1

theorem rootSel_exists (fs : FS) (hne : fs ≠ []) : (fs.get (rootSel fs)).isSome := by
  unfold rootSel findRootJournal
  by_cases h1 : (fs.get "main.journal").isSome
  · simp [h1]
  · by_cases h2 : (fs.get ".hledger.journal").isSome
    · simp [h1, h2]
    · simp only [h1, h2, Bool.false_eq_true, if_false]
      unfold findRootByIncludeGraph journalFiles
      have hk : ∀ x, x ∈ isort fs.keys → (fs.get x).isSome := by
        intro x hx; exact (mem_keys_iff fs x).mp ((mem_isort _ _).mp hx)
      cases hf : isort fs.keys with
      | nil =>
        have : (isort fs.keys).length = fs.keys.length := (isort_perm fs.keys).length_eq
        rw [hf] at this
        cases fs with
        | nil => exact absurd rfl hne
        | cons a r => simp [AList.keys] at this
      | cons f0 rest =>
        simp only
        split
        · exact hk f0 (by rw [hf]; exact List.mem_cons_self)
        · rename_i c cs hc
          have : c ∈ isort (List.filter (fun f => (AList.getD (buildIncludeGraph fs (f0 :: rest) {}).revG f []).isEmpty) (f0 :: rest)) := by
            rw [hc]; exact List.mem_cons_self
          have := (List.mem_filter.mp ((mem_isort _ _).mp this)).1
          exact hk c (by rw [hf]; exact this)

theorem buildIncludeGraph_fields (fs : FS) (files : List String) (w0 : WS) :
    (buildIncludeGraph fs files w0).idx = w0.idx ∧
    (buildIncludeGraph fs files w0).cFormats = w0.cFormats ∧
    (buildIncludeGraph fs files w0).cComms = w0.cComms ∧
    (buildIncludeGraph fs files w0).cAccts = w0.cAccts :=
  -- both loops only write `incG` and `revG`
  foldl_inv (P := fun w => w.idx = w0.idx ∧ w.cFormats = w0.cFormats ∧ w.cComms = w0.cComms ∧
      w.cAccts = w0.cAccts) files w0 ⟨rfl, rfl, rfl, rfl⟩ fun w f _ hw => by
    cases fs.get f with
    | none => exact hw
    | some c =>
      refine foldl_inv (P := fun w => w.idx = w0.idx ∧ w.cFormats = w0.cFormats ∧
        w.cComms = w0.cComms ∧ w.cAccts = w0.cAccts) c.incs w hw ?_
      exact fun _ _ _ hw => hw

theorem findRootByIncludeGraph_snd (fs : FS) (w0 : WS) :
    (findRootByIncludeGraph fs w0).2 = w0 ∨
    (findRootByIncludeGraph fs w0).2 = buildIncludeGraph fs (journalFiles fs) w0 := by
  unfold findRootByIncludeGraph
  cases hj : journalFiles fs with
  | nil => exact Or.inl rfl
  | cons f0 rest =>
    simp only
    split <;> exact Or.inr rfl

theorem findRoot_fields (fs : FS) :
    (findRootJournal fs {}).2.idx = {} ∧ (findRootJournal fs {}).2.cFormats = none ∧
    (findRootJournal fs {}).2.cComms = none ∧ (findRootJournal fs {}).2.cAccts = none ∧
    (((fs.get "main.journal").isSome ∨ (fs.get ".hledger.journal").isSome) →
      (findRootJournal fs {}).2.incG = [] ∧ (findRootJournal fs {}).2.revG = []) := by
  unfold findRootJournal
  by_cases h1 : (fs.get "main.journal").isSome
  · simp [h1]
  · by_cases h2 : (fs.get ".hledger.journal").isSome
    · simp [h1, h2]
    · simp only [h1, h2, Bool.false_eq_true, if_false]
      rcases findRootByIncludeGraph_snd fs {} with h | h
      · rw [h]
        exact ⟨rfl, rfl, rfl, rfl, fun hn => by rcases hn with hn | hn <;> simp_all⟩
      · rw [h]
        obtain ⟨a1, a2, a3, a4⟩ := buildIncludeGraph_fields fs (journalFiles fs) {}
        exact ⟨a1, a2, a3, a4, fun hn => by rcases hn with hn | hn <;> simp_all⟩

/-- the loop body of `buildIndexFromResolvedLocked` -/
def addIdx (cfg : Cfg) (w : WS) (path : String) (c : Contrib) : WS := putFile cfg w path c []

structure BuildOk (cfg : Cfg) (fs : FS) (w w' : WS) (L : List String) : Prop where
  g : GInv cfg fs w' NoDead
  files : ∀ y, w'.idx.files.get y =
    if y ∈ L then (fs.get y).map (mkFileIdx y) else w.idx.files.get y
  other : w'.root = w.root ∧ w'.hasResolved = w.hasResolved ∧ w'.primary = w.primary ∧
    w'.rfiles = w.rfiles ∧ w'.order = w.order ∧ w'.cFormats = w.cFormats ∧
    w'.cComms = w.cComms ∧ w'.cAccts = w.cAccts

theorem buildAll (cfg : Cfg) (fs : FS) (hok : fsOk fs = true) (rf : AList Contrib)
    (hrf : ∀ x c, rf.get x = some c → fs.get x = some c) :
    ∀ (L : List String) (w : WS), GInv cfg fs w NoDead → L.Nodup →
      (∀ x ∈ L, w.idx.files.get x = none ∧ (rf.get x).isSome) →
      BuildOk cfg fs w (L.foldl (fun w path =>
        match rf.get path with
        | some c => addIdx cfg w path c
        | none => w) w) L := by
  intro L
  induction L with
  | nil =>
    intro w hg _ _
    exact ⟨hg, fun y => by simp, ⟨rfl, rfl, rfl, rfl, rfl, rfl, rfl, rfl⟩⟩
  | cons x L ih =>
    intro w hg hn hL
    rw [List.nodup_cons] at hn
    obtain ⟨hx1, hx2⟩ := hL x List.mem_cons_self
    obtain ⟨c, hc⟩ := Option.isSome_iff_exists.mp hx2
    have hfc := hrf x c hc
    obtain ⟨hxne, hcok⟩ := fsOk_get fs hok x c hfc
    simp only [List.foldl_cons, hc]
    have hput := putFile_ginv cfg fs fs w x c hg hxne hcok hfc (fun _ _ => rfl)
    rw [includesOf_none w x hx1] at hput
    have hfiles1 : ∀ y, (addIdx cfg w x c).idx.files.get y =
        if x = y then some (mkFileIdx x c) else w.idx.files.get y :=
      fun y => files_putFile cfg w x c [] hxne y
    have := ih (addIdx cfg w x c) hput hn.2 (by
      intro y hy
      have hne : ¬ x = y := fun e => hn.1 (e ▸ hy)
      rw [hfiles1 y]
      simp only [hne, if_false]
      exact hL y (List.mem_cons_of_mem _ hy))
    obtain ⟨o1, o2, o3, o4, o5, o6, o7, o8⟩ := this.other
    obtain ⟨p1, p2, p3, p4, p5, p6, p7, p8⟩ := putFile_other cfg w x c []
    refine ⟨this.g, fun y => ?_, o1.trans p1, o2.trans p2, o3.trans p3, o4.trans p4, o5.trans p5,
      o6.trans p6, o7.trans p7, o8.trans p8⟩
    rw [this.files y, hfiles1 y, ite_mem_cons _ _ _ _ _ _ fun e => by rw [← e, hfc]; rfl]

theorem loadF_files_nodup (limit : Nat) (fs : FS) :
    ∀ (n : Nat) (todo : List (String × Nat)) (st : LoadSt), st.files.keys.Nodup →
      (loadF limit fs n todo st).files.keys.Nodup := by
  intro n
  induction n with
  | zero => intro todo st h; simpa [loadF] using h
  | succ n ih =>
    intro todo st h
    cases todo with
    | nil => simpa [loadF] using h
    | cons pd rest =>
      obtain ⟨p, d⟩ := pd
      unfold loadF
      split
      · exact ih _ _ h
      · split
        · exact ih _ _ h
        · split
          · exact ih _ _ h
          · exact ih _ _ (nodup_keys_set _ _ _ h)

theorem emptyWS_ginv (cfg : Cfg) (fs : FS) (root : String) (hr : Bool) (p : Option Contrib)
    (rf : AList Contrib) (o : List String) :
    GInv cfg fs ({ root := root, hasResolved := hr, primary := p, rfiles := rf, order := o } : WS) NoDead :=
  ⟨idxInv_empty cfg.fixT, fun p fi h => by simp at h,
   fun p => by simp [includesOf, AList.getD],
   fun q x => by simp [includesOf, AList.getD, NoDead]⟩

theorem init_eq (cfg : Cfg) (fs : FS) (c : Contrib) (hc : fs.get (rootSel fs) = some c)
    (hrne : rootSel fs ≠ "") (hclean : graphsClean cfg fs) :
    init cfg fs = buildIndexFromResolved cfg
      { root := rootSel fs, hasResolved := true, primary := some c,
        rfiles := (load cfg.limit fs (rootSel fs) c).files,
        order := (load cfg.limit fs (rootSel fs) c).order } := by
  obtain ⟨g1, g2, g3, g4, g5⟩ := findRoot_fields fs
  unfold init
  simp only
  rw [show (findRootJournal fs {}).1 = rootSel fs from rfl]
  simp only [hrne, if_false, hc]
  congr 1
  cases hf : cfg.fixG with
  | true =>
    simp only [if_true]
    rw [g1, g2, g3, g4]
  | false =>
    simp only [Bool.false_eq_true, if_false]
    obtain ⟨g6, g7⟩ := g5 (hclean.resolve_left fun h => Bool.false_ne_true (hf.symm.trans h))
    rw [g1, g2, g3, g4, g6, g7]

/-- the loop of `buildIndexFromResolvedLocked` reads `w.rfiles`, which its body never changes -/
theorem buildIndexFromResolved_eq (cfg : Cfg) (root : String) (c : Contrib) (rf : AList Contrib)
    (o : List String) :
    buildIndexFromResolved cfg
        { root := root, hasResolved := true, primary := some c, rfiles := rf, order := o } =
      (isort rf.keys).foldl (fun w path =>
        match rf.get path with
        | some c => addIdx cfg w path c
        | none => w)
        (putFile cfg { root := root, hasResolved := true, primary := some c, rfiles := rf, order := o }
          root c []) := by
  have hloop : ∀ (L : List String) (w : WS), w.rfiles = rf →
      L.foldl (fun w path => match w.rfiles.get path with
        | some c => updateIncludeEdges { w with idx := setFileIndex cfg.fixT w.idx path (mkFileIdx path c) } path []
            (mkFileIdx path c).includes
        | none => w) w =
      L.foldl (fun w path => match rf.get path with
        | some c => addIdx cfg w path c
        | none => w) w := by
    intro L
    induction L with
    | nil => intro w _; rfl
    | cons a L ih =>
      intro w hw
      have hstep : (match w.rfiles.get a with
          | some c => updateIncludeEdges { w with idx := setFileIndex cfg.fixT w.idx a (mkFileIdx a c) } a []
              (mkFileIdx a c).includes
          | none => w) =
          (match rf.get a with
          | some c => addIdx cfg w a c
          | none => w) := by
        subst hw; rfl
      rw [List.foldl_cons, List.foldl_cons, hstep]
      cases e : rf.get a with
      | none => exact ih w hw
      | some ca => exact ih _ hw
  exact hloop _ _ rfl

theorem init_ok (cfg : Cfg) (fs : FS) (hok : fsOk fs = true) (hne : fs ≠ [])
    (hclean : graphsClean cfg fs) (hlim : fs.length ≤ cfg.limit) :
    WInv cfg fs (init cfg fs) ∧ (init cfg fs).root = rootSel fs ∧ CachesNone (init cfg fs) := by
  -- the load returns exactly the reachable existing files (`load_spec`); indexing the root and then
  -- those files from the empty workspace keeps `GInv` (`buildAll`), and `Closed` and `RInv` are
  -- read off what the index then holds
  have hrex := rootSel_exists fs hne
  obtain ⟨c, hc⟩ := Option.isSome_iff_exists.mp hrex
  obtain ⟨hrne, hcok⟩ := fsOk_get fs hok _ c hc
  rw [init_eq cfg fs c hc hrne hclean]
  have hstn : (load cfg.limit fs (rootSel fs) c).files.keys.Nodup :=
    loadF_files_nodup _ _ _ _ _ List.nodup_nil
  obtain ⟨l1, l2⟩ := load_spec cfg.limit fs (rootSel fs) c (by rwa [AList.keys, List.length_map]) hc
  generalize load cfg.limit fs (rootSel fs) c = st at *
  rw [buildIndexFromResolved_eq]
  -- the root is indexed first
  generalize hw0 :
    ({ root := rootSel fs, hasResolved := true, primary := some c, rfiles := st.files,
       order := st.order } : WS) = w0
  have hg0 : GInv cfg fs w0 NoDead := hw0 ▸ emptyWS_ginv cfg fs _ _ _ _ _
  have hput := putFile_ginv cfg fs fs w0 (rootSel fs) c hg0 hrne hcok hc (fun _ _ => rfl)
  rw [show includesOf w0 (rootSel fs) = [] by rw [← hw0]; rfl] at hput
  have hfiles1 : ∀ y, (putFile cfg w0 (rootSel fs) c []).idx.files.get y =
      if rootSel fs = y then some (mkFileIdx (rootSel fs) c) else none := fun y => by
    rw [files_putFile cfg w0 _ c [] hrne y, ← hw0]; rfl
  have hrf : ∀ x c', st.files.get x = some c' → fs.get x = some c' := fun x c' h => ((l1 x c').mp h).2.2
  have hL : ∀ x ∈ isort st.files.keys,
      (putFile cfg w0 (rootSel fs) c []).idx.files.get x = none ∧ (st.files.get x).isSome := by
    intro x hx
    have hsome := (mem_keys_iff _ _).mp ((mem_isort _ _).mp hx)
    obtain ⟨c', hc'⟩ := Option.isSome_iff_exists.mp hsome
    rw [hfiles1 x, if_neg (Ne.symm ((l1 x c').mp hc').2.1)]
    exact ⟨rfl, hsome⟩
  have hb := buildAll cfg fs hok st.files hrf (isort st.files.keys) _ hput (isort_nodup _ hstn) hL
  generalize (isort st.files.keys).foldl _ (putFile cfg w0 (rootSel fs) c []) = wf at hb
  obtain ⟨o1, o2, o3, o4, o5, o6, o7, o8⟩ := hb.other
  obtain ⟨p1, p2, p3, p4, p5, p6, p7, p8⟩ := putFile_other cfg w0 (rootSel fs) c []
  subst hw0
  have hroot : wf.root = rootSel fs := o1.trans p1
  have hfiles : ∀ y, wf.idx.files.get y =
      if y = rootSel fs then some (mkFileIdx y c)
      else (st.files.get y).map (mkFileIdx y) := by
    intro y
    rw [hb.files y, hfiles1 y]
    by_cases e1 : y ∈ isort st.files.keys
    · obtain ⟨c', hc'⟩ := Option.isSome_iff_exists.mp ((mem_keys_iff _ _).mp ((mem_isort _ _).mp e1))
      have h3 := (l1 y c').mp hc'
      rw [if_pos e1, if_neg h3.2.1, hc', h3.2.2]
    · have : st.files.get y = none := (get_eq_none_iff _ _).mpr fun h => e1 ((mem_isort _ _).mpr h)
      rw [if_neg e1, this]
      by_cases e2 : rootSel fs = y
      · subst e2; rw [if_pos rfl, if_pos rfl]
      · rw [if_neg e2, if_neg fun h => e2 h.symm]; rfl
  have hnone : CachesNone wf := ⟨o6.trans p6, o7.trans p7, o8.trans p8⟩
  refine ⟨⟨⟨hroot ▸ hrne, ?_, hb.g, ⟨o2.trans p2, ?_, fun p => ?_, fun p => ?_⟩⟩, fun p => ?_,
    cacheOk_of_none wf hnone⟩, hroot, hnone⟩
  · rw [hroot, hfiles, if_pos rfl]; rfl
  · rw [hroot, hc]; exact o3.trans p3
  · rw [o4.trans p4, hroot, hfiles p]
    show st.files.get p = _
    by_cases e : p = rootSel fs
    · rw [if_pos e, e]
      cases e2 : st.files.get (rootSel fs) with
      | none => rfl
      | some c' => exact absurd rfl ((l1 _ c').mp e2).2.1
    · rw [if_neg e, if_neg e]
      cases e2 : st.files.get p with
      | none => rfl
      | some c' => exact (((l1 p c').mp e2).2.2).symm ▸ rfl
  · rw [o5.trans p5, o4.trans p4]
    exact l2 p
  · rw [hroot, hfiles p]
    by_cases e : p = rootSel fs
    · subst e; rw [if_pos rfl]; exact ⟨fun _ => ⟨.base, hrex⟩, fun _ => rfl⟩
    · rw [if_neg e, Option.isSome_map]
      constructor
      · intro h
        obtain ⟨c', hc'⟩ := Option.isSome_iff_exists.mp h
        have := (l1 p c').mp hc'
        exact ⟨this.1, this.2.2 ▸ rfl⟩
      · rintro ⟨h1, h2⟩
        obtain ⟨c', hc'⟩ := Option.isSome_iff_exists.mp h2
        rw [(l1 p c').mpr ⟨h1, e, hc'⟩]; rfl

theorem step_ok (cfg : Cfg) (s : St) (u : Upd) (h : WInv cfg s.fs s.w) (hok : fsOk s.fs = true)
    (hp : u.path ≠ "") (hc : contribOk u.c = true) :
    WInv cfg (step cfg s u).fs (step cfg s u).w ∧ fsOk (step cfg s u).fs = true ∧
    (step cfg s u).w.root = s.w.root ∧ (step cfg s u).fs = s.fs.set u.path u.c := by
  have hok' := fsOk_set s.fs hok u.path u.c hp hc
  have hget : (s.fs.set u.path u.c).get u.path = some u.c := get_set_self _ _ _
  have hother : ∀ y, y ≠ u.path → (s.fs.set u.path u.c).get y = s.fs.get y :=
    fun y hy => get_set_ne _ _ _ _ (Ne.symm hy)
  obtain ⟨h1, r1⟩ := updateFile_ok cfg s.fs (s.fs.set u.path u.c) s.fs s.w u.path u.c h hok' hget
    hother (fun y hy => (hother y hy).symm)
  have h1' := observe_winv cfg _ _ h1
  obtain ⟨h2, r2⟩ := updateFile_ok cfg (s.fs.set u.path u.c) (s.fs.set u.path u.c)
    (s.fs.set u.path u.c) _ u.path u.c h1' hok' hget (fun _ _ => rfl) (fun _ _ => rfl)
  have h2' := observe_winv cfg _ _ h2
  refine ⟨h2', hok', ?_, rfl⟩
  show (observe _).2.root = _
  rw [observe_snd]
  show (updateFile cfg _ (observe _).2 u.path u.c).root = _
  rw [r2, observe_snd]
  exact r1

end HL.Lemmas.Init
