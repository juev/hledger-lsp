/-
  Lemmas on HL.Model.MapOrder for C15: sorting a permutation of a map's entries gives one list;
  commuting fold steps (counts, declared sets, smallest path); last writer wins over distinct keys;
  the collectors as sets; map lookup; `perms` holds every iteration order.
-/
import HL.Model.MapOrder

namespace HL.MapOrder
open List

theorem strLe_trans (a b c : String) : strLe a b = true → strLe b c = true → strLe a c = true := by
  simp only [strLe, decide_eq_true_eq]; exact String.le_trans

theorem strLe_total (a b : String) : (strLe a b || strLe b a) = true := by
  simp only [strLe, Bool.or_eq_true, decide_eq_true_eq]; exact String.le_total a b

theorem strLe_antisymm {a b : String} : strLe a b = true → strLe b a = true → a = b := by
  simp only [strLe, decide_eq_true_eq]; exact String.le_antisymm

theorem sortStrings_perm {l l' : List String} (h : l.Perm l') : sortStrings l = sortStrings l' := by
  unfold sortStrings
  apply Perm.eq_of_pairwise (le := fun a b => strLe a b = true)
  · intro a b _ _ hab hba; exact strLe_antisymm hab hba
  · exact pairwise_mergeSort strLe_trans strLe_total l
  · exact pairwise_mergeSort strLe_trans strLe_total l'
  · exact (mergeSort_perm l _).trans (h.trans (mergeSort_perm l' _).symm)

def keys {κ ν : Type} (σ : Entries κ ν) : List κ := σ.map (·.1)

theorem eq_of_fst_eq {κ ν : Type} {σ : Entries κ ν} (nd : (keys σ).Nodup) {a b : κ × ν}
    (ha : a ∈ σ) (hb : b ∈ σ) (h : a.1 = b.1) : a = b :=
  have ne : σ.Pairwise (fun a b => a.1 ≠ b.1) := pairwise_map.mp nd
  Pairwise.forall_of_forall_of_flip (R := fun a b => a.1 = b.1 → a = b) (fun _ _ _ => rfl)
    (ne.imp fun n e => absurd e n) (ne.imp fun n e => absurd e.symm n) ha hb h

theorem keys_perm {κ ν : Type} {σ σ' : Entries κ ν} (h : σ.Perm σ') : (keys σ).Perm (keys σ') := h.map _

theorem sortedEntries_perm {ν : Type} {σ σ' : Entries String ν} (h : σ.Perm σ') (nd : (keys σ).Nodup) :
    sortedEntries σ = sortedEntries σ' := by
  unfold sortedEntries
  have tr : ∀ a b c : String × ν, strLe a.1 b.1 = true → strLe b.1 c.1 = true → strLe a.1 c.1 = true :=
    fun a b c => strLe_trans a.1 b.1 c.1
  have tot : ∀ a b : String × ν, (strLe a.1 b.1 || strLe b.1 a.1) = true := fun a b => strLe_total a.1 b.1
  apply Perm.eq_of_pairwise (le := fun a b => strLe a.1 b.1 = true)
  · intro a b ha hb hab hba
    have ha' : a ∈ σ := mem_mergeSort.mp ha
    have hb' : b ∈ σ := h.mem_iff.mpr (mem_mergeSort.mp hb)
    exact eq_of_fst_eq nd ha' hb' (strLe_antisymm hab hba)
  · exact pairwise_mergeSort tr tot σ
  · exact pairwise_mergeSort tr tot σ'
  · exact (mergeSort_perm σ _).trans (h.trans (mergeSort_perm σ' _).symm)

theorem perm_eq_of_length_le_one {α : Type} {l l' : List α} (h : l.Perm l') (hl : l.length ≤ 1) : l = l' := by
  match l, hl with
  | [], _ => exact (perm_nil.mp h.symm).symm ▸ rfl
  | [a], _ => exact (singleton_perm.mp h)

theorem foldl_foldl_perm {α β κ : Type} {step : β → α → β}
    (comm : ∀ m a b, step (step m a) b = step (step m b) a)
    {σ σ' : Entries κ (List α)} (h : σ.Perm σ') (m : β) :
    σ.foldl (fun m f => f.2.foldl step m) m = σ'.foldl (fun m f => f.2.foldl step m) m := by
  refine h.foldl_eq' (fun x _ y _ z => ?_) m
  rw [← foldl_append, ← foldl_append]
  exact perm_append_comm.foldl_eq' (fun _ _ _ _ z => comm z _ _) z

theorem bump_comm (m : String → Nat) (a b : String × Nat) : bump (bump m a) b = bump (bump m b) a := by
  funext k; simp only [bump]; split <;> split <;> omega

theorem mark_comm (m : String → Bool) (a b : String) : mark (mark m a) b = mark (mark m b) a := by
  funext k; simp only [mark]; split <;> split <;> rfl

theorem putTemplate_comm {τ : Type} (m : String → Option τ) {a b : String × τ} (h : a = b ∨ a.1 ≠ b.1) :
    putTemplate (putTemplate m a) b = putTemplate (putTemplate m b) a := by
  rcases h with rfl | h
  · rfl
  · funext k; simp only [putTemplate]
    by_cases ha : k = a.1
    · have hb : k ≠ b.1 := fun hb => h (ha.symm.trans hb)
      simp only [if_pos ha, if_neg hb]
    · simp only [if_neg ha]

theorem mergeTemplates_append {τ : Type} (m : String → Option τ) (a b : Entries String τ) :
    mergeTemplates (mergeTemplates m a) b = mergeTemplates m (a ++ b) := by
  simp [mergeTemplates, foldl_append]

theorem mergeTemplates_apply_of_not_mem {τ : Type} (m : String → Option τ) (σ : Entries String τ) (k : String)
    (h : k ∉ keys σ) : mergeTemplates m σ k = m k := by
  induction σ generalizing m with
  | nil => rfl
  | cons x xs ih =>
    simp only [keys, map_cons, mem_cons, not_or] at h
    show mergeTemplates (putTemplate m x) xs k = m k
    rw [ih _ h.2]; simp [putTemplate, h.1]

theorem mem_appendNew {out : List String} {x a : String} : a ∈ appendNew out x ↔ a ∈ out ∨ a = x := by
  unfold appendNew
  split
  · rename_i h
    exact ⟨Or.inl, fun h' => h'.elim id (· ▸ contains_iff_mem.mp h)⟩
  · simp only [mem_append, mem_singleton]

theorem nodup_appendNew {out : List String} {x : String} (nd : out.Nodup) : (appendNew out x).Nodup := by
  unfold appendNew
  split
  · exact nd
  · rename_i h
    have hx : x ∉ out := by simpa using h
    rw [nodup_append]
    exact ⟨nd, by simp, by intro a ha b hb; simp at hb; subst hb; intro e; exact hx (e ▸ ha)⟩

theorem mem_collectInto {out xs : List String} {a : String} : a ∈ collectInto out xs ↔ a ∈ out ∨ a ∈ xs := by
  unfold collectInto
  induction xs generalizing out with
  | nil => simp only [foldl_nil, not_mem_nil, or_false]
  | cons x xs ih => simp only [foldl_cons, ih, mem_appendNew, mem_cons, or_assoc]

theorem nodup_collectInto {out xs : List String} (nd : out.Nodup) : (collectInto out xs).Nodup := by
  unfold collectInto
  induction xs generalizing out with
  | nil => exact nd
  | cons x xs ih => exact ih (nodup_appendNew nd)

theorem mem_foldl_collectInto {init : List String} {σ : Entries String (List String)} {a : String} :
    a ∈ σ.foldl (fun out f => collectInto out f.2) init ↔ a ∈ init ∨ ∃ f ∈ σ, a ∈ f.2 := by
  induction σ generalizing init with
  | nil => simp only [foldl_nil, not_mem_nil, false_and, exists_false, or_false]
  | cons f fs ih => simp only [foldl_cons, ih, mem_collectInto, mem_cons, exists_eq_or_imp, or_assoc]

theorem nodup_foldl_collectInto {init : List String} {σ : Entries String (List String)} (nd : init.Nodup) :
    (σ.foldl (fun out f => collectInto out f.2) init).Nodup := by
  induction σ generalizing init with
  | nil => exact nd
  | cons f fs ih => exact ih (nodup_collectInto nd)

/-- Whatever the order of `resolved.Files`, the pinned collectors return the same names — only
    their ORDER in the list can differ. -/
theorem collectFromResolvedIn_perm {σ σ' : Entries String (List String)} (h : σ.Perm σ') (primary : List String) :
    (collectFromResolvedIn primary σ).Perm (collectFromResolvedIn primary σ') := by
  unfold collectFromResolvedIn
  have nd0 : (collectInto [] primary).Nodup := nodup_collectInto (by simp)
  rw [perm_ext_iff_of_nodup (nodup_foldl_collectInto nd0) (nodup_foldl_collectInto nd0)]
  intro a
  simp only [mem_foldl_collectInto]
  constructor <;> rintro (h' | ⟨f, hf, ha⟩)
  · exact Or.inl h'
  · exact Or.inr ⟨f, h.mem_iff.mp hf, ha⟩
  · exact Or.inl h'
  · exact Or.inr ⟨f, h.mem_iff.mpr hf, ha⟩

theorem mem_insertEverywhere {α : Type} (x : α) (a b : List α) : a ++ x :: b ∈ insertEverywhere x (a ++ b) := by
  induction a with
  | nil => cases b <;> simp [insertEverywhere]
  | cons y ys ih =>
    simp only [cons_append, insertEverywhere, mem_cons, mem_map]
    exact Or.inr ⟨_, ih, rfl⟩

theorem lookup_eq_some_iff {ν : Type} {σ : Entries String ν} (nd : (keys σ).Nodup) (k : String) (v : ν) :
    lookup σ k = some v ↔ (k, v) ∈ σ := by
  unfold lookup
  cases hf : σ.find? (·.1 == k) with
  | none =>
    have := find?_eq_none.mp hf
    exact ⟨nofun, fun h => absurd (beq_self_eq_true k) (this _ h)⟩
  | some e =>
    have he : e.1 = k := by simpa only [beq_iff_eq] using find?_some hf
    have hm : e ∈ σ := mem_of_find?_eq_some hf
    simp only [Option.map_some, Option.some.injEq]
    exact ⟨fun h => h ▸ he ▸ hm, fun h => congrArg Prod.snd (eq_of_fst_eq nd hm h he)⟩

theorem lookup_perm {ν : Type} {σ σ' : Entries String ν} (h : σ.Perm σ') (nd : (keys σ).Nodup) (k : String) :
    lookup σ k = lookup σ' k := by
  have nd' : (keys σ').Nodup := (keys_perm h).nodup nd
  apply Option.ext
  intro v
  rw [lookup_eq_some_iff nd, lookup_eq_some_iff nd', h.mem_iff]

/-- `bestPathStep` and the body of `minPath`: a running minimum in which `""` is "none yet" and
    only candidates with `c` count. -/
def pick (best : String) (c : Bool) (p : String) : String :=
  if c && (best == "" || decide (p < best)) then p else best

/-- Candidates that count are never `""` (`SetFileIndex` refuses it, `minPath` skips it). -/
theorem pick_comm (z x y : String) (cx cy : Bool) (nx : cx = true → x ≠ "") (ny : cy = true → y ≠ "") :
    pick (pick z cx x) cy y = pick (pick z cy y) cx x := by
  -- either way the result is the least, in the linear order of strings, of the candidates that
  -- count and of `z` unless `z` is `""`
  unfold pick; grind

theorem bestPathStep_eq_pick {τ : Type} (payee best : String) (f : String × Entries String τ) :
    bestPathStep payee best f = pick best (f.2.any (·.1 == payee)) f.1 := rfl

theorem minPath_eq_foldl_pick (σ : List String) :
    minPath σ = σ.foldl (fun best p => pick best (p != "") p) "" := rfl

theorem bestPath_perm {τ : Type} {σ σ' : Entries String (Entries String τ)} (h : σ.Perm σ')
    (ne : ∀ f ∈ σ, f.1 ≠ "") (payee : String) : bestPath σ payee = bestPath σ' payee := by
  unfold bestPath
  refine h.foldl_eq' (fun x hx y hy z => ?_) _
  simp only [bestPathStep_eq_pick]
  exact pick_comm z x.1 y.1 _ _ (fun _ => ne x hx) (fun _ => ne y hy)

end HL.MapOrder
