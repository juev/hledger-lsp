/-
  Lemmas for C08 (HL/Props/C08.lean): what `columnMapper.toProtocol` sends for a position of the
  text (`conv_pos`, `conv_rangeOK`, `conv_covers`, resting on `covers_take` for two prefixes of one
  line), what each feature locates (`Located`), `sortAndDedup`, fold regions.
-/
import HL.Model.Ranges
import HL.Spec.RangeSpec
import HL.Lemmas.Text
import HL.Lemmas.Hover
namespace HL.Lemmas.Ranges
open HL HL.Ast HL.Text HL.Ranges HL.RangeSpec HL.Lemmas.Text

/-- The wire values of a `protocol.Range`. -/
def toN (r : LRange) : NRange := ⟨r.sl.toNat, r.sc.toNat, r.el.toNat, r.ec.toNat⟩

theorem ofNat_toNat {n : Nat} (h : n < 4294967296) : (UInt32.ofNat n).toNat = n := by
  rw [UInt32.toNat_ofNat']
  exact Nat.mod_eq_of_lt h

theorem m1_toNat {n : Nat} (h1 : 1 ≤ n) (h2 : n < 4294967296) : (m1 n).toNat = n - 1 := by
  have : n ≠ 0 := by omega
  simp only [m1, this, if_false]
  exact ofNat_toNat (by omega)

theorem m1_zero : (m1 0).toNat = 4294967295 := by decide

theorem charsOf_one (l : Txt) (n : Nat) :
    charsOf one l n = if n ≤ l.length then some n else none := by
  induction l generalizing n with
  | nil => cases n <;> simp [charsOf]
  | cons c cs ih =>
    cases n with
    | zero => simp [charsOf]
    | succ n =>
      simp only [charsOf, one, Nat.le_add_left, if_true, Nat.add_sub_cancel, ih, List.length_cons]
      split <;> simp_all

theorem charsOf_u16_spec {l : Txt} {n k : Nat} (h : charsOf u16w l n = some k) :
    k ≤ l.length ∧ u16len (l.take k) = n := by
  fun_induction charsOf u16w l n generalizing k with
  | case1 l =>
    cases h
    exact ⟨Nat.zero_le _, rfl⟩
  | case2 n => cases h
  | case3 c cs n hle ih =>
    obtain ⟨k', hk', rfl⟩ := Option.map_eq_some_iff.mp h
    have := ih hk'
    simp only [List.length_cons, List.take_succ_cons, u16len]
    omega
  | case4 c cs n hle => cases h

theorem charsOf_u16_take (l : Txt) (k : Nat) (hk : k ≤ l.length) :
    charsOf u16w l (u16len (l.take k)) = some k := by
  induction l generalizing k with
  | nil =>
    have : k = 0 := by simpa using hk
    subst this
    rfl
  | cons c cs ih =>
    cases k with
    | zero => simp [charsOf, u16len]
    | succ k =>
      have hp := u16w_pos c
      simp only [List.take_succ_cons, u16len]
      obtain ⟨m, hm⟩ : ∃ m, u16w c + u16len (cs.take k) = m + 1 := ⟨u16w c + u16len (cs.take k) - 1, by omega⟩
      have hle : u16w c ≤ m + 1 := by omega
      have e : m + 1 - u16w c = u16len (cs.take k) := by omega
      rw [hm]
      simp only [charsOf, hle, if_true, e, ih k (by simpa using hk), Option.map_some]

theorem charsOf_u16_of_bmp (l : Txt) (n : Nat) (hn : n ≤ l.length)
    (hb : ∀ c ∈ l.take n, c.val.toNat < 0x10000) : charsOf u16w l n = some n := by
  have := charsOf_u16_take l n hn
  rwa [u16len_of_bmp _ hb, List.length_take, Nat.min_eq_left hn] at this

/-- `UTF16OffsetToRuneOffset` of a position of the line, whatever follows the line. -/
theorem takeU16_of_charsOf {l : Txt} {n k : Nat} (suf : Txt) (h : charsOf u16w l n = some k) :
    takeU16 (l ++ suf) n = k := by
  fun_induction charsOf u16w l n generalizing k with
  | case1 l =>
    cases h
    cases l ++ suf <;> simp [takeU16]
  | case2 n => cases h
  | case3 c cs n hle ih =>
    obtain ⟨k', hk', rfl⟩ := Option.map_eq_some_iff.mp h
    simp only [List.cons_append, takeU16, Nat.add_one_ne_zero, if_false, ih hk']
    omega
  | case4 c cs n hle => cases h

theorem docLines_get (doc : Txt) (i : Nat) : (docLines doc)[i]? = ((lines doc)[i]?).map stripCR := by
  simp [docLines]

theorem docLines_of_lines {doc : Txt} {i : Nat} {raw : Txt} (h : (lines doc)[i]? = some raw) :
    (docLines doc)[i]? = some (stripCR raw) := by
  rw [docLines_get, h]
  rfl

theorem stripCR_cases (l : Txt) : l = stripCR l ∨ l = stripCR l ++ ['\r'] := by
  unfold stripCR
  split
  · next h =>
    obtain ⟨ys, rfl⟩ := List.getLast?_eq_some_iff.mp h
    exact Or.inr (by rw [List.dropLast_concat])
  · exact Or.inl rfl

theorem take_stripCR (raw : Txt) {k : Nat} (hk : k ≤ (stripCR raw).length) :
    raw.take k = (stripCR raw).take k := by
  rcases stripCR_cases raw with h | h
  · rw [← h]
  · have e : raw.take k = (stripCR raw ++ ['\r']).take k := by rw [← h]
    rw [e, List.take_append_of_le_length hk]

/-- The rune index `columnMapper.runePosition` computes on the mapper's line for a position of
    the client's line. -/
theorem takeU16_stripCR {raw : Txt} {n k : Nat} (h : charsOf u16w (stripCR raw) n = some k) :
    takeU16 raw n = k := by
  rcases stripCR_cases raw with e | e <;> rw [e]
  · simpa using takeU16_of_charsOf [] h
  · exact takeU16_of_charsOf _ h

/-- A piece of a mapper's line that holds no CR lies on the line as the client sees it. -/
theorem stripCR_piece {raw : Txt} {p n : Nat} (hn : 0 < n) (hle : p + n ≤ raw.length)
    (hcr : '\r' ∉ (raw.drop p).take n) :
    p + n ≤ (stripCR raw).length ∧ ((stripCR raw).drop p).take n = (raw.drop p).take n := by
  rcases stripCR_cases raw with h | h
  · rw [← h]
    exact ⟨hle, rfl⟩
  · generalize stripCR raw = s at h ⊢
    subst h
    rw [List.length_append, List.length_singleton] at hle
    have hp : p + n ≤ s.length := by
      apply Nat.le_of_not_lt
      intro hgt
      apply hcr
      rw [List.drop_append_of_le_length (by omega), List.take_of_length_le (by simp; omega)]
      simp
    refine ⟨hp, ?_⟩
    rw [List.drop_append_of_le_length (by omega), List.take_append_of_le_length (by simp; omega)]

theorem docLines_lines (doc : Txt) (i : Nat) (ln : Txt) (h : (docLines doc)[i]? = some ln) :
    ∃ l, (lines doc)[i]? = some l ∧ (l = ln ∨ l = ln ++ ['\r']) := by
  rw [docLines_get, Option.map_eq_some_iff] at h
  obtain ⟨l, hl, rfl⟩ := h
  exact ⟨l, hl, stripCR_cases l⟩

theorem posOK_take {doc ln : Txt} {l k : Nat} (hl : (docLines doc)[l]? = some ln) (hk : k ≤ ln.length) :
    posOK doc l (u16len (ln.take k)) = true := by
  simp only [posOK, hl, charsOfUnits, charsOf_u16_take ln k hk, Option.isSome_some]

theorem covers_take {doc ln : Txt} {l a b : Nat} (hl : (docLines doc)[l]? = some ln) (hab : a ≤ b)
    (hb : b ≤ ln.length) :
    covers doc ⟨l, u16len (ln.take a), l, u16len (ln.take b)⟩ ((ln.drop a).take (b - a)) = true := by
  have ha := Nat.le_trans hab hb
  simp only [covers, rangeOK, slice, posOK_take hl ha, posOK_take hl hb, leqPos, hl, charsOfUnits,
    charsOf_u16_take ln a ha, charsOf_u16_take ln b hb, u16len_take_mono ln hab, hab, ne_eq,
    not_true_eq_false, if_false, if_true, beq_self_eq_true, decide_true, Bool.and_self, Bool.or_true]

theorem posSound_iff {doc : Txt} {p : Pos} : posSound one doc p = true ↔
    1 ≤ p.line ∧ 1 ≤ p.col ∧ ∃ ln, (docLines doc)[p.line - 1]? = some ln ∧ p.col - 1 ≤ ln.length := by
  simp only [posSound, Bool.and_eq_true, decide_eq_true_eq, and_assoc]
  cases (docLines doc)[p.line - 1]? with
  | none => simp
  | some ln => simp [charsOf_one]

theorem lexSound_iff {doc : Txt} {r : Rng} {lex : Txt} : lexSound one doc r lex = true ↔
    1 ≤ r.start.line ∧ r.start.line = r.stop.line ∧ 1 ≤ r.start.col ∧ 1 ≤ r.stop.col ∧
    ∃ ln, (docLines doc)[r.start.line - 1]? = some ln ∧ r.start.col - 1 ≤ r.stop.col - 1 ∧
      r.stop.col - 1 ≤ ln.length ∧
      (ln.drop (r.start.col - 1)).take (r.stop.col - 1 - (r.start.col - 1)) = lex := by
  unfold lexSound
  cases (docLines doc)[r.start.line - 1]? with
  | none => simp
  | some ln =>
    simp only [charsOf_one, Option.some.injEq, exists_eq_left', Bool.and_eq_true, decide_eq_true_eq,
      beq_iff_eq, and_assoc]
    by_cases hb : r.stop.col - 1 ≤ ln.length
    · by_cases ha : r.start.col - 1 ≤ ln.length
      · simp only [ha, hb, if_true, Bool.and_eq_true, decide_eq_true_eq, beq_iff_eq, true_and]
      · have : ¬ r.start.col - 1 ≤ r.stop.col - 1 := fun h => ha (Nat.le_trans h hb)
        simp only [ha, hb, this, if_true, if_false, Bool.false_eq_true, false_and, and_false]
    · simp only [hb, if_false, false_and, and_false]
      cases (if r.start.col - 1 ≤ ln.length then some (r.start.col - 1) else none : Option Nat) <;> simp

theorem span_lexSound (doc : Txt) (r : Rng) (ln pre suf lex : Txt)
    (h1 : 1 ≤ r.start.line) (h2 : 1 ≤ r.start.col)
    (hl : (docLines doc)[r.start.line - 1]? = some ln) (hln : ln = pre ++ lex ++ suf)
    (hpre : pre.length = r.start.col - 1)
    (hsl : r.stop.line = r.start.line) (hsc : r.stop.col = r.start.col + lex.length) :
    lexSound one doc r lex = true := by
  subst hln
  refine lexSound_iff.mpr ⟨h1, hsl.symm, h2, by omega, _, hl, by omega, by simp; omega, ?_⟩
  rw [← hpre, List.append_assoc, List.drop_left, show r.stop.col - 1 - pre.length = lex.length by omega,
    List.take_left]

theorem rngSound_of_lexSound {doc : Txt} {r : Rng} {lex : Txt} (hl : lexSound one doc r lex = true) :
    rngSound one doc r = true := by
  obtain ⟨h1, h2, h3, h4, ln, hln, hab, hb, _⟩ := lexSound_iff.mp hl
  simp only [rngSound, Bool.and_eq_true, posLe, Bool.or_eq_true, decide_eq_true_eq, beq_iff_eq]
  exact ⟨⟨posSound_iff.mpr ⟨h1, h3, ln, hln, Nat.le_trans hab hb⟩, posSound_iff.mpr ⟨h2 ▸ h1, h4, ln, h2 ▸ hln, hb⟩⟩,
    Or.inr ⟨h2, by omega⟩⟩

def rngPos (r : Rng) : Bool :=
  decide (1 ≤ r.start.line) && decide (1 ≤ r.start.col) && decide (1 ≤ r.stop.line) && decide (1 ≤ r.stop.col)

/-- The wire value of the character `columnMapper.lineColumn` computes for `p`: the UTF-16 length
    of the first `col − 1` runes of `p`'s line (the column itself where the mapper has no such
    line). -/
def cc (lns : List Txt) (p : Pos) : Nat :=
  match lns[p.line - 1]? with
  | some ln => u16len (ln.take (p.col - 1))
  | none => p.col - 1

def linesSmall (lns : List Txt) : Prop := ∀ ln ∈ lns, u16len ln < 4294967296

theorem docSmall_iff {doc : Txt} :
    docSmall doc = true ↔ (lines doc).length < 4294967296 ∧ linesSmall (lines doc) := by
  simp only [docSmall, linesSmall, Bool.and_eq_true, List.all_eq_true, decide_eq_true_eq]

theorem convChar_toNat_some {lns : List Txt} {line col : Nat} {ln : Txt} (hs : linesSmall lns)
    (h1 : 1 ≤ line) (hl : lns[line - 1]? = some ln) :
    (convChar lns line col).toNat = u16len (ln.take (col - 1)) := by
  have h0 : line ≠ 0 := by omega
  have := hs ln (List.mem_of_getElem? hl)
  have := u16len_take_le ln (col - 1)
  simp only [convChar, h0, if_false, hl]
  exact ofNat_toNat (by omega)

theorem convChar_toNat {lns : List Txt} {p : Pos} (hs : linesSmall lns) (h1 : 1 ≤ p.line)
    (h2 : 1 ≤ p.col) (h3 : p.col < 4294967296) : (convChar lns p.line p.col).toNat = cc lns p := by
  unfold cc
  cases hl : lns[p.line - 1]? with
  | some ln => exact convChar_toNat_some hs h1 hl
  | none =>
    have h0 : p.line ≠ 0 := by omega
    simp only [convChar, h0, if_false, hl]
    exact m1_toNat h2 h3

theorem toN_conv {lns : List Txt} {r : Rng} (hs : linesSmall lns) (hm : rngSmall r = true)
    (hp : rngPos r = true) :
    toN (astRangeToProtocol lns r) = ⟨r.start.line - 1, cc lns r.start, r.stop.line - 1, cc lns r.stop⟩ := by
  simp only [rngSmall, rngPos, Bool.and_eq_true, decide_eq_true_eq] at hm hp
  obtain ⟨⟨⟨m1', m2⟩, m3⟩, m4⟩ := hm
  obtain ⟨⟨⟨p1, p2⟩, p3⟩, p4⟩ := hp
  simp only [toN, astRangeToProtocol]
  rw [m1_toNat p1 m1', m1_toNat p3 m3, convChar_toNat hs p1 p2 m2, convChar_toNat hs p3 p4 m4]

theorem leqPos_conv {lns : List Txt} {x y : Pos} (hx : 1 ≤ x.line) (h : posLe x y = true) :
    leqPos (x.line - 1) (cc lns x) (y.line - 1) (cc lns y) = true := by
  simp only [posLe, leqPos, Bool.or_eq_true, Bool.and_eq_true, decide_eq_true_eq, beq_iff_eq] at h ⊢
  rcases h with h | ⟨h1, h2⟩
  · exact Or.inl (by omega)
  · refine Or.inr ⟨by omega, ?_⟩
    unfold cc
    rw [h1]
    split
    · exact u16len_take_mono _ (by omega)
    · omega

/-- What `columnMapper.lineColumn` sends for a position of the text in rune columns: its
    zero-based line and the UTF-16 length of the prefix of that line as the client sees it. -/
theorem conv_pos {doc : Txt} {p : Pos} (h : posSound one doc p = true) (hd : docSmall doc = true) :
    1 ≤ p.line ∧ (m1 p.line).toNat = p.line - 1 ∧ (convChar (lines doc) p.line p.col).toNat = cc (lines doc) p ∧
    ∃ ln, (docLines doc)[p.line - 1]? = some ln ∧ p.col - 1 ≤ ln.length ∧
      cc (lines doc) p = u16len (ln.take (p.col - 1)) := by
  obtain ⟨h1, _, ln, hln, hle⟩ := posSound_iff.mp h
  obtain ⟨hn, hsm⟩ := docSmall_iff.mp hd
  rw [docLines_get, Option.map_eq_some_iff] at hln
  obtain ⟨raw, hraw, rfl⟩ := hln
  have hlt : p.line - 1 < (lines doc).length := (List.getElem?_eq_some_iff.mp hraw).1
  have hcc : cc (lines doc) p = u16len ((stripCR raw).take (p.col - 1)) := by
    simp only [cc, hraw, take_stripCR raw hle]
  refine ⟨h1, m1_toNat h1 (by omega), ?_, stripCR raw, docLines_of_lines hraw, hle, hcc⟩
  rw [convChar_toNat_some hsm h1 hraw, hcc, take_stripCR raw hle]

theorem toN_conv_sound {doc : Txt} {r : Rng} (hs : rngSound one doc r = true) (hd : docSmall doc = true) :
    toN (astRangeToProtocol (lines doc) r) =
      ⟨r.start.line - 1, cc (lines doc) r.start, r.stop.line - 1, cc (lines doc) r.stop⟩ := by
  simp only [rngSound, Bool.and_eq_true] at hs
  obtain ⟨_, a1, a2, _⟩ := conv_pos hs.1.1 hd
  obtain ⟨_, b1, b2, _⟩ := conv_pos hs.1.2 hd
  simp only [toN, astRangeToProtocol, a1, a2, b1, b2]

/-- `columnMapper.toProtocol` of a range whose ends are positions of the text in rune columns is
    a well-formed range of the document — whatever characters precede it. -/
theorem conv_rangeOK {doc : Txt} {r : Rng} (hs : rngSound one doc r = true) (hd : docSmall doc = true) :
    rangeOK doc (toN (astRangeToProtocol (lines doc) r)) = true := by
  rw [toN_conv_sound hs hd]
  simp only [rngSound, Bool.and_eq_true] at hs
  obtain ⟨a0, _, _, ln1, hl1, hc1, e1⟩ := conv_pos hs.1.1 hd
  obtain ⟨_, _, _, ln2, hl2, hc2, e2⟩ := conv_pos hs.1.2 hd
  simp only [rangeOK, Bool.and_eq_true]
  exact ⟨⟨e1 ▸ posOK_take hl1 hc1, e2 ▸ posOK_take hl2 hc2⟩, leqPos_conv a0 hs.2⟩

/-- … and the converted range covers exactly the chars between its two rune columns. -/
theorem conv_covers {doc : Txt} {r : Rng} {lex : Txt} (hl : lexSound one doc r lex = true)
    (hd : docSmall doc = true) : covers doc (toN (astRangeToProtocol (lines doc) r)) lex = true := by
  have hs := rngSound_of_lexSound hl
  rw [toN_conv_sound hs hd]
  simp only [rngSound, Bool.and_eq_true] at hs
  obtain ⟨_, h2, _, _, ln, hln, hab, hb, rfl⟩ := lexSound_iff.mp hl
  obtain ⟨_, _, _, ln1, hl1, _, e1⟩ := conv_pos hs.1.1 hd
  obtain ⟨_, _, _, ln2, hl2, _, e2⟩ := conv_pos hs.1.2 hd
  rw [← h2] at hl2
  cases hln.symm.trans hl1
  cases hln.symm.trans hl2
  rw [e1, e2, ← h2]
  exact covers_take hln hab hb

theorem node_rangeOK {doc : Txt} {j : Journal} {r : Rng}
    (ht : TreePositionsSound one doc j = true) (hd : docSmall doc = true) (hr : r ∈ nodeRanges j)
    (hg : hasEnd r = true) : rangeOK doc (toN (astRangeToProtocol (lines doc) r)) = true := by
  simp only [TreePositionsSound, List.all_eq_true, Bool.or_eq_true] at ht
  have hz : ¬ (r.stop == Pos.zero) = true := by
    intro h
    simp [hasEnd, bne, h] at hg
  exact conv_rangeOK ((ht r hr).resolve_left hz) hd

def symbolRanges (j : Journal) : List Rng :=
  j.transactions.map (·.range) ++ j.directives.map (·.range) ++ j.includes.map (·.range)

theorem documentSymbols_eq (lns : List Txt) (j : Journal) :
    documentSymbols lns j = (symbolRanges j).map (astRangeToProtocol lns) := by
  simp [documentSymbols, symbolRanges, List.map_append, Function.comp_def]

theorem tx_range_mem {j : Journal} {tx : Transaction} (h : tx ∈ j.transactions) {r : Rng}
    (hr : r ∈ txRanges tx) : r ∈ nodeRanges j := by
  simp only [nodeRanges, List.mem_append, List.mem_flatMap]
  exact Or.inl (Or.inl ⟨tx, h, hr⟩)

theorem dir_range_mem {j : Journal} {d : Directive} (h : d ∈ j.directives) {r : Rng}
    (hr : r ∈ directiveRanges d) : r ∈ nodeRanges j := by
  simp only [nodeRanges, List.mem_append, List.mem_flatMap]
  exact Or.inl (Or.inr ⟨d, h, hr⟩)

theorem inc_range_mem {j : Journal} {i : Include} (h : i ∈ j.includes) : i.range ∈ nodeRanges j := by
  simp only [nodeRanges, List.mem_append, List.mem_map]
  exact Or.inr ⟨i, h, rfl⟩

theorem posting_range_mem {j : Journal} {tx : Transaction} {p : Posting} (h : tx ∈ j.transactions)
    (hp : p ∈ tx.postings) {r : Rng} (hr : r ∈ postingRanges p) : r ∈ nodeRanges j := by
  apply tx_range_mem h
  simp only [txRanges, List.mem_append, List.mem_flatMap]
  exact Or.inr ⟨p, hp, hr⟩

theorem symbolRanges_sub (j : Journal) : ∀ r ∈ symbolRanges j, r ∈ nodeRanges j := by
  intro r hr
  simp only [symbolRanges, List.mem_append, List.mem_map] at hr
  rcases hr with (⟨tx, h, rfl⟩ | ⟨d, h, rfl⟩) | ⟨i, h, rfl⟩
  · exact tx_range_mem h (by simp [txRanges])
  · exact dir_range_mem h (by cases d <;> simp [Directive.range, directiveRanges])
  · exact inc_range_mem h

theorem postingCommodities_mem {p : Posting} {cm : Commodity} (h : cm ∈ postingCommodities p) :
    cm.range ∈ postingRanges p := by
  simp only [postingCommodities, List.mem_append] at h
  rcases h with (h | h) | h <;> split at h
  · next a ha =>
    cases List.mem_singleton.mp h
    simp [postingRanges, ha, amountRanges]
  · cases h
  · next a ha =>
    cases List.mem_singleton.mp h
    simp [postingRanges, ha, amountRanges]
  · cases h
  · next a ha =>
    cases List.mem_singleton.mp h
    simp [postingRanges, ha, amountRanges]
  · cases h

/-- A located element either was computed by column arithmetic (payee range, the two halves
    of a tag, a `nameRange`) or carries a range stored in the tree. -/
def hitNode (j : Journal) (h : Hit) : Prop := h.derived = true ∨ h.rng ∈ nodeRanges j

/-- What the features locate: the payee of a transaction of the journal, with the range
    `payeeRange` reads off its header line; or something that is no payee and whose range was
    computed by column arithmetic or is stored in the tree. -/
inductive Located (lns : List Txt) (j : Journal) : Hit → Prop
  | payee {tx : Transaction} : tx ∈ j.transactions → payeeOf tx ≠ [] →
      Located lns j ⟨.payee, payeeOf tx, payeeRange lns tx (payeeOf tx), true⟩
  | derived {h : Hit} : h.kind ≠ .payee → h.derived = true → Located lns j h
  | node {h : Hit} : h.kind ≠ .payee → h.rng ∈ nodeRanges j → Located lns j h

theorem Located.hitNode {lns : List Txt} {j : Journal} {h : Hit} (hl : Located lns j h) : hitNode j h := by
  cases hl with
  | payee => exact Or.inl rfl
  | derived _ hd => exact Or.inl hd
  | node _ hn => exact Or.inr hn

theorem Located.isPayee {lns : List Txt} {j : Journal} {h : Hit} (hl : Located lns j h) (hk : h.kind = .payee) :
    ∃ tx ∈ j.transactions, payeeOf tx ≠ [] ∧ h = ⟨.payee, payeeOf tx, payeeRange lns tx (payeeOf tx), true⟩ := by
  cases hl with
  | payee ht hne => exact ⟨_, ht, hne, rfl⟩
  | derived hnk => exact absurd hk hnk
  | node hnk => exact absurd hk hnk

theorem findTag_located {lns : List Txt} {j : Journal} {tags : List Tag} {c : Cur} {h : Hit}
    (hh : findTagAtPosition tags c = some h) : Located lns j h := by
  unfold findTagAtPosition at hh
  split at hh
  · cases hh
  · simp only at hh
    split at hh <;> cases hh <;> exact .derived (by simp) rfl

theorem hoverPosting_located {lns : List Txt} {j : Journal} {tx : Transaction} {p : Posting} {c : Cur} {h : Hit}
    (ht : tx ∈ j.transactions) (hp : p ∈ tx.postings) (hh : hoverPosting c p = some h) : Located lns j h := by
  unfold hoverPosting at hh
  split at hh
  · cases hh
    exact .node (by simp) (posting_range_mem ht hp (by simp [postingRanges]))
  · split at hh
    · next a ha =>
      split at hh
      · cases hh
        exact .node (by simp) (posting_range_mem ht hp (by simp [postingRanges, ha, amountRanges]))
      · exact findTag_located hh
    · exact findTag_located hh

theorem findElement_located {lns : List Txt} {j : Journal} {c : Cur} {h : Hit}
    (hh : findElementAtPosition lns j c = some h) : Located lns j h := by
  obtain ⟨tx, ht, htx⟩ := List.exists_of_findSome?_eq_some hh
  unfold hoverTx at htx
  split at htx
  · cases htx
    exact .node (by simp) (tx_range_mem ht (by simp [txRanges]))
  · simp only [Bool.and_eq_true, decide_eq_true_eq] at htx
    split at htx
    · next hc =>
      cases htx
      exact .payee ht hc.1
    · split at htx
      · next hf =>
        cases htx
        obtain ⟨cm, _, hcm⟩ := List.exists_of_findSome?_eq_some hf
        exact findTag_located hcm
      · obtain ⟨p, hp, hpp⟩ := List.exists_of_findSome?_eq_some htx
        exact hoverPosting_located ht hp hpp

theorem commodityAt_located {lns : List Txt} {j : Journal} {c : Cur} {cm : Commodity} {h : Hit}
    (hm : cm.range ∈ nodeRanges j) (hh : commodityAt c cm = some h) : Located lns j h := by
  unfold commodityAt at hh
  split at hh
  · cases hh
    exact .node (by simp) hm
  · cases hh

theorem directiveCommodityHit_located {lns : List Txt} {j : Journal} {d : Directive} (nm : Bytes) {cm : Commodity}
    (hd : d ∈ j.directives) (hc : cm.range ∈ directiveRanges d) :
    Located lns j (directiveCommodityHit nm cm) := by
  cases h : cm.range.stop == Pos.zero
  · refine .node (by simp [directiveCommodityHit]) ?_
    simp only [directiveCommodityHit, directiveCommodityRange, bne, h, Bool.not_false, if_true]
    exact dir_range_mem hd hc
  · exact .derived (by simp [directiveCommodityHit]) (by simp [directiveCommodityHit, h])

theorem defDirective_located {lns : List Txt} {j : Journal} {d : Directive} {c : Cur} {h : Hit}
    (hd : d ∈ j.directives) (hh : defDirective c d = some h) : Located lns j h := by
  cases d with
  | account a tags cmt sub r =>
    simp only [defDirective] at hh
    split at hh
    · cases hh
      exact .derived (by simp) rfl
    · cases hh
  | commodity cm f n sub r =>
    simp only [defDirective] at hh
    split at hh
    · cases hh
      exact directiveCommodityHit_located _ hd (by simp [directiveRanges])
    · cases hh
  | price dt cm p r =>
    simp only [defDirective] at hh
    split at hh
    · cases hh
      exact directiveCommodityHit_located _ hd (by simp [directiveRanges])
    · exact commodityAt_located (dir_range_mem hd (by simp [directiveRanges, amountRanges])) hh
  | _ => cases hh

theorem findDefinitionTarget_located {lns : List Txt} {j : Journal} {c : Cur} {h : Hit}
    (hh : findDefinitionTarget lns j c = some h) : Located lns j h := by
  unfold findDefinitionTarget findDefinitionTargetR at hh
  split at hh
  · next hf =>
    cases hh
    obtain ⟨tx, ht, htx⟩ := List.exists_of_findSome?_eq_some hf
    simp only [defTx, Bool.and_eq_true, decide_eq_true_eq] at htx
    split at htx
    · next hc =>
      cases htx
      exact .payee ht hc.1
    · obtain ⟨p, hp, hpp⟩ := List.exists_of_findSome?_eq_some htx
      unfold defPosting at hpp
      split at hpp
      · cases hpp
        exact .derived (by simp) rfl
      · obtain ⟨cm, hcm, hc⟩ := List.exists_of_findSome?_eq_some hpp
        exact commodityAt_located (posting_range_mem ht hp (postingCommodities_mem hcm)) hc
  · obtain ⟨d, hd, hdd⟩ := List.exists_of_findSome?_eq_some hh
    exact defDirective_located hd hdd

theorem payeeSymbols_located {lns : List Txt} {j : Journal} {seen : List Bytes} {txs : List Transaction} {h : Hit}
    (hs : ∀ tx ∈ txs, tx ∈ j.transactions) (hh : h ∈ payeeSymbols lns seen txs) : Located lns j h := by
  induction txs generalizing seen with
  | nil => cases hh
  | cons tx rest ih =>
    have hr : ∀ t ∈ rest, t ∈ j.transactions := fun t ht => hs t (List.mem_cons_of_mem _ ht)
    simp only [payeeSymbols, Bool.and_eq_true, decide_eq_true_eq] at hh
    split at hh
    · next hc =>
      rcases List.mem_cons.mp hh with rfl | hh
      · exact .payee (hs tx List.mem_cons_self) hc.1
      · exact ih hr hh
    · exact ih hr hh

theorem workspaceSymbolHits_located {lns : List Txt} {j : Journal} {h : Hit}
    (hh : h ∈ workspaceSymbolHits lns j) : Located lns j h := by
  simp only [workspaceSymbolHits, List.mem_append, List.mem_filterMap] at hh
  rcases hh with ⟨d, hd, hdd⟩ | hh
  · split at hdd
    · cases hdd
      exact .derived (by simp) rfl
    · cases hdd
      exact directiveCommodityHit_located _ hd (by simp [directiveRanges])
    · cases hdd
  · exact payeeSymbols_located (fun _ ht => ht) hh

theorem workspaceSymbolHits_node {lns : List Txt} {j : Journal} {h : Hit} (hh : h ∈ workspaceSymbolHits lns j) :
    hitNode j h :=
  (workspaceSymbolHits_located hh).hitNode

theorem earliest_mem {best : Option (Date × Rng)} {l : List (Date × Rng)} {x : Date × Rng}
    (h : earliest best l = some x) : best = some x ∨ x ∈ l := by
  fun_induction earliest best l with
  | case1 best => exact Or.inl h
  | case2 y ys ih =>
    rcases ih h with h1 | h1
    · exact Or.inr (by simp [Option.some.inj h1])
    · exact Or.inr (List.mem_cons_of_mem _ h1)
  | case3 b y ys _ ih =>
    rcases ih h with h1 | h1
    · exact Or.inr (by simp [Option.some.inj h1])
    · exact Or.inr (List.mem_cons_of_mem _ h1)
  | case4 b y ys _ ih =>
    rcases ih h with h1 | h1
    · exact Or.inl h1
    · exact Or.inr (List.mem_cons_of_mem _ h1)

theorem earliest_none_mem {l : List (Date × Rng)} {x : Date × Rng} (h : earliest none l = some x) : x ∈ l :=
  (earliest_mem h).resolve_left (by simp)

theorem accountUsages_mem {j : Journal} {name : Bytes} {x : Date × Rng} (h : x ∈ accountUsages j name) :
    x.2 ∈ nodeRanges j := by
  simp only [accountUsages, List.mem_flatMap, List.mem_map, List.mem_filter] at h
  obtain ⟨tx, ht, p, ⟨hp, _⟩, rfl⟩ := h
  exact posting_range_mem ht hp (by simp [postingRanges])

theorem commodityUsages_mem {j : Journal} {sym : Bytes} {x : Date × Rng} (h : x ∈ commodityUsages j sym) :
    x.2 ∈ nodeRanges j := by
  simp only [commodityUsages, List.mem_flatMap, List.mem_filterMap] at h
  obtain ⟨tx, ht, p, hp, hx⟩ := h
  split at hx
  · next a ha =>
    split at hx
    · cases hx
      exact posting_range_mem ht hp (by simp [postingRanges, ha, amountRanges])
    · cases hx
  · cases hx

theorem payeeUsages_mem {j : Journal} {payee : Bytes} {x : Date × Rng} (h : x ∈ payeeUsages j payee) :
    x.2 ∈ nodeRanges j := by
  simp only [payeeUsages, List.mem_map, List.mem_filter] at h
  obtain ⟨tx, ⟨ht, _⟩, rfl⟩ := h
  exact tx_range_mem ht (by simp [txRanges])

theorem definitionHit_mem {j : Journal} {t h : Hit} (hh : definitionHit j t = some h) :
    h.rng ∈ nodeRanges j := by
  -- a declaring directive is reported with its own range
  have dir : ∀ {F : Directive → Option Rng}, (∀ d r, F d = some r → r ∈ directiveRanges d) →
      ∀ {r}, j.directives.findSome? F = some r → r ∈ nodeRanges j := fun hF _ hf => by
    obtain ⟨d, hd, hdd⟩ := List.exists_of_findSome?_eq_some hf
    exact dir_range_mem hd (hF d _ hdd)
  unfold definitionHit at hh
  split at hh
  · split at hh
    · next r hf =>
      cases hh
      refine dir (fun d r h => ?_) hf
      cases d <;> simp only [Option.ite_none_right_eq_some, Option.some.injEq, reduceCtorEq] at h
      simp [directiveRanges, h.2]
    · obtain ⟨x, hx, rfl⟩ := Option.map_eq_some_iff.mp hh
      exact accountUsages_mem (earliest_none_mem hx)
  · split at hh
    · next r hf =>
      cases hh
      refine dir (fun d r h => ?_) hf
      cases d <;> simp only [Option.ite_none_right_eq_some, Option.some.injEq, reduceCtorEq] at h
      simp [directiveRanges, h.2]
    · obtain ⟨x, hx, rfl⟩ := Option.map_eq_some_iff.mp hh
      exact commodityUsages_mem (earliest_none_mem hx)
  · obtain ⟨x, hx, rfl⟩ := Option.map_eq_some_iff.mp hh
    exact payeeUsages_mem (earliest_none_mem hx)
  · cases hh

theorem dedupFrom_sub {α} (p : α × LRange) (l : List (α × LRange)) : ∀ x ∈ dedupFrom p l, x = p ∨ x ∈ l := by
  induction l generalizing p with
  | nil => simp [dedupFrom]
  | cons y ys ih =>
    intro x hx
    simp only [dedupFrom] at hx
    split at hx
    · exact (ih p x hx).imp_right (List.mem_cons_of_mem _)
    · rcases List.mem_cons.mp hx with h | h
      · exact Or.inl h
      · exact Or.inr (List.mem_cons.mpr ((ih y x h).imp_right id))

/-- The sort of `sortAndDedup` is the insertion sort of `HL.Hover` with the order `startLe`. -/
theorem sortStart_eq {α} (l : List (α × LRange)) : sortStart l = HL.Hover.sortBy startLe l := by
  have h : ∀ (x : α × LRange) (l : List (α × LRange)), insertLe x l = HL.Hover.insertBy startLe x l := by
    intro x l
    induction l with
    | nil => rfl
    | cons y ys ih => simp only [insertLe, HL.Hover.insertBy, ih]
  unfold sortStart HL.Hover.sortBy
  congr 1
  funext x l
  exact h x l

theorem mem_sortStart {α} (x : α × LRange) (l : List (α × LRange)) : x ∈ sortStart l ↔ x ∈ l := by
  rw [sortStart_eq]
  exact HL.Lemmas.Hover.mem_sortBy _ _ _

theorem sortAndDedup_sub {α} (l : List (α × LRange)) : ∀ x ∈ sortAndDedup l, x ∈ l := by
  intro x hx
  unfold sortAndDedup dedupAdj at hx
  split at hx
  · cases hx
  · next y ys hy =>
    apply (mem_sortStart x l).mp
    rw [hy]
    exact List.mem_cons.mpr (dedupFrom_sub y ys x hx)

theorem LRange.eq_of_beq {a b : LRange} (h : (a == b) = true) : a = b := by
  cases a
  cases b
  simp_all [BEq.beq, instBEqLRange.beq]

theorem dedupFrom_sup {α} (l : List (α × LRange)) : ∀ (p x : α × LRange), (x = p ∨ x ∈ l) →
    ∃ y ∈ dedupFrom p l, y.2 = x.2 := by
  induction l with
  | nil =>
    intro p x hx
    rcases hx with rfl | hx
    · exact ⟨x, by simp [dedupFrom], rfl⟩
    · cases hx
  | cons y rest ih =>
    intro p x hx
    simp only [dedupFrom]
    split
    · next heq =>
      have he := LRange.eq_of_beq heq
      rcases hx with rfl | hx
      · exact ih x x (Or.inl rfl)
      · rcases List.mem_cons.mp hx with rfl | hx
        · obtain ⟨z, hz, hz2⟩ := ih p p (Or.inl rfl)
          exact ⟨z, hz, by rw [hz2, he]⟩
        · exact ih p x (Or.inr hx)
    · rcases hx with rfl | hx
      · exact ⟨x, by simp, rfl⟩
      · obtain ⟨z, hz, hz2⟩ := ih y x (by simpa [List.mem_cons] using hx)
        exact ⟨z, by simp [hz], hz2⟩

/-- Nothing is lost by `sortAndDedup`: every collected location is in the response (merged with
    the locations that have the same range). -/
theorem sortAndDedup_sup {α} (l : List (α × LRange)) : ∀ x ∈ l, ∃ y ∈ sortAndDedup l, y.2 = x.2 := by
  intro x hx
  have hs := (mem_sortStart x l).mpr hx
  unfold sortAndDedup
  cases hl : sortStart l with
  | nil => rw [hl] at hs; cases hs
  | cons a rest =>
    rw [hl] at hs
    exact dedupFrom_sup rest a x (by simpa [List.mem_cons] using hs)

theorem hover_eq_some {lns : List Txt} {j : Journal} {c : Cur} {h : Hit} {x : LRange}
    (hh : hover lns j c = some (h, x)) :
    findElementAtPosition lns j (runeCur lns c) = some h ∧ x = astRangeToProtocol lns h.rng := by
  obtain ⟨h', hf, he⟩ := Option.map_eq_some_iff.mp hh
  cases he
  exact ⟨hf, rfl⟩

theorem prepareRename_eq_some {lns : List Txt} {j : Journal} {c : Cur} {h : Hit} {x : LRange}
    (hh : prepareRename lns j c = some (h, x)) :
    findDefinitionTarget lns j c = some h ∧ x = astRangeToProtocol lns h.rng := by
  obtain ⟨h', hf, he⟩ := Option.map_eq_some_iff.mp hh
  cases he
  exact ⟨hf, rfl⟩

theorem mem_definition {lns : List Txt} {j : Journal} {c : Cur} {h : Hit} {x : LRange}
    (hh : (h, x) ∈ definition lns j c) :
    ∃ t, definitionHit j t = some h ∧ x = astRangeToProtocol lns h.rng := by
  unfold definition at hh
  split at hh
  · cases hh
  · next t _ =>
    split at hh
    · cases hh
    · next h' hd =>
      cases List.mem_singleton.mp hh
      exact ⟨t, hd, rfl⟩

theorem mem_references {lns : List Txt} {j : Journal} {c : Cur} {decl : Bool} {h : Hit} {x : LRange}
    (hh : (h, x) ∈ references lns j c decl) :
    ∃ t, findDefinitionTarget lns j c = some t ∧ h ∈ referenceHits lns j t decl ∧
      x = astRangeToProtocol lns h.rng := by
  unfold references at hh
  split at hh
  · cases hh
  · next t ht =>
    obtain ⟨h', hm, he⟩ := List.mem_map.mp (sortAndDedup_sub _ _ hh)
    cases he
    exact ⟨t, ht, hm, rfl⟩

theorem mem_workspaceSymbols {lns : List Txt} {j : Journal} {h : Hit} {x : LRange}
    (hh : (h, x) ∈ workspaceSymbols lns j) :
    h ∈ workspaceSymbolHits lns j ∧ x = astRangeToProtocol lns h.rng := by
  obtain ⟨h', hm, he⟩ := List.mem_map.mp hh
  cases he
  exact ⟨hm, rfl⟩

theorem referenceHits_node {lns : List Txt} {j : Journal} {t : Hit} {decl : Bool} {h : Hit}
    (hh : h ∈ referenceHits lns j t decl) : hitNode j h := by
  unfold referenceHits at hh
  split at hh
  · simp only [List.mem_append, List.mem_flatMap, List.mem_map, List.mem_filter] at hh
    rcases hh with hh | ⟨tx, ht, p, ⟨hp, _⟩, rfl⟩
    · split at hh
      · obtain ⟨d, hd, hdd⟩ := List.mem_filterMap.mp hh
        split at hdd
        · split at hdd
          · cases hdd
            exact Or.inl rfl
          · cases hdd
        · cases hdd
      · cases hh
    · exact Or.inl rfl
  · simp only [List.mem_append, List.mem_flatMap, List.mem_map, List.mem_filter] at hh
    rcases hh with ⟨d, hd, hdd⟩ | ⟨tx, ht, p, hp, cm, ⟨hcm, _⟩, rfl⟩
    · cases d with
      | commodity cm f n sub r =>
        simp only [commodityRefDirective] at hdd
        split at hdd
        · cases List.mem_singleton.mp hdd
          exact (directiveCommodityHit_located (lns := lns) _ hd (by simp [directiveRanges])).hitNode
        · cases hdd
      | price dt cm p r =>
        simp only [commodityRefDirective, List.mem_append] at hdd
        rcases hdd with hdd | hdd <;> split at hdd
        · cases List.mem_singleton.mp hdd
          exact (directiveCommodityHit_located (lns := lns) _ hd (by simp [directiveRanges])).hitNode
        · cases hdd
        · cases List.mem_singleton.mp hdd
          exact Or.inr (dir_range_mem hd (by simp [directiveRanges, amountRanges]))
        · cases hdd
      | _ => cases hdd
    · exact Or.inr (posting_range_mem ht hp (postingCommodities_mem hcm))
  · obtain ⟨tx, _, rfl⟩ := List.mem_map.mp hh
    exact Or.inl rfl
  · cases hh

theorem referenceHits_payee {lns : List Txt} {j : Journal} {t : Hit} {decl : Bool} {h : Hit}
    (hk : t.kind = .payee) (hne : t.name ≠ []) (hh : h ∈ referenceHits lns j t decl) :
    Located lns j h ∧ h.kind = .payee ∧ h.name = t.name := by
  unfold referenceHits at hh
  simp only [hk, List.mem_map, List.mem_filter, beq_iff_eq] at hh
  obtain ⟨tx, ⟨ht, hp⟩, rfl⟩ := hh
  refine ⟨?_, rfl, rfl⟩
  rw [← hp] at hne ⊢
  exact .payee ht hne

/-- Guard of a located element.  Payee ranges, the two halves of a tag and the `nameRange`s of
    definition / references / rename / workspace symbols are computed by column arithmetic, not
    stored in the tree: the guard asks that the computed rune columns be positions of the text
    (for a payee it holds on every header of the grammar: `HL.Props.C08.payeeRange_lexSound`;
    it failed under the estimate of the tree as pinned whenever a code, a secondary date or
    extra blanks preceded the payee).  The
    commodity of a `commodity` / `P` directive carries the range stored in the tree when the
    parser recorded its End (fix-quoted-commodity-directive.diff), and is computed from the symbol
    otherwise.  Every other element carries a range of the tree and only needs an End.  Nothing is asked about the characters that
    precede the range. -/
def hitGuard (doc : Txt) (h : Hit) : Bool :=
  if h.derived then rngSound one doc h.rng else hasEnd h.rng

theorem hit_rangeOK {doc : Txt} {j : Journal} {h : Hit}
    (ht : TreePositionsSound one doc j = true) (hd : docSmall doc = true) (hn : hitNode j h)
    (hg : hitGuard doc h = true) : rangeOK doc (toN (astRangeToProtocol (lines doc) h.rng)) = true := by
  unfold hitGuard at hg
  split at hg
  · exact conv_rangeOK hg hd
  · next hdv => exact node_rangeOK ht hd (hn.resolve_left hdv) hg

theorem allPairs_map {α β} {rel : α → α → Bool} {rel' : β → β → Bool} (f : α → β) (l : List α)
    (h : ∀ a ∈ l, ∀ b ∈ l, rel a b = true → rel' (f a) (f b) = true)
    (hl : allPairs rel l = true) : allPairs rel' (l.map f) = true := by
  induction l with
  | nil => rfl
  | cons a rest ih =>
    simp only [allPairs, Bool.and_eq_true, List.all_eq_true, List.map_cons, List.mem_map] at hl ⊢
    refine ⟨?_, ih (fun x hx y hy => h x (by simp [hx]) y (by simp [hy])) hl.2⟩
    rintro _ ⟨b, hb, rfl⟩
    exact h a (by simp) b (by simp [hb]) (hl.1 b hb)

theorem allPairs_filterMap {α β} {rel : α → α → Bool} {rel' : β → β → Bool} (f : α → Option β) (l : List α)
    (h : ∀ a ∈ l, ∀ b ∈ l, rel a b = true → ∀ x, f a = some x → ∀ y, f b = some y → rel' x y = true)
    (hl : allPairs rel l = true) : allPairs rel' (l.filterMap f) = true := by
  induction l with
  | nil => rfl
  | cons a rest ih =>
    simp only [allPairs, Bool.and_eq_true, List.all_eq_true] at hl
    have ih' := ih (fun x hx y hy => h x (by simp [hx]) y (by simp [hy])) hl.2
    simp only [List.filterMap_cons]
    cases hfa : f a with
    | none => simpa using ih'
    | some x =>
      simp only [allPairs, Bool.and_eq_true, List.all_eq_true, List.mem_filterMap]
      refine ⟨?_, ih'⟩
      rintro y ⟨b, hb, hfb⟩
      exact h a (by simp) b (by simp [hb]) (hl.1 b hb) x hfa y hfb

/-- Half-open position ranges of the tree that do not overlap. -/
def astDisjoint (a b : Rng) : Bool := posLe a.stop b.start || posLe b.stop a.start

/-- The conversion is monotone on every line, whatever the text: ranges that do not overlap in
    the tree do not overlap on the wire. -/
theorem symRel_conv {lns : List Txt} {a b : Rng} (hs : linesSmall lns) (ha : rngSmall a = true)
    (hb : rngSmall b = true) (pa : rngPos a = true) (pb : rngPos b = true) (h : astDisjoint a b = true) :
    symRel (toN (astRangeToProtocol lns a)) (toN (astRangeToProtocol lns b)) = true := by
  rw [toN_conv hs ha pa, toN_conv hs hb pb]
  simp only [rngPos, Bool.and_eq_true, decide_eq_true_eq] at pa pb
  simp only [astDisjoint, Bool.or_eq_true] at h
  simp only [symRel, Bool.or_eq_true]
  rcases h with h | h
  · exact Or.inl (Or.inl (Or.inl (leqPos_conv pa.1.2 h)))
  · exact Or.inl (Or.inl (Or.inr (leqPos_conv pb.1.2 h)))

/-- The last line of a transaction's fold region: the line before the one of the token that
    follows the transaction; with fix-fold-ranges.diff one line less when that token starts its
    line. -/
def foldEnd (fx : Fixes) (t : Transaction) : Nat :=
  t.range.stop.line - 1 - (if fx.fold && t.range.stop.col == 1 then 1 else 0)

theorem txFold_spec {fx : Fixes} {t : Transaction} {f : Fold} (st : rngSmall t.range = true)
    (pt : rngPos t.range = true) (hf : txFold fx t = some f) :
    f.s.toNat = t.range.start.line - 1 ∧ f.e.toNat = foldEnd fx t ∧ f.s.toNat < f.e.toNat := by
  simp only [rngSmall, rngPos, Bool.and_eq_true, decide_eq_true_eq] at st pt
  have e1 := m1_toNat pt.1.1.1 st.1.1.1
  have e2 := m1_toNat pt.1.2 st.1.2
  unfold txFold at hf
  split at hf
  · cases hf
  · simp only at hf
    split at hf
    · next hc =>
      simp only [Bool.and_eq_true, decide_eq_true_eq, beq_iff_eq] at hc
      have hlt := UInt32.lt_iff_toNat_lt.mp hc.2
      have h1 : (1 : UInt32) ≤ m1 t.range.stop.line := by
        rw [UInt32.le_iff_toNat_le]
        simp only [UInt32.toNat_one]
        omega
      have hpred : (m1 t.range.stop.line - 1).toNat = t.range.stop.line - 1 - 1 := by
        rw [UInt32.toNat_sub_of_le _ _ h1, e2]
        rfl
      split at hf
      · next hgt =>
        cases hf
        have := UInt32.lt_iff_toNat_lt.mp hgt
        simp only [foldEnd, hc.1.1, hc.1.2, Bool.and_self, beq_self_eq_true, if_true, hpred, e1] at this ⊢
        exact ⟨trivial, trivial, this⟩
      · cases hf
    · next hc =>
      split at hf
      · next hgt =>
        cases hf
        have hlt := UInt32.lt_iff_toNat_lt.mp hgt
        have h0 : (fx.fold && t.range.stop.col == 1) = false := by
          cases h : (fx.fold && t.range.stop.col == 1)
          · rfl
          · exact absurd (by simp [h, hgt]) hc
        simp only [foldEnd, h0, Bool.false_eq_true, if_false, e1, e2, Nat.sub_zero] at hlt ⊢
        exact ⟨trivial, trivial, hlt⟩
      · cases hf

theorem indexOf_spec {pat s : Txt} {i p : Nat} (h : indexOf pat s i = some p) :
    i ≤ p ∧ p - i + pat.length ≤ s.length ∧ (s.drop (p - i)).take pat.length = pat := by
  induction s generalizing i with
  | nil =>
    simp only [indexOf] at h
    split at h
    · next he =>
      cases h
      have : pat = [] := by simpa using he
      subst this
      simp
    · cases h
  | cons c r ih =>
    simp only [indexOf] at h
    split at h
    · next hp =>
      cases h
      obtain ⟨t, ht⟩ := List.isPrefixOf_iff_prefix.mp hp
      refine ⟨Nat.le_refl _, ?_, ?_⟩
      · have := congrArg List.length ht
        simp at this
        simp
        omega
      · simp only [Nat.sub_self, List.drop_zero]
        rw [← ht]
        simp
    · obtain ⟨h1, h2, h3⟩ := ih h
      refine ⟨by omega, by simp; omega, ?_⟩
      rw [show p - i = (p - (i + 1)) + 1 by omega, List.drop_succ_cons]
      exact h3

def foldIn (n : Nat) (f : Fold) : Prop := ∃ s e, f.s = UInt32.ofNat s ∧ f.e = UInt32.ofNat e ∧ s < e ∧ e < n

theorem indentedEnd_bound (rest : List Txt) (j e : Nat) (he : e < j) :
    indentedEnd rest j e < j + rest.length := by
  induction rest generalizing j e with
  | nil => simpa [indentedEnd] using he
  | cons n rest ih =>
    simp only [indentedEnd, List.length_cons]
    split
    · split
      · have := ih (j + 1) j (by omega)
        omega
      · have := ih (j + 1) e (by omega)
        omega
    · omega

theorem directiveFoldsFrom_in (fx : Fixes) (ls : List Txt) (i : Nat) :
    ∀ f ∈ directiveFoldsFrom fx ls i, foldIn (i + ls.length) f := by
  induction ls generalizing i with
  | nil => simp [directiveFoldsFrom]
  | cons l rest ih =>
    intro f hf
    simp only [directiveFoldsFrom, List.mem_append] at hf
    rcases hf with hf | hf
    · split at hf
      · split at hf
        · next hgt =>
          cases List.mem_singleton.mp hf
          have := indentedEnd_bound rest (i + 1) i (by omega)
          exact ⟨i, indentedEnd rest (i + 1) i, rfl, rfl, hgt, by simp only [List.length_cons]; omega⟩
        · cases hf
      · cases hf
    · obtain ⟨s, e, h1, h2, h3, h4⟩ := ih (i + 1) f hf
      exact ⟨s, e, h1, h2, h3, by simp only [List.length_cons]; omega⟩

theorem closeBlock_in {start : Option (Nat × Bool)} {i n : Nat} (hi : i ≤ n) :
    ∀ f ∈ closeBlock start i, foldIn n f := by
  intro f hf
  unfold closeBlock at hf
  split at hf
  · next s cls =>
    split at hf
    · next hgt =>
      cases List.mem_singleton.mp hf
      exact ⟨s, i - 1, rfl, rfl, hgt, by omega⟩
    · cases hf
  · cases hf

theorem commentFoldsFrom_in (fx : Fixes) (ls : List Txt) (i : Nat) (start : Option (Nat × Bool)) :
    ∀ f ∈ commentFoldsFrom fx ls i start, foldIn (i + ls.length) f := by
  induction ls generalizing i start with
  | nil =>
    intro f hf
    exact closeBlock_in (Nat.le_add_right _ _) f hf
  | cons l rest ih =>
    intro f hf
    have hlen : i + 1 + rest.length = i + (l :: rest).length := by simp only [List.length_cons]; omega
    have hclose : ∀ f ∈ closeBlock start i, foldIn (i + (l :: rest).length) f :=
      closeBlock_in (Nat.le_add_right _ _)
    simp only [commentFoldsFrom] at hf
    split at hf
    · split at hf
      · exact hlen ▸ ih _ _ f hf
      · split at hf
        · rcases List.mem_append.mp hf with hf | hf
          · exact hclose f hf
          · exact hlen ▸ ih _ _ f hf
        · exact hlen ▸ ih _ _ f hf
    · rcases List.mem_append.mp hf with hf | hf
      · exact hclose f hf
      · exact hlen ▸ ih _ _ f hf

end HL.Lemmas.Ranges
