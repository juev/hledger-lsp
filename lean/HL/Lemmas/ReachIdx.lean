/-
  Reachability: the queue loop of `computeReachableLocked` (`bfsF`) computes exactly the
  nodes reachable along the graph's edges, given the fuel `bfsFuel` (termination: the
  potential `queue length + Σ (out-degree + 1) over unvisited nodes` strictly decreases).
-/
import HL.Lemmas.AList
import HL.Spec.Rebuild
import HL.Model.Workspace
namespace HL.Lemmas.ReachIdx
open HL.Index HL.Workspace HL.Lemmas.AList HL.Spec.Rebuild

/-- successor function of an association-list graph -/
def succG (g : AList (List String)) (p : String) : List String := g.getD p []

theorem reachS_mono {s₁ s₂ : String → List String} {root x : String}
    (h : ReachS s₁ root x) (hs : ∀ p, ReachS s₁ root p → ∀ q, q ∈ s₁ p → q ∈ s₂ p) :
    ReachS s₂ root x := by
  induction h with
  | base => exact .base
  | step hp hq ih => exact .step ih (hs _ hp _ hq)

theorem reachS_congr {s₁ s₂ : String → List String} {root x : String}
    (h : ReachS s₁ root x) (hs : ∀ p, s₁ p = s₂ p) : ReachS s₂ root x :=
  reachS_mono h (fun p _ _ hq => hs p ▸ hq)

theorem reachS_trans {s : String → List String} {a b c : String}
    (h₁ : ReachS s a b) (h₂ : ReachS s b c) : ReachS s a c := by
  induction h₂ with
  | base => exact h₁
  | step _ hq ih => exact .step ih hq

theorem bfsF_inv (g : AList (List String)) {I : List String → List String → Prop}
    (hskip : ∀ p q r, p ∈ r → I (p :: q) r → I q r)
    (hvisit : ∀ p q r, p ∉ r → I (p :: q) r →
      I (q ++ (g.getD p []).filter fun inc => inc ∉ p :: r) (r ++ [p])) :
    ∀ (n : Nat) (q r : List String), I q r → ∃ q', I q' (bfsF g n q r) := by
  intro n
  induction n with
  | zero => exact fun q r h => ⟨q, h⟩
  | succ n ih =>
    intro q r h
    cases q with
    | nil => exact ⟨[], h⟩
    | cons p q =>
      rw [bfsF]
      by_cases hp : p ∈ r
      · rw [if_pos hp]; exact ih q r (hskip p q r hp h)
      · rw [if_neg hp]; exact ih _ _ (hvisit p q r hp h)

theorem bfsF_sound (g : AList (List String)) (root : String) (n : Nat) (q r : List String)
    (hq : ∀ x ∈ q, ReachS (succG g) root x) (hr : ∀ x ∈ r, ReachS (succG g) root x) :
    ∀ x ∈ bfsF g n q r, ReachS (succG g) root x := by
  obtain ⟨_, _, h⟩ := bfsF_inv g
    (I := fun q r => (∀ x ∈ q, ReachS (succG g) root x) ∧ ∀ x ∈ r, ReachS (succG g) root x)
    (fun p q r _ h => ⟨fun y hy => h.1 y (List.mem_cons_of_mem _ hy), h.2⟩)
    (fun p q r _ h => by
      have hp := h.1 p List.mem_cons_self
      refine ⟨fun y hy => ?_, fun y hy => ?_⟩
      · rcases List.mem_append.mp hy with hy | hy
        · exact h.1 y (List.mem_cons_of_mem _ hy)
        · exact .step hp (List.mem_filter.mp hy).1
      · rcases List.mem_append.mp hy with hy | hy
        · exact h.2 y hy
        · exact List.mem_singleton.mp hy ▸ hp) n q r ⟨hq, hr⟩
  exact h

theorem bfsF_nodup (g : AList (List String)) (n : Nat) (q r : List String) (h : r.Nodup) :
    (bfsF g n q r).Nodup := by
  obtain ⟨_, h'⟩ := bfsF_inv g (I := fun _ r => r.Nodup) (fun _ _ _ _ h => h)
    (fun _ _ _ hp h => nodup_concat h hp) n q r h
  exact h'

/-- out-degrees (+1) of the nodes not yet visited -/
def rest (g : AList (List String)) (r : List String) : Nat :=
  ((g.filter fun e => e.1 ∉ r).map fun e => e.2.length + 1).sum

theorem rest_cons (k : String) (l : List String) (g : AList (List String)) (r : List String) :
    rest ((k, l) :: g) r = (if k ∈ r then 0 else l.length + 1) + rest g r := by
  unfold rest
  by_cases h : k ∈ r <;> simp [h]

theorem rest_visit (g : AList (List String)) (r : List String) (p : String) (hp : p ∉ r) :
    rest g (r ++ [p]) + (AList.getD g p []).length ≤ rest g r := by
  induction g with
  | nil => simp [rest, AList.getD]
  | cons e g ih =>
    obtain ⟨k, l⟩ := e
    rw [rest_cons, rest_cons]
    by_cases hk : k = p
    · subst hk
      have e1 : AList.getD ((k, l) :: g) k [] = l := by simp [AList.getD, get_cons]
      rw [e1]
      have hm : k ∈ r ++ [k] := by simp
      simp only [hm, if_true]
      simp only [hp, if_false]; omega
    · have e1 : AList.getD ((k, l) :: g) p [] = AList.getD g p [] := by
        simp [AList.getD, get_cons, hk]
      rw [e1]
      by_cases hr : k ∈ r
      · have hm : k ∈ r ++ [p] := List.mem_append_left _ hr
        simp only [hr, hm, if_true]; omega
      · have hm : k ∉ r ++ [p] := by simp [hr, hk]
        simp only [hr, hm, if_false]; omega

/-- every edge out of a visited node leads to a visited or queued node -/
def Explored (g : AList (List String)) (r q : List String) : Prop :=
  ∀ u ∈ r, ∀ v ∈ succG g u, v ∈ r ∨ v ∈ q

theorem bfsF_complete (g : AList (List String)) :
    ∀ (n : Nat) (q r : List String), q.length + rest g r < n → Explored g r q →
      (∀ x ∈ r, x ∈ bfsF g n q r) ∧ (∀ x ∈ q, x ∈ bfsF g n q r) ∧ Explored g (bfsF g n q r) [] := by
  intro n
  induction n with
  | zero => intro q r h; omega
  | succ n ih =>
    intro q r hfuel hcl
    cases q with
    | nil =>
      simp only [bfsF]
      exact ⟨fun x hx => hx, fun x hx => by simp at hx, hcl⟩
    | cons p q =>
      unfold bfsF
      by_cases hp : p ∈ r
      · simp only [hp, if_true]
        have hcl' : Explored g r q := by
          intro u hu v hv
          rcases hcl u hu v hv with h | h
          · exact Or.inl h
          · rcases List.mem_cons.mp h with h | h
            · exact Or.inl (h ▸ hp)
            · exact Or.inr h
        obtain ⟨h1, h2, h3⟩ := ih q r (by simp only [List.length_cons] at hfuel; omega) hcl'
        refine ⟨h1, ?_, h3⟩
        intro x hx
        rcases List.mem_cons.mp hx with hx | hx
        · exact hx ▸ h1 p hp
        · exact h2 x hx
      · simp only [hp, if_false]
        have hcl' : Explored g (r ++ [p]) (q ++ (g.getD p []).filter fun inc => inc ∉ p :: r) := by
          intro u hu v hv
          rcases List.mem_append.mp hu with hu | hu
          · rcases hcl u hu v hv with h | h
            · exact Or.inl (List.mem_append_left _ h)
            · rcases List.mem_cons.mp h with h | h
              · exact Or.inl (List.mem_append_right _ (by simp [h]))
              · exact Or.inr (List.mem_append_left _ h)
          · simp only [List.mem_singleton] at hu
            subst hu
            by_cases hv2 : v ∈ u :: r
            · rcases List.mem_cons.mp hv2 with h | h
              · exact Or.inl (List.mem_append_right _ (by simp [h]))
              · exact Or.inl (List.mem_append_left _ h)
            · exact Or.inr (List.mem_append_right _ (List.mem_filter.mpr ⟨hv, by simpa using hv2⟩))
        have hlen : ((g.getD p []).filter fun inc => inc ∉ p :: r).length ≤ (g.getD p []).length :=
          List.length_filter_le _ _
        have hrest := rest_visit g r p hp
        obtain ⟨h1, h2, h3⟩ := ih _ _ (by
          simp only [List.length_cons, List.length_append] at hfuel ⊢; omega) hcl'
        refine ⟨fun x hx => h1 x (List.mem_append_left _ hx), ?_, h3⟩
        intro x hx
        rcases List.mem_cons.mp hx with hx | hx
        · exact hx ▸ h1 p (List.mem_append_right _ (by simp))
        · exact h2 x (List.mem_append_left _ hx)

theorem rest_nil (g : AList (List String)) : rest g [] + 2 = bfsFuel g := by
  have : (g.filter fun e => e.1 ∉ ([] : List String)) = g := by
    rw [List.filter_eq_self]; intro a _; simp
  unfold rest bfsFuel
  rw [this]

/-- `computeReachableLocked` returns exactly the reachable nodes. -/
theorem mem_bfs_iff (g : AList (List String)) (root x : String) :
    x ∈ bfsF g (bfsFuel g) [root] [] ↔ ReachS (succG g) root x := by
  constructor
  · intro hx
    exact bfsF_sound g root _ [root] [] (fun y hy => by simp at hy; exact hy ▸ .base)
      (fun y hy => by simp at hy) x hx
  · intro hx
    obtain ⟨_, h2, h3⟩ := bfsF_complete g (bfsFuel g) [root] []
      (by have := rest_nil g; simp only [List.length_cons, List.length_nil]; omega)
      (fun u hu => by simp at hu)
    induction hx with
    | base => exact h2 root (by simp)
    | step _ hq ih =>
      rcases h3 _ ih _ hq with h | h
      · exact h
      · simp at h

theorem getD_graphOf (fs : FS) (p : String) : (graphOf fs).getD p [] = succs fs p := by
  induction fs with
  | nil => simp [graphOf, AList.getD, succs]
  | cons e r ih =>
    obtain ⟨k, c⟩ := e
    simp only [graphOf, List.map_cons, AList.getD, get_cons, succs] at *
    by_cases h : k = p
    · simp [h]
    · simp only [h, if_false]; exact ih

theorem mem_reach_iff (fs : FS) (root x : String) : x ∈ reach fs root ↔ Reach fs root x := by
  unfold reach
  rw [mem_bfs_iff]
  constructor
  · intro h; exact reachS_congr h (fun p => by simp [succG, getD_graphOf])
  · intro h; exact reachS_congr h (fun p => by simp [succG, getD_graphOf])

end HL.Lemmas.ReachIdx
