import HL.Model.Parser
import HL.Lemmas.LexExtentTok
import HL.Spec.GCore
/-!
  What the parser's string helpers make of the lexemes of `GCore` (for digit strings of every
  length):

    atoi_digits        `strconv.Atoi` on up to 18 digits is their value
    splitDate, firstSepDate   `Y-M-D` splits at its two hyphens
    qty_int, qty_frac  `normalizeNumber` leaves `[-] digits [. digits]` alone (side condition A
                       of DESIGN 4.3 is the hypothesis) and `decimal.NewFromString` reads it as
                       all its digits times ten to minus the number of decimals
-/
namespace HL.GCore
open HL HL.PStr HL.Parser

theorem digB_facts : ∀ c : UInt8, (!isDigitB c ||
    (isDigitByte c && c != 0x2D && c != 0x2B && c != 0x2E && c != 0x2C && c != 0x45 && c != 0x65 && c != 0x20 &&
     c != 0x2F && decide (c.toNat - 0x30 ≤ 9))) = true :=
  HL.Lex.forall_uint8 _ (by decide +kernel)

def Digits (s : Bytes) : Prop := ∀ c ∈ s, isDigitB c = true

structure DigitByteFacts (c : UInt8) : Prop where
  digit : isDigitByte c = true
  noMinus : c ≠ 0x2D
  noPlus : c ≠ 0x2B
  noDot : c ≠ 0x2E
  noComma : c ≠ 0x2C
  noE : c ≠ 0x45
  noe : c ≠ 0x65
  noBlank : c ≠ 0x20
  noSlash : c ≠ 0x2F
  val : c.toNat - 0x30 ≤ 9

theorem Digits.facts {s : Bytes} (h : Digits s) {c : UInt8} (hc : c ∈ s) : DigitByteFacts c := by
  have := digB_facts c
  simp only [h c hc, Bool.not_true, Bool.false_or, Bool.and_eq_true, bne_iff_ne, ne_eq, decide_eq_true_eq] at this
  obtain ⟨⟨⟨⟨⟨⟨⟨⟨⟨h0, h1⟩, h2⟩, h3⟩, h4⟩, h5⟩, h6⟩, h7⟩, h8⟩, h9⟩ := this
  exact ⟨h0, h1, h2, h3, h4, h5, h6, h7, h8, h9⟩

theorem Digits.append {a b : Bytes} (ha : Digits a) (hb : Digits b) : Digits (a ++ b) := by
  intro c hc; rcases List.mem_append.mp hc with h | h
  · exact ha c h
  · exact hb c h

theorem digitsNat_eq (s : Bytes) : digitsNat s = digitsVal s := rfl

theorem foldl_digits_lt (s : Bytes) (h : Digits s) : ∀ acc : Nat,
    s.foldl (fun a c => a * 10 + (c.toNat - 0x30)) acc < (acc + 1) * 10 ^ s.length := by
  induction s with
  | nil => intro acc; simp
  | cons c s ih =>
    intro acc
    have hc := (Digits.facts h (c := c) (by simp)).val
    have := ih (fun x hx => h x (by simp [hx])) (acc * 10 + (c.toNat - 0x30))
    simp only [List.foldl_cons, List.length_cons]
    refine Nat.lt_of_lt_of_le this ?_
    rw [Nat.pow_succ, Nat.mul_comm (10 ^ s.length) 10, ← Nat.mul_assoc]
    exact Nat.mul_le_mul_right _ (by omega)

theorem digitsVal_lt (s : Bytes) (h : Digits s) : digitsVal s < 10 ^ s.length := by
  have := foldl_digits_lt s h 0
  simpa [digitsVal] using this

theorem signedDigits_digits (s : Bytes) (h : Digits s) (hne : s ≠ []) :
    signedDigits s = some (digitsVal s : Int) := by
  obtain ⟨c, t, rfl⟩ := List.exists_cons_of_ne_nil hne
  have hc := Digits.facts h (c := c) (by simp)
  have hall : (c :: t).all isDigitByte = true := by
    simp only [List.all_eq_true]; intro x hx; exact (Digits.facts h hx).digit
  unfold signedDigits
  split
  rename_i x neg ds heq
  split at heq
  · rename_i r h'; exact absurd (List.cons.inj h').1 hc.noMinus
  · rename_i r h'; exact absurd (List.cons.inj h').1 hc.noPlus
  · cases heq; simp [hall]

theorem signedDigits_minus (s : Bytes) (h : Digits s) (hne : s ≠ []) :
    signedDigits (0x2D :: s) = some (-(digitsVal s : Int)) := by
  have hall : s.all isDigitByte = true := by
    simp only [List.all_eq_true]; intro x hx; exact (Digits.facts h hx).digit
  unfold signedDigits
  split
  rename_i x neg ds heq
  split at heq
  · rename_i r h'; cases heq; cases h'; simp [hall, hne]
  · rename_i r h'; cases h'
  · rename_i r h1 h2; exact absurd rfl (h1 s)

theorem atoi_digits (s : Bytes) (h : Digits s) (hne : s ≠ []) (hl : s.length ≤ 18) :
    atoi s = some (digitsNat s : Int) := by
  unfold atoi parseIntBits
  rw [signedDigits_digits s h hne, digitsNat_eq]
  have h1 := digitsVal_lt s h
  have h2 : 10 ^ s.length ≤ 10 ^ 18 := Nat.pow_le_pow_right (by decide) hl
  have h3 : (10 : Nat) ^ 18 < 2 ^ 63 := by decide
  have h4 : ((digitsVal s : Nat) : Int) ≤ (2 : Int) ^ 63 - 1 := by
    have : digitsVal s < 2 ^ 63 := by omega
    have h5 : ((2 : Nat) ^ 63 : Nat) = ((2 : Int) ^ 63) := by norm_cast
    omega
  have h6 : -((2 : Int) ^ 63) ≤ ((digitsVal s : Nat) : Int) := by
    have : (0 : Int) ≤ (2 : Int) ^ 63 := by decide
    omega
  have h7 : ((digitsVal s : Nat) : Int) ≤ 9223372036854775807 := by omega
  have h8 : (-9223372036854775808 : Int) ≤ ((digitsVal s : Nat) : Int) := by omega
  simp [h7, h8]

theorem splitGo_nosep (sep : UInt8) (a : Bytes) (h : sep ∉ a) : ∀ (rest cur : Bytes),
    splitByte.go sep (a ++ rest) cur = splitByte.go sep rest (a.reverse ++ cur) := by
  induction a with
  | nil => intro rest cur; rfl
  | cons c a ih =>
    intro rest cur
    simp only [List.mem_cons, not_or] at h
    have hc : ¬ c = sep := fun h' => h.1 h'.symm
    simp only [List.cons_append, splitByte.go, hc, if_false, ih h.2, List.reverse_cons, List.append_assoc,
      List.cons_append, List.nil_append]

theorem splitDate (y m d : Bytes) (hy : Digits y) (hm : Digits m) (hd : Digits d) :
    splitByte (y ++ 0x2D :: m ++ 0x2D :: d) 0x2D = [y, m, d] := by
  have ns : ∀ s, Digits s → (0x2D : UInt8) ∉ s := fun s hs hmem => (Digits.facts hs hmem).noMinus rfl
  unfold splitByte
  have e : y ++ 0x2D :: m ++ 0x2D :: d = y ++ (0x2D :: (m ++ (0x2D :: (d ++ [])))) := by simp
  rw [e, splitGo_nosep _ y (ns y hy)]
  simp only [splitByte.go, if_true, List.append_nil, List.reverse_reverse]
  rw [splitGo_nosep _ m (ns m hm)]
  simp only [splitByte.go, if_true, List.append_nil, List.reverse_reverse]
  have := splitGo_nosep 0x2D d (ns d hd) [] []
  simp only [List.append_nil] at this
  rw [this]
  simp [splitByte.go]

theorem firstSepDate (y rest : Bytes) (hy : Digits y) : firstSep (y ++ 0x2D :: rest) = 0x2D := by
  unfold firstSep
  have : (y ++ 0x2D :: rest).find? (fun c => c = 0x2D || c = 0x2F || c = 0x2E) = some 0x2D := by
    induction y with
    | nil => simp
    | cons c y ih =>
      have hc := Digits.facts hy (c := c) (by simp)
      simp only [List.cons_append, List.find?_cons]
      have : (decide (c = 0x2D) || decide (c = 0x2F) || decide (c = 0x2E)) = false := by
        simp [hc.noMinus, hc.noDot, hc.noSlash]
      rw [this]
      exact ih (fun x hx => hy x (by simp [hx]))
  rw [this]

theorem countMarks_nomark (s : Bytes) (h : ∀ c ∈ s, c ≠ 0x2E ∧ c ≠ 0x2C) (i : Nat) (acc : Nat × Nat × Nat × Nat) :
    countMarks s i acc = acc := by
  induction s generalizing i acc with
  | nil => rfl
  | cons c s ih =>
    obtain ⟨a, b, c', d⟩ := acc
    have hc := h c (by simp)
    simp only [countMarks, hc.1, hc.2, if_false]
    exact ih (fun x hx => h x (by simp [hx])) _ _

theorem countMarks_dot (a f : Bytes) (ha : ∀ c ∈ a, c ≠ 0x2E ∧ c ≠ 0x2C) (hf : ∀ c ∈ f, c ≠ 0x2E ∧ c ≠ 0x2C) :
    ∀ (i : Nat), countMarks (a ++ 0x2E :: f) i (0, 0, 0, 0) = (1, 0, i + a.length, 0) := by
  induction a with
  | nil =>
    intro i
    simp only [List.nil_append, countMarks, if_true, List.length_nil, Nat.add_zero]
    exact countMarks_nomark f hf _ _
  | cons c a ih =>
    intro i
    have hc := ha c (by simp)
    simp only [List.cons_append, countMarks, hc.1, hc.2, if_false, List.length_cons]
    rw [ih (fun x hx => ha x (by simp [hx]))]
    simp only [Prod.mk.injEq, true_and, and_true]
    omega

theorem indexE_none (s : Bytes) (h : ∀ c ∈ s, c ≠ 0x45 ∧ c ≠ 0x65) (i : Nat) : indexE s i = none := by
  induction s generalizing i with
  | nil => rfl
  | cons c s ih =>
    have hc := h c (by simp)
    simp only [indexE, hc.1, hc.2, or_self, if_false]
    exact ih (fun x hx => h x (by simp [hx])) _

def sgn (neg : Bool) : Bytes := if neg then [0x2D] else []

theorem sgn_facts (neg : Bool) {c : UInt8} (hc : c ∈ sgn neg) :
    c = 0x2D := by
  cases neg <;> simp [sgn] at hc; exact hc

theorem sgnDigits_plain (neg : Bool) {s : Bytes} (h : Digits s) :
    ∀ c ∈ sgn neg ++ s, c ≠ 0x20 ∧ c ≠ 0x2E ∧ c ≠ 0x2C ∧ c ≠ 0x45 ∧ c ≠ 0x65 := by
  intro c hc
  rcases List.mem_append.mp hc with h' | h'
  · rw [sgn_facts neg h']; decide
  · have := Digits.facts h h'
    exact ⟨this.noBlank, this.noDot, this.noComma, this.noE, this.noe⟩

theorem dropBlanks_id (s : Bytes) (h : ∀ c ∈ s, c ≠ 0x20) : dropBlanks s = s :=
  List.filter_eq_self.mpr fun c hc => by simpa using h c hc

theorem qty_int (neg : Bool) (int : Bytes) (hi : Digits int) (hne : int ≠ []) :
    decOfString (normalizeNumber (dropBlanks (sgn neg ++ int))) =
      some ⟨if neg then -(digitsNat int : Int) else (digitsNat int : Int), 0⟩ := by
  have hb := sgnDigits_plain neg hi
  have e1 := dropBlanks_id _ fun c hc => (hb c hc).1
  have e2 : indexE (sgn neg ++ int) 0 = none := indexE_none _ (fun c hc => ⟨(hb c hc).2.2.2.1, (hb c hc).2.2.2.2⟩) _
  have e3 : normalizeNumber (sgn neg ++ int) = sgn neg ++ int := by
    unfold normalizeNumber; rw [e2]
    unfold normalizeMantissa
    rw [countMarks_nomark _ (fun c hc => ⟨(hb c hc).2.1, (hb c hc).2.2.1⟩)]
    simp
  have hnd : (0x2E : UInt8) ∉ sgn neg ++ int := fun h => (hb _ h).2.1 rfl
  rw [e1, e3]
  unfold decOfString
  simp only [e2, List.count_eq_zero_of_not_mem hnd, Nat.not_lt_zero, if_false, List.idxOf?_eq_none_iff.mpr hnd]
  cases neg with
  | false =>
    simp only [sgn, Bool.false_eq_true, if_false, List.nil_append, signedDigits_digits int hi hne, digitsNat_eq]
    simp
  | true =>
    simp only [sgn, if_true, List.singleton_append, signedDigits_minus int hi hne, digitsNat_eq]
    simp

/-- `normalizeNumber` and `NewFromString` on `[-] int '.' frac`; exactly three decimals are
    decimals only behind an all-zero integer part (side condition A). -/
theorem qty_frac (neg : Bool) (int frac : Bytes) (hi : Digits int) (hne : int ≠ []) (hf : Digits frac)
    (hl : frac.length ≤ 1000) (hA : frac.length = 3 → ∀ c ∈ int, c = 0x30) :
    decOfString (normalizeNumber (dropBlanks (sgn neg ++ int ++ 0x2E :: frac))) =
      some ⟨if neg then -(digitsNat (int ++ frac) : Int) else (digitsNat (int ++ frac) : Int),
            -(frac.length : Int)⟩ := by
  -- `s` has one `.`, no `,`, no blank, no `e`: `dropBlanks` and the exponent split do nothing, and
  -- the one-dot branch of `normalizeMantissa` drops the dot only for three decimals behind a
  -- non-zero integer part, which `hA` excludes; `NewFromString` then cuts `s` at the dot
  have hb := sgnDigits_plain neg hi
  have hbf : ∀ c ∈ frac, c ≠ 0x20 ∧ c ≠ 0x2E ∧ c ≠ 0x2C ∧ c ≠ 0x45 ∧ c ≠ 0x65 := sgnDigits_plain false hf
  let s := sgn neg ++ int ++ 0x2E :: frac
  have hs : ∀ c ∈ s, c ≠ 0x20 ∧ c ≠ 0x45 ∧ c ≠ 0x65 := by
    intro c hc
    simp only [s, List.mem_append, List.mem_cons] at hc
    rcases hc with h | h | h
    · have := hb c (List.mem_append.mpr h); exact ⟨this.1, this.2.2.2.1, this.2.2.2.2⟩
    · rw [h]; decide
    · have := hbf c h; exact ⟨this.1, this.2.2.2.1, this.2.2.2.2⟩
  have e1 := dropBlanks_id s fun c hc => (hs c hc).1
  have e2 : indexE s 0 = none := indexE_none _ (fun c hc => (hs c hc).2) _
  have hcm : countMarks s 0 (0, 0, 0, 0) = (1, 0, (sgn neg ++ int).length, 0) := by
    have := countMarks_dot (sgn neg ++ int) frac (fun c hc => ⟨(hb c hc).2.1, (hb c hc).2.2.1⟩)
      (fun c hc => ⟨(hbf c hc).2.1, (hbf c hc).2.2.1⟩) 0
    simpa [s] using this
  have hlen : s.length - (sgn neg ++ int).length - 1 = frac.length := by
    simp only [s, List.length_append, List.length_cons]; omega
  have e3 : normalizeNumber s = s := by
    unfold normalizeNumber; rw [e2]
    unfold normalizeMantissa
    rw [hcm]
    simp only [Nat.succ_ne_zero, false_and, if_false, and_self, if_true, hlen, ge_iff_le]
    split
    · rename_i hcond
      exfalso
      obtain ⟨_, h3, hnz⟩ := hcond
      have hz := hA h3
      simp only [hasNonZeroBefore, s, List.take_left' rfl, List.any_eq_true, Bool.and_eq_true,
        decide_eq_true_eq] at hnz
      obtain ⟨c, hc, hc0, hcm⟩ := hnz
      rcases List.mem_append.mp hc with h | h
      · exact hcm (sgn_facts neg h)
      · exact hc0 (hz c h)
    · rfl
  show decOfString (normalizeNumber (dropBlanks s)) = _
  rw [e1, e3]
  have hnd1 : (0x2E : UInt8) ∉ sgn neg ++ int := fun h => (hb _ h).2.1 rfl
  have hnd2 : (0x2E : UInt8) ∉ frac := fun h => (hbf _ h).2.1 rfl
  have hcount : s.count 0x2E = 1 := by
    have h1 := List.count_eq_zero_of_not_mem hnd1
    have h2 := List.count_eq_zero_of_not_mem hnd2
    simp only [s, List.count_append, List.count_cons, h2, beq_self_eq_true, if_true] at h1 ⊢
    omega
  have hidx : s.idxOf? 0x2E = some (sgn neg ++ int).length := by
    have : ∀ A : Bytes, (0x2E : UInt8) ∉ A → (A ++ 0x2E :: frac).idxOf? 0x2E = some A.length := by
      intro A hA'
      induction A with
      | nil => simp [List.idxOf?_cons]
      | cons a A ih =>
        simp only [List.mem_cons, not_or] at hA'
        have : (a == 0x2E) = false := by simpa using fun h' => hA'.1 h'.symm
        simp [List.idxOf?_cons, this, ih hA'.2]
    exact this _ hnd1
  have htake : s.take (sgn neg ++ int).length = sgn neg ++ int := List.take_left' rfl
  have hdrop : s.drop ((sgn neg ++ int).length + 1) = frac := by
    have : s = (sgn neg ++ int ++ [0x2E]) ++ frac := by simp [s]
    rw [this]
    exact List.drop_left' (by simp [Nat.add_assoc])
  have hslen : s.length - ((sgn neg ++ int).length + 1) = frac.length := by
    simp only [s, List.length_append, List.length_cons]; omega
  unfold decOfString
  simp only [e2, hcount, Nat.lt_irrefl, if_false, hidx, htake, hdrop, hslen]
  cases neg with
  | false =>
    simp only [sgn, Bool.false_eq_true, if_false, List.nil_append,
      signedDigits_digits (int ++ frac) (hi.append hf) (by simp [hne]), digitsNat_eq]
    rw [if_neg (by omega)]
    simp
  | true =>
    simp only [sgn, if_true, List.cons_append, List.nil_append,
      signedDigits_minus (int ++ frac) (hi.append hf) (by simp [hne]), digitsNat_eq]
    rw [if_neg (by omega)]
    simp

end HL.GCore
