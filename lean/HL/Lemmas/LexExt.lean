import HL.Lemmas.LexMisc
/-!
  The lexer does not read behind the next line end, nor does it see which line end it is.

  `Same e e' a a'`: the unread inputs `a = s ++ e` and `a' = s ++ e'` agree up to their first
  line end (`e`, `e'`: LF or CR LF and whatever follows).  Every look-ahead predicate gives the
  same answer on both, every loop and every scan function returns the same token and leaves
  states that are again the same but for the unread input (`Sim`); only `scanNewline`, which
  consumes the line end, tells them apart (`next_sim`).  Two instances: `e' = e ++ x` — bytes
  appended behind a line feed change nothing (`next_ext`, half of line-locality) — and
  `e = [LF]`, `e' = [CR, LF]` (HL/Lemmas/LexCrlfLine.lean).
-/
namespace HL.Lex
open HL HL.Utf8 Ctl

/-- Two unread inputs that agree up to their first line end: `a = s ++ e` and `a' = s ++ e'`
    for line ends `e`, `e'` and a stretch `s` with no line end in front of either. -/
inductive Same (e e' : Bytes) : Bytes → Bytes → Prop
  | eol : atEol e = true → atEol e' = true → Same e e' e e'
  | cons (c : UInt8) {a a' : Bytes} : atEol (c :: a) = false → atEol (c :: a') = false →
      Same e e' a a' → Same e e' (c :: a) (c :: a')

variable {e e' a a' : Bytes}

theorem Same.atEol_eq (h : Same e e' a a') : atEol a' = atEol a := by
  cases h with
  | eol h1 h2 => rw [h1, h2]
  | cons c h1 h2 _ => rw [h1, h2]

theorem Same.ne_nil (h : Same e e' a a') : a ≠ [] ∧ a' ≠ [] := by
  cases h with
  | eol h1 h2 => exact ⟨fun e0 => (by rw [e0] at h1; cases h1), fun e0 => (by rw [e0] at h2; cases h2)⟩
  | cons c _ _ _ => exact ⟨List.cons_ne_nil _ _, List.cons_ne_nil _ _⟩

theorem Same.uncons (h : Same e e' a a') (hne : atEol a = false) :
    ∃ c t t', a = c :: t ∧ a' = c :: t' ∧ Same e e' t t' := by
  cases h with
  | eol h1 _ => rw [h1] at hne; cases hne
  | cons c _ _ ht => exact ⟨c, _, _, rfl, rfl, ht⟩

theorem Same.at_eol (h : Same e e' a a') (he : atEol a = true) : a = e ∧ a' = e' := by
  cases h with
  | eol _ _ => exact ⟨rfl, rfl⟩
  | cons c h1 _ _ => rw [h1] at he; cases he

theorem Same.split (h : Same e e' a a') :
    ∃ s, a = s ++ e ∧ a' = s ++ e' ∧ atEol e = true ∧ atEol e' = true := by
  induction h with
  | eol h1 h2 => exact ⟨[], rfl, rfl, h1, h2⟩
  | cons c _ _ _ ih =>
    obtain ⟨s, rfl, rfl, h1, h2⟩ := ih
    exact ⟨c :: s, rfl, rfl, h1, h2⟩

theorem atEol_ne_lf {c : UInt8} {t : Bytes} (h : atEol (c :: t) = false) : c ≠ LF := by
  intro e; subst e; cases h

theorem Same.decode (h : Same e e' a a') (c : UInt8) : decodeRune (c :: a') = decodeRune (c :: a) := by
  obtain ⟨s, rfl, rfl, h1, h2⟩ := h.split
  obtain ⟨d, x, rfl, hd⟩ := atEol_head h1
  obtain ⟨d', y, rfl, hd'⟩ := atEol_head h2
  have stop : ∀ d : UInt8, d = LF ∨ d = CR → isCont d = false := by rintro d (rfl | rfl) <;> rfl
  exact (decodeRune_append_stop (c :: s) (List.cons_ne_nil _ _) (stop d' hd') y).trans
    (decodeRune_append_stop (c :: s) (List.cons_ne_nil _ _) (stop d hd) x).symm

theorem Same.drop (h : Same e e' a a') (k : Nat) (hk : ∀ x ∈ a.take k, x ≠ LF ∧ x ≠ CR) :
    a'.take k = a.take k ∧ Same e e' (a.drop k) (a'.drop k) := by
  induction k generalizing a a' with
  | zero => exact ⟨rfl, h⟩
  | succ k ih =>
    cases h with
    | eol h1 _ =>
      obtain ⟨c, t, rfl, hc⟩ := atEol_head h1
      have := hk c (by simp)
      rcases hc with rfl | rfl
      · exact absurd rfl this.1
      · exact absurd rfl this.2
    | cons c _ _ ht =>
      obtain ⟨h1, h2⟩ := ih ht (fun x hx => hk x (by simp [hx]))
      exact ⟨by simp [h1], h2⟩

/-- stepping over the rune in front stays in front of the line end: behind its first byte a
    rune holds neither LF nor CR -/
theorem Same.drop_rune {c : UInt8} {t t' : Bytes} (ht : Same e e' t t') (hne : atEol (c :: t) = false) :
    (c :: t').take (decodeRune (c :: t)).2 = (c :: t).take (decodeRune (c :: t)).2 ∧
      Same e e' ((c :: t).drop (decodeRune (c :: t)).2) ((c :: t').drop (decodeRune (c :: t)).2) := by
  obtain ⟨k, hk⟩ : ∃ k, (decodeRune (c :: t)).2 = k + 1 :=
    ⟨_, (Nat.succ_pred_eq_of_pos (decodeRune_width_pos c t)).symm⟩
  have hno : ∀ x ∈ t.take k, x ≠ LF ∧ x ≠ CR := by
    intro x hx
    have hx' : x ∈ (c :: t).take (decodeRune (c :: t)).2 := by rw [hk]; simp [hx]
    refine ⟨fun h => decodeRune_take_noLF c t (atEol_ne_lf hne) (h ▸ hx'), fun h => ?_⟩
    by_cases hcr : c = CR
    · have : (decodeRune (c :: t)).2 = 1 := by rw [hcr]; simp [decodeRune]
      rw [this] at hk; cases hk; simp at hx
    · exact decodeRune_take_noCR c t hcr (h ▸ hx')
  obtain ⟨h1, h2⟩ := ht.drop k hno
  rw [hk]
  exact ⟨by simp only [List.take_succ_cons, h1], by simpa only [List.drop_succ_cons] using h2⟩

/-- the same lexer state in front of two unread inputs that are the `Same` -/
structure Sim (e e' : Bytes) (z z' : Z) : Prop where
  before : z'.before = z.before
  line : z'.line = z.line
  col : z'.col = z.col
  atStart : z'.atStart = z.atStart
  after : Same e e' z.after z'.after

/-- the same token, and the same state but for the unread input -/
def SimR (e e' : Bytes) (r r' : Token × Z) : Prop := r'.1 = r.1 ∧ Sim e e' r.2 r'.2

variable {z z' : Z}

theorem Sim.position (h : Sim e e' z z') : z'.position = z.position := by
  simp only [Z.position, h.before, h.line, h.col]

theorem between_sim {s s' x x' : Z} (hs : Sim e e' s s') (hx : Sim e e' x x') :
    between s' x' = between s x := by
  simp only [between, hs.before, hx.before]

theorem mkTok_sim (ty : TokType) (v : Bytes) {s s' x x' : Z} (hs : Sim e e' s s') (hx : Sim e e' x x') :
    SimR e e' (mkTok ty v s x) (mkTok ty v s' x') :=
  ⟨by simp only [mkTok, hs.position, hx.position], hx⟩

theorem ite_sim {α β : Type} {R : α → β → Prop} {c : Prop} [Decidable c] {x y : α} {x' y' : β}
    (hx : c → R x x') (hy : ¬c → R y y') : R (if c then x else y) (if c then x' else y') := by
  split
  · exact hx ‹_›
  · exact hy ‹_›

theorem advance_sim (h : Sim e e' z z') (hne : atEol z.after = false) : Sim e e' (advance z) (advance z') := by
  obtain ⟨c, t, t', hz, hz', ht⟩ := h.after.uncons hne
  obtain ⟨h1, h2⟩ := ht.drop_rune (hz ▸ hne)
  rw [advance_cons hz, advance_cons hz', ht.decode c]
  exact ⟨by simp only [Z.bump, hz, hz', h.before, h1], h.line, by simp only [Z.bump, h.col], h.atStart,
    by simpa only [Z.bump, hz, hz'] using h2⟩

theorem peek_sim (h : Sim e e' z z') (hne : atEol z.after = false) : peek z' = peek z := by
  obtain ⟨c, t, t', hz, hz', _⟩ := h.after.uncons hne
  simp only [peek, hz, hz', List.headD_cons]

theorem peekRune_sim (h : Sim e e' z z') (hne : atEol z.after = false) : peekRune z' = peekRune z := by
  obtain ⟨c, t, t', hz, hz', ht⟩ := h.after.uncons hne
  simp only [peekRune, hz, hz', ht.decode c]

/-- a loop condition that does not see which of the two line ends follows and fails at a line end -/
def Blind (e e' : Bytes) (q : Bytes → Bool) : Prop :=
  ∀ a a', Same e e' a a' → q a' = q a ∧ (q a = true → atEol a = false)

theorem headP_same {p : UInt8 → Bool} (hlf : p LF = false) (hcr : p CR = false) (h : Same e e' a a') :
    headP p a' = headP p a ∧ (headP p a = true → atEol a = false) := by
  have atEnd : ∀ {a : Bytes}, atEol a = true → headP p a = false := by
    intro a ha
    obtain ⟨c, t, rfl, hc⟩ := atEol_head ha
    rcases hc with rfl | rfl
    · exact hlf
    · exact hcr
  cases h with
  | eol h1 h2 => rw [atEnd h1, atEnd h2]; exact ⟨rfl, fun h => by cases h⟩
  | cons c h1 _ _ => exact ⟨rfl, fun _ => h1⟩

theorem blind_headP (p : UInt8 → Bool) (hlf : p LF = false) (hcr : p CR = false) : Blind e e' (headP p) :=
  fun _ _ h => headP_same hlf hcr h

theorem blind_lineP (p : UInt8 → Bool) : Blind e e' (lineP p) := by
  intro a a' h
  cases h with
  | eol h1 h2 =>
    have atEnd : ∀ {a : Bytes}, atEol a = true → lineP p a = false := fun ha => by
      simp only [lineP, ha, Bool.not_true, Bool.and_false]
    rw [atEnd h1, atEnd h2]; exact ⟨rfl, fun h => by cases h⟩
  | cons c h1 h2 _ => exact ⟨by simp only [lineP, headP, h1, h2], fun _ => h1⟩

theorem advStep_of_true {q : Bytes → Bool} {z : Z} (hq : q z.after = true) (hne : z.after ≠ []) :
    advStep q z = some (advance z) := by
  obtain ⟨b, t, hz⟩ := List.exists_cons_of_ne_nil hne
  rw [advStep_cons q hz, ← hz, hq]; rfl

theorem advStep_of_false {q : Bytes → Bool} {z : Z} (hq : q z.after = false) : advStep q z = none := by
  unfold advStep
  split
  · rfl
  · rename_i b t hz; rw [← hz, hq]; rfl

theorem advF_sim {q : Bytes → Bool} (hq : Blind e e' q) (n : Nat) (h : Sim e e' z z') :
    Sim e e' (advF q n z) (advF q n z') := by
  refine loopF_rel (Sim e e') (fun s t hst => ?_) n h
  obtain ⟨h1, h2⟩ := hq _ _ hst.after
  cases hqs : q s.after
  · exact Or.inl ⟨advStep_of_false hqs, advStep_of_false (h1 ▸ hqs)⟩
  · exact Or.inr ⟨_, _, advStep_of_true hqs hst.after.ne_nil.1, advStep_of_true (h1 ▸ hqs) hst.after.ne_nil.2,
      advance_sim hst (h2 hqs)⟩

/-- loops run with the fuel of the model, the number of unread bytes, which differs -/
theorem sim_len {β : Type} {R : β → β → Prop} (F : Nat → Z → β)
    (fuel : ∀ n m z, z.after.length ≤ n → z.after.length ≤ m → F n z = F m z) (hR : ∀ n, R (F n z) (F n z')) :
    R (F z.after.length z) (F z'.after.length z') := by
  rw [fuel _ (max z.after.length z'.after.length) z (Nat.le_refl _) (Nat.le_max_left _ _),
    fuel _ (max z.after.length z'.after.length) z' (Nat.le_refl _) (Nat.le_max_right _ _)]
  exact hR _

theorem advWhile_sim (p : UInt8 → Bool) (hlf : p LF = false) (hcr : p CR = false) (h : Sim e e' z z') :
    Sim e e' (advWhile p z) (advWhile p z') := by
  rw [advWhile_eq, advWhile_eq]
  exact sim_len (advF _) (advF_fuel _) fun n => advF_sim (blind_headP p hlf hcr) n h

theorem advLine_sim (p : UInt8 → Bool) (h : Sim e e' z z') : Sim e e' (advLine p z) (advLine p z') := by
  rw [advLine_eq, advLine_eq]
  exact sim_len (advF _) (advF_fuel _) fun n => advF_sim (blind_lineP p) n h

theorem advIf_sim (p : UInt8 → Bool) (hlf : p LF = false) (hcr : p CR = false) (h : Sim e e' z z') :
    Sim e e' (advIf p z) (advIf p z') := by
  rw [advIf_eq, advIf_eq]; exact advF_sim (blind_headP p hlf hcr) 1 h

theorem headIs_eq (c : UInt8) (a : Bytes) : headIs c a = headP (· == c) a := by cases a <;> rfl

theorem headIs_same (c : UInt8) (h1 : c ≠ LF) (h2 : c ≠ CR) (h : Same e e' a a') : headIs c a' = headIs c a := by
  rw [headIs_eq, headIs_eq]
  exact (headP_same (by simpa using fun e => h1 e.symm) (by simpa using fun e => h2 e.symm) h).1

theorem headIsDigit_same (h : Same e e' a a') : headIsDigit a' = headIsDigit a := by
  have := (headP_same (p := isDigit) (by decide) (by decide) h).1
  cases a <;> cases a' <;> exact this

/-- a look-ahead that gives `v` at LF and at CR and otherwise looks at the first byte and, by a
    predicate that does not see the line end, at what follows -/
theorem look_same {f : Bytes → Bool} {v : Bool} (hlf : ∀ t, f (LF :: t) = v) (hcr : ∀ t, f (CR :: t) = v)
    (hc : ∀ c t t', Same e e' t t' → f (c :: t') = f (c :: t)) (h : Same e e' a a') : f a' = f a := by
  have atEnd : ∀ {a : Bytes}, atEol a = true → f a = v := by
    intro a ha
    obtain ⟨c, t, rfl, hc⟩ := atEol_head ha
    rcases hc with rfl | rfl
    · exact hlf t
    · exact hcr t
  cases h with
  | eol h1 h2 => rw [atEnd h1, atEnd h2]
  | cons c _ _ ht => exact hc c _ _ ht

theorem expAhead_same (h : Same e e' a a') : expAhead a' = expAhead a :=
  look_same (v := false) (fun _ => rfl) (fun _ => rfl)
    (fun c t t' ht => by simp only [expAhead, headIsDigit_same ht]) h

theorem digitOrSignedDigit_same (h : Same e e' a a') : digitOrSignedDigit a' = digitOrSignedDigit a :=
  look_same (v := false) (fun _ => rfl) (fun _ => rfl)
    (fun c t t' ht => by simp only [digitOrSignedDigit, headIsDigit_same ht]) h

theorem lvaGo_same (h : Same e e' a a') : lvaGo a' = lvaGo a := by
  induction h with
  | eol h1 h2 =>
    have atEnd : ∀ {a : Bytes}, atEol a = true → lvaGo a = false := by
      intro a ha
      rcases atEol_cases ha with ⟨t, rfl⟩ | ⟨t, rfl⟩ <;> rfl
    rw [atEnd h1, atEnd h2]
  | cons c _ _ _ ih => simp only [lvaGo, ih]

theorem dropWhile_same (p : UInt8 → Bool) (hlf : p LF = false) (hcr : p CR = false) (h : Same e e' a a') :
    Same e e' (a.dropWhile p) (a'.dropWhile p) := by
  induction h with
  | eol h1 h2 =>
    have atEnd : ∀ {a : Bytes}, atEol a = true → a.dropWhile p = a := by
      intro a ha
      obtain ⟨c, t, rfl, hc⟩ := atEol_head ha
      rcases hc with rfl | rfl
      · simp only [List.dropWhile_cons, hlf, Bool.false_eq_true, if_false]
      · simp only [List.dropWhile_cons, hcr, Bool.false_eq_true, if_false]
    rw [atEnd h1, atEnd h2]; exact Same.eol h1 h2
  | cons c h1 h2 ht ih =>
    simp only [List.dropWhile_cons]
    split
    · exact ih
    · exact Same.cons c h1 h2 ht

theorem acctAct_eol {a : Bytes} (h : atEol a = true) : acctAct a = none := by
  rcases atEol_cases h with ⟨t, rfl⟩ | ⟨t, rfl⟩ <;> rfl

theorem numAct_eol {a : Bytes} (h : atEol a = true) (hd : Bool) : numAct a hd = none := by
  rcases atEol_cases h with ⟨t, rfl⟩ | ⟨t, rfl⟩ <;> rfl

theorem acctAct_same (h : Same e e' a a') : acctAct a' = acctAct a := by
  cases h with
  | eol h1 h2 => rw [acctAct_eol h1, acctAct_eol h2]
  | cons c _ _ ht => simp only [acctAct, ht.decode c, headIs_same 0x20 (by decide) (by decide) ht]

theorem numAct_same (h : Same e e' a a') (hd : Bool) : numAct a' hd = numAct a hd := by
  cases h with
  | eol h1 h2 => rw [numAct_eol h1, numAct_eol h2]
  | cons c _ _ ht => simp only [numAct, headIsDigit_same ht, expAhead_same ht]

theorem not_eol_of_act {α : Type} {f : Bytes → Option α} (heol : ∀ {a}, atEol a = true → f a = none)
    {a : Bytes} {v : α} (h : f a = some v) : atEol a = false := by
  cases he : atEol a
  · rfl
  · rw [heol he] at h; cases h

theorem looksLikeAccountF_same (n : Nat) (hc : Bool) (h : Same e e' a a') :
    looksLikeAccountF n a' hc = looksLikeAccountF n a hc := by
  rw [looksLikeAccountF_eq, looksLikeAccountF_eq]
  refine (loopF_rel (fun s t : Bytes × Bool => Same e e' s.1 t.1 ∧ t.2 = s.2) (fun s t hst => ?_) n
    (s := (a, hc)) (t := (a', hc)) ⟨h, rfl⟩).2
  unfold lookStep
  rw [acctAct_same hst.1]
  cases ha : acctAct s.1 with
  | none => exact Or.inl ⟨rfl, rfl⟩
  | some blank =>
    obtain ⟨c, u, u', h1, h2, hu⟩ := hst.1.uncons (not_eol_of_act acctAct_eol ha)
    refine Or.inr ⟨_, _, rfl, rfl, ?_, ?_⟩
    · simp only [h1, h2, hu.decode c]
      exact (hu.drop_rune (h1 ▸ not_eol_of_act acctAct_eol ha)).2
    · simp only [h1, h2, hu.decode c, hst.2]

theorem looksLikeAccount_same (h : Same e e' a a') : looksLikeAccount a' = looksLikeAccount a := by
  unfold looksLikeAccount
  rw [looksLikeAccountF_fuel _ (max a.length a'.length) a' false (Nat.le_refl _) (Nat.le_max_right _ _),
    looksLikeAccountF_fuel _ (max a.length a'.length) a false (Nat.le_refl _) (Nat.le_max_left _ _)]
  exact looksLikeAccountF_same _ false h

theorem scanAccountF_sim (n : Nat) {l l' : Z} (h : Sim e e' z z') (hl : Sim e e' l l') :
    Sim e e' (scanAccountF n z l).1 (scanAccountF n z' l').1 ∧
      Sim e e' (scanAccountF n z l).2 (scanAccountF n z' l').2 := by
  rw [scanAccountF_eq, scanAccountF_eq]
  refine loopF_rel (fun s t : Z × Z => Sim e e' s.1 t.1 ∧ Sim e e' s.2 t.2) (fun s t hst => ?_) n
    (s := (z, l)) (t := (z', l')) ⟨h, hl⟩
  unfold acctStep
  rw [acctAct_same hst.1.after]
  cases ha : acctAct s.1.after with
  | none => exact Or.inl ⟨rfl, rfl⟩
  | some blank =>
    have hadv := advance_sim hst.1 (not_eol_of_act acctAct_eol ha)
    refine Or.inr ⟨_, _, rfl, rfl, hadv, ?_⟩
    cases blank
    · exact hadv
    · exact hst.2

theorem scanNumberF_sim (n : Nat) (hd : Bool) (h : Sim e e' z z') :
    Sim e e' (scanNumberF n z hd) (scanNumberF n z' hd) := by
  rw [scanNumberF_eq, scanNumberF_eq]
  refine (loopF_rel (fun s t : Z × Bool => Sim e e' s.1 t.1 ∧ t.2 = s.2) (fun s t hst => ?_) n
    (s := (z, hd)) (t := (z', hd)) ⟨h, rfl⟩).1
  unfold numStep
  rw [hst.2, numAct_same hst.1.after]
  cases ha : numAct s.1.after s.2 with
  | none => exact Or.inl ⟨rfl, rfl⟩
  | some v =>
    have hadv := advance_sim hst.1 (not_eol_of_act (fun he => numAct_eol he s.2) ha)
    refine Or.inr ⟨_, _, rfl, rfl, ?_, rfl⟩
    cases v.1
    · exact hadv
    · exact advIf_sim isSign (by decide) (by decide) hadv

section
variable {c : UInt8} {t t' : Bytes} (ht : Same e e' t t')
include ht

theorem nextIsCurrencySymbol_same : nextIsCurrencySymbol (c :: t') = nextIsCurrencySymbol (c :: t) := by
  cases ht with
  | eol h1 h2 =>
    have atEnd : ∀ {a : Bytes}, atEol a = true → nextIsCurrencySymbol (c :: a) = false := by
      intro a ha
      rcases atEol_cases ha with ⟨u, rfl⟩ | ⟨u, rfl⟩ <;> rfl
    rw [atEnd h1, atEnd h2]
  | cons d _ _ hu =>
    simp only [nextIsCurrencySymbol, List.drop_succ_cons, List.drop_zero, hu.decode d]

theorem nextIsLetterCommodity_same : nextIsLetterCommodity (c :: t') = nextIsLetterCommodity (c :: t) := by
  have hd := digitOrSignedDigit_same (dropWhile_same isLetter (by decide) (by decide) ht)
  cases ht with
  | eol h1 h2 =>
    have atEnd : ∀ {a : Bytes}, atEol a = true → nextIsLetterCommodity (c :: a) = false := by
      intro a ha
      rcases atEol_cases ha with ⟨u, rfl⟩ | ⟨u, rfl⟩ <;> rfl
    rw [atEnd h1, atEnd h2]
  | cons d _ _ hu =>
    simp only [nextIsLetterCommodity, List.drop_succ_cons, List.drop_zero]
    rw [hd]
end

theorem getD_append_left (a b : Bytes) (i : Nat) (h : i < a.length) : (a ++ b).getD i 0 = a.getD i 0 := by
  simp [List.getD_eq_getElem?_getD, List.getElem?_append_left h]

theorem getD_append_head (s : Bytes) (d : UInt8) (x : Bytes) : (s ++ d :: x).getD s.length 0 = d := by
  simp [List.getD_eq_getElem?_getD]

/-- a line end within the first seven bytes, where a date has digits and separators: no date;
    behind them it is the eighth byte at most, of which `looksLikeDate` asks only whether it is
    the separator -/
theorem looksLikeDate_same (h : Same e e' a a') : looksLikeDate a' = looksLikeDate a := by
  obtain ⟨s, rfl, rfl, h1, h2⟩ := h.split
  obtain ⟨d, x, rfl, hd⟩ := atEol_head h1
  obtain ⟨d', y, rfl, hd'⟩ := atEol_head h2
  have stop : ∀ c : UInt8, c = LF ∨ c = CR → isDigit c = false ∧ isSep c = false := by
    rintro c (rfl | rfl) <;> exact ⟨rfl, rfl⟩
  by_cases hs : s.length ≤ 6
  · have key : ∀ (d : UInt8) (x : Bytes), d = LF ∨ d = CR → looksLikeDate (s ++ d :: x) = false := by
      intro d x hd
      unfold looksLikeDate
      split
      · rfl
      · cases hc : looksLikeDateCore (s ++ d :: x)
        · rfl
        · have := looksLikeDateCore_bytes hc s.length hs
          rw [getD_append_head, (stop d hd).1, (stop d hd).2] at this
          rcases this with h | h <;> cases h
    rw [key d x hd, key d' y hd']
  · have hl : ∀ (c : UInt8) (u : Bytes), ¬ (s ++ c :: u).length < 8 := by
      intro c u; simp only [List.length_append, List.length_cons]; omega
    have g : ∀ (u : Bytes) (i : Nat), i ≤ 6 → (s ++ u).getD i 0 = s.getD i 0 :=
      fun u i hi => getD_append_left s u i (by omega)
    unfold looksLikeDate
    rw [if_neg (hl _ _), if_neg (hl _ _)]
    unfold looksLikeDateCore
    simp only [g _ 0 (by omega), g _ 1 (by omega), g _ 2 (by omega), g _ 3 (by omega), g _ 4 (by omega),
      g _ 5 (by omega), g _ 6 (by omega)]
    by_cases h8 : 8 ≤ s.length
    · rw [getD_append_left s _ 7 (by omega), getD_append_left s _ 7 (by omega)]
    · have h7 : s.length = 7 := by omega
      have e7 : ∀ (d : UInt8) (x : Bytes), (s ++ d :: x).getD 7 0 = d := by
        intro d x; rw [← h7]; exact getD_append_head s d x
      rw [e7, e7]
      cases hsep : isSep (s.getD 4 0)
      · simp only [isSep] at hsep
        simp only [hsep, Bool.and_false, Bool.false_and]
      · have ne : ∀ c : UInt8, c = LF ∨ c = CR → (c == s.getD 4 0) = false := by
          intro c hc
          cases hb : c == s.getD 4 0
          · rfl
          · rw [← beq_iff_eq.mp hb, (stop c hc).2] at hsep; cases hsep
        rw [ne d hd, ne d' hd']

theorem tok_sim (ty : TokType) {s s' a a' b b' x x' : Z} (hs : Sim e e' s s') (ha : Sim e e' a a')
    (hb : Sim e e' b b') (hx : Sim e e' x x') :
    SimR e e' (mkTok ty (between a b) s x) (mkTok ty (between a' b') s' x') := by
  rw [between_sim ha hb]; exact mkTok_sim ty _ hs hx

section
variable (h : Sim e e' z z')
include h

theorem scanDate_sim : SimR e e' (scanDate z) (scanDate z') :=
  have h1 := advWhile_sim (fun ch => isDigit ch || ch == 0x2D || ch == 0x2F || ch == 0x2E) (by decide) (by decide) h
  tok_sim _ h h h1 h1

theorem scanText_sim : SimR e e' (scanText z) (scanText z') := by
  have h1 := advLine_sim (fun ch => !(ch == 0x3B || ch == 0x7C)) h
  simp only [scanText, textStop, between_sim h h1, h1.position, h.line, h.col, h.before]
  exact ⟨by simp only [mkTokAt, h.position], h1⟩

theorem scanAccount_sim : SimR e e' (scanAccount z) (scanAccount z') := by
  have h1 := sim_len (R := fun r r' : Z × Z => Sim e e' r.1 r'.1 ∧ Sim e e' r.2 r'.2) (fun n z => scanAccountF n z z)
    (fun n m z => scanAccountF_fuel n m z z) fun n => scanAccountF_sim n h h
  simp only [scanAccount, between_sim h h1.2, h1.2.position]
  exact ⟨by simp only [mkTokAt, h.position], h1.1⟩

theorem scanNumber_sim : SimR e e' (scanNumber z) (scanNumber z') :=
  have h1 := sim_len (R := Sim e e') (fun n z => scanNumberF n z false) (fun n m z => scanNumberF_fuel n m z false)
    fun n => scanNumberF_sim n false h
  tok_sim _ h h h1 h1

theorem scanDirectiveOrAccount_sim : SimR e e' (scanDirectiveOrAccount z) (scanDirectiveOrAccount z') := by
  have h1 := advWhile_sim isLetter (by decide) (by decide) h
  simp only [scanDirectiveOrAccount, between_sim h h1, looksLikeAccount_same h.after]
  exact ite_sim (fun _ => mkTok_sim _ _ h h1) fun _ => ite_sim (fun _ => scanAccount_sim h) fun _ => scanText_sim h

theorem scanCommodityOrText_sim (C : Classes) :
    SimR e e' (scanCommodityOrText C z) (scanCommodityOrText C z') := by
  have h1 := advWhile_sim isLetter (by decide) (by decide) h
  have h2 := advWhile_sim (fun c => isLetter c || isDigit c) (by decide) (by decide) h1
  have he : ∀ {a : Bytes}, a ≠ [] → a.isEmpty = false := fun ha => by simpa using ha
  simp only [scanCommodityOrText, followsAmountNumber, h.before, h1.before, between_sim h h1, between_sim h h2,
    he h1.after.ne_nil.1, he h1.after.ne_nil.2, digitOrSignedDigit_same h1.after]
  exact ite_sim (fun _ => mkTok_sim _ _ h h1) fun _ => ite_sim (fun _ => mkTok_sim _ _ h h2) fun _ => scanText_sim h

variable (hne : atEol z.after = false)
include hne

/-- also used of `scanStatus` and `scanSign` (see `punct_ok`), whose value `peek_sim` makes the same -/
theorem punct_sim (ty : TokType) (v : Bytes) : SimR e e' (punct ty v z) (punct ty v z') :=
  mkTok_sim _ _ h (advance_sim h hne)

theorem scanComment_sim : SimR e e' (scanComment z) (scanComment z') :=
  have h1 := advance_sim h hne
  tok_sim _ h h1 (advLine_sim _ h1) (advLine_sim _ h1)

/-- `scanCode`, `scanQuotedCommodity`: over the first byte, along the line up to `d`, and over it -/
theorem delim_sim (ty : TokType) (d : UInt8) (h1 : d ≠ LF) (h2 : d ≠ CR) :
    SimR e e' (mkTok ty (between (advance z) (advLine (· != d) (advance z))) z
        (advIf (· == d) (advLine (· != d) (advance z))))
      (mkTok ty (between (advance z') (advLine (· != d) (advance z'))) z'
        (advIf (· == d) (advLine (· != d) (advance z')))) :=
  have ha := advance_sim h hne
  have hl := advLine_sim (· != d) ha
  tok_sim _ h ha hl (advIf_sim _ (by simpa using fun e => h1 e.symm) (by simpa using fun e => h2 e.symm) hl)

/-- `scanAt`, `scanEquals`: one `c`, or two; a second `c` is not a line end -/
theorem pair_sim (c : UInt8) (h1 : c ≠ LF) (h2 : c ≠ CR) (ty2 ty1 : TokType) (v2 v1 : Bytes) :
    SimR e e'
      (if headIs c (advance z).after then mkTok ty2 v2 z (advance (advance z)) else mkTok ty1 v1 z (advance z))
      (if headIs c (advance z').after then mkTok ty2 v2 z' (advance (advance z')) else mkTok ty1 v1 z' (advance z')) := by
  have ha := advance_sim h hne
  have hc := headP_same (p := (· == c)) (by simpa using fun e => h1 e.symm) (by simpa using fun e => h2 e.symm) ha.after
  rw [headIs_eq, headIs_eq, hc.1]
  exact ite_sim (fun hh => mkTok_sim _ _ h (advance_sim ha (hc.2 hh))) fun _ => mkTok_sim _ _ h ha

theorem scanCurrencySymbol_sim : SimR e e' (scanCurrencySymbol z) (scanCurrencySymbol z') := by
  obtain ⟨c, t, t', hz, hz', ht⟩ := h.after.uncons hne
  have ha := advance_sim h hne
  rw [advance_cons hz, advance_cons hz', ht.decode c] at ha
  simp only [scanCurrencySymbol, hz, hz', ht.decode c]
  exact mkTok_sim _ _ h ha

end

theorem scanInLineAt_sim (C : Classes) (h : Sim e e' z z') (hne : atEol z.after = false) :
    SimR e e' (scanInLineAt C z) (scanInLineAt C z') := by
  obtain ⟨c, t, t', hz, hz', ht⟩ := h.after.uncons hne
  have hne' : atEol (c :: t') = false := by rw [← hz', h.after.atEol_eq]; exact hne
  have hd : looksLikeDate (c :: t') = looksLikeDate (c :: t) := by rw [← hz, ← hz']; exact looksLikeDate_same h.after
  have ha : looksLikeAccount (c :: t') = looksLikeAccount (c :: t) := by
    rw [← hz, ← hz']; exact looksLikeAccount_same h.after
  have hv : looksLikeVirtualAccount (c :: t') = looksLikeVirtualAccount (c :: t) := lvaGo_same ht
  have hn : nextIsDigit (c :: t') = nextIsDigit (c :: t) := headIsDigit_same ht
  simp only [scanInLineAt, hz, hz', hz ▸ hne, hne', Bool.false_eq_true, if_false, peekRune_sim h hne,
    hv, nextIsCurrencySymbol_same ht, nextIsLetterCommodity_same ht, hn, hd, ha, scanStatus, scanSign, peek_sim h hne]
  refine ite_sim (fun _ => scanComment_sim h hne) fun _ => ?_
  refine ite_sim (fun _ => ite_sim (fun _ => punct_sim h hne _ _) fun _ =>
    delim_sim h hne _ 0x29 (by decide) (by decide)) fun _ => ?_
  refine ite_sim (fun _ => punct_sim h hne _ _) fun _ => ?_
  refine ite_sim (fun _ => punct_sim h hne _ _) fun _ => ?_
  refine ite_sim (fun _ => punct_sim h hne _ _) fun _ => ?_
  refine ite_sim (fun _ => punct_sim h hne _ _) fun _ => ?_
  refine ite_sim (fun _ => pair_sim h hne 0x40 (by decide) (by decide) _ _ _ _) fun _ => ?_
  refine ite_sim (fun _ => pair_sim h hne 0x3D (by decide) (by decide) _ _ _ _) fun _ => ?_
  refine ite_sim (fun _ => punct_sim h hne _ _) fun _ => ?_
  refine ite_sim (fun _ => scanCurrencySymbol_sim h hne) fun _ => ?_
  refine ite_sim (fun _ => delim_sim h hne _ 0x22 (by decide) (by decide)) fun _ => ?_
  refine ite_sim (fun _ => ite_sim (fun _ => punct_sim h hne _ _) fun _ => scanText_sim h) fun _ => ?_
  refine ite_sim (fun _ => ite_sim (fun _ => scanDate_sim h) fun _ => scanNumber_sim h) fun _ => ?_
  exact ite_sim (fun _ => ite_sim (fun _ => scanAccount_sim h) fun _ => scanCommodityOrText_sim h C) fun _ =>
    scanText_sim h

/-- One call of `Next` in two states that differ only in what follows the line end: the same token
    in front of the line end, or the Newline token for the line end itself. -/
inductive SimStep (e e' : Bytes) (r r' : Token × Z) : Prop
  | inside (h : SimR e e' r r') : SimStep e e' r r'
  | newline (y y' : Z) (h : Sim e e' y y') (hy : y.after = e) (hy' : y'.after = e')
      (hr : r = scanNewline y) (hr' : r' = scanNewline y') : SimStep e e' r r'

theorem scanInLineAt_eol (C : Classes) {z : Z} (h : atEol z.after = true) : scanInLineAt C z = scanNewline z := by
  obtain ⟨c, t, hz, _⟩ := atEol_head h
  simp only [scanInLineAt, hz, hz ▸ h, if_true]

theorem scanLineStartAt_eol (C : Classes) {z : Z} (h : atEol z.after = true) :
    scanLineStartAt C z = scanInLine C z := by
  obtain ⟨c, t, hz, hc⟩ := atEol_head h
  have hp : peek z = c := by rw [peek, hz]; rfl
  rw [scanLineStartAt, hp, h]
  rcases hc with rfl | rfl <;> rfl

theorem scanInLine_sim (C : Classes) (h : Sim e e' z z') : SimStep e e' (scanInLine C z) (scanInLine C z') := by
  have hs : Sim e e' (skipSpaces z) (skipSpaces z') := advWhile_sim isBlank (by decide) (by decide) h
  unfold scanInLine
  cases he : atEol (skipSpaces z).after
  · exact .inside (scanInLineAt_sim C hs he)
  · obtain ⟨h1, h2⟩ := hs.after.at_eol he
    exact .newline _ _ hs h1 h2 (scanInLineAt_eol C he) (scanInLineAt_eol C (hs.after.atEol_eq ▸ he))

theorem scanLineStartAt_sim (C : Classes) (h : Sim e e' z z') :
    SimStep e e' (scanLineStartAt C z) (scanLineStartAt C z') := by
  cases he : atEol z.after
  · simp only [scanLineStartAt, peek_sim h he, h.after.atEol_eq]
    refine ite_sim (fun _ => .inside (scanComment_sim h he)) fun _ => ?_
    refine ite_sim (fun _ => .inside (tok_sim _ h h (advLine_sim _ h) (advLine_sim _ h))) fun _ => ?_
    refine ite_sim (fun _ => .inside (scanDate_sim h)) fun _ => ?_
    exact ite_sim (fun _ => .inside (scanDirectiveOrAccount_sim h)) fun _ => scanInLine_sim C h
  · rw [scanLineStartAt_eol C he, scanLineStartAt_eol C (h.after.atEol_eq ▸ he)]
    exact scanInLine_sim C h

/-- **`Next` neither reads behind the next line end nor sees which line end it is.** -/
theorem next_sim (C : Classes) (h : Sim e e' z z') : SimStep e e' (next C z) (next C z') := by
  obtain ⟨b, t, hz⟩ := List.exists_cons_of_ne_nil h.after.ne_nil.1
  obtain ⟨b', t', hz'⟩ := List.exists_cons_of_ne_nil h.after.ne_nil.2
  rw [next, next, hz, hz', h.atStart, h.col]
  refine ite_sim (fun _ => ?_) fun _ => scanInLine_sim C h
  exact scanLineStartAt_sim C ⟨h.before, h.line, h.col, rfl, h.after⟩

/-- the same state with `b` appended to the unread input -/
def Z.ext (b : Bytes) (z : Z) : Z := { z with after := z.after ++ b }

def extR (b : Bytes) (r : Token × Z) : Token × Z := (r.1, r.2.ext b)

def HasLF (z : Z) : Prop := LF ∈ z.after

variable (x : Bytes)

@[simp] theorem ext_after (z : Z) : (z.ext x).after = z.after ++ x := rfl
@[simp] theorem ext_col (z : Z) : (z.ext x).col = z.col := rfl
@[simp] theorem ext_atStart (z : Z) : (z.ext x).atStart = z.atStart := rfl
@[simp] theorem ext_position (z : Z) : (z.ext x).position = z.position := rfl

theorem headIs_append (c : UInt8) {t : Bytes} (h : t ≠ []) : headIs c (t ++ x) = headIs c t := by
  cases t with
  | nil => exact absurd rfl h
  | cons a t => rfl

theorem atEol_append {a : Bytes} (h : LF ∈ a) : atEol (a ++ x) = atEol a := by
  cases a with
  | nil => simp at h
  | cons c t =>
    simp only [List.cons_append, atEol]
    by_cases hc : c = LF
    · subst hc; simp
    · rw [headIs_append x _ (List.ne_nil_of_mem ((List.mem_cons.mp h).resolve_left fun e => hc e.symm))]

theorem Same.of_append {a : Bytes} (h : LF ∈ a) : ∃ e, Same e (e ++ x) a (a ++ x) := by
  induction a with
  | nil => simp at h
  | cons c t ih =>
    cases he : atEol (c :: t)
    · obtain ⟨e, ht⟩ := ih ((List.mem_cons.mp h).resolve_left fun e => atEol_ne_lf he e.symm)
      exact ⟨e, Same.cons c he ((atEol_append x h).trans he) ht⟩
    · exact ⟨c :: t, Same.eol he (by rw [atEol_append x h]; exact he)⟩

theorem Sim.of_ext {z : Z} (h : HasLF z) : ∃ e, Sim e (e ++ x) z (z.ext x) := by
  obtain ⟨e, he⟩ := Same.of_append x h
  exact ⟨e, rfl, rfl, rfl, rfl, he⟩

theorem Sim.ext_eq {e : Bytes} {z z' : Z} (h : Sim e (e ++ x) z z') : z' = z.ext x ∧ HasLF z := by
  obtain ⟨s, h1, h2, he, _⟩ := h.after.split
  obtain ⟨c, t, rfl, hc⟩ := atEol_head he
  refine ⟨?_, ?_⟩
  · have ha : z'.after = z.after ++ x := by rw [h2, h1, List.append_assoc]
    have hb := h.before; have hl := h.line; have hk := h.col; have hst := h.atStart
    cases z; cases z'
    simp only at ha hb hl hk hst
    simp only [Z.ext, ha, hb, hl, hk, hst]
  · rcases atEol_cases he with ⟨u, hu⟩ | ⟨u, hu⟩ <;> simp [HasLF, h1, hu]

theorem scanNewline_ext {z : Z} (h : atEol z.after = true) : scanNewline (z.ext x) = extR x (scanNewline z) := by
  obtain ⟨cr, t, hz⟩ := atEol_eol_cases h
  rw [scanNewline_atc cr hz, scanNewline_atc cr (z := z.ext x) (t := t ++ x) (by rw [ext_after, hz, List.append_assoc])]
  rfl

/-- **`Next` does not look behind the next line feed.** -/
theorem next_ext (C : Classes) {z : Z} (h : HasLF z) : next C (z.ext x) = extR x (next C z) := by
  obtain ⟨e, hs⟩ := Sim.of_ext x h
  cases next_sim C hs with
  | inside hr => exact Prod.ext hr.1 (Sim.ext_eq x hr.2).1
  | newline y y' hy h1 _ hr hr' =>
    rw [hr, hr', (Sim.ext_eq x hy).1]
    obtain ⟨_, _, _, he, _⟩ := hy.after.split
    exact scanNewline_ext x (h1 ▸ he)

theorem advLine_ext (p : UInt8 → Bool) {z : Z} (h : HasLF z) :
    advLine p (z.ext x) = (advLine p z).ext x ∧ HasLF (advLine p z) := by
  obtain ⟨e, hs⟩ := Sim.of_ext x h
  exact Sim.ext_eq x (advLine_sim p hs)

end HL.Lex
