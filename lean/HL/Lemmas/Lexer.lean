import HL.Model.Lexer
import HL.Lemmas.Utf8
import HL.Spec.LexSpec
/-!
  General lemmas about the lexer model (every byte string, every `Classes` instance):
  the zipper only moves forward (`Adv`), every loop consumes (`*_lt`), fuel never runs out
  (`*_fuel`), every scan function returns a well-placed token (`Good`) and makes progress.

  Every loop of the model is the fuel-bounded iteration `loopF` of a step function (`*_eq`): the
  step decides from the unread input alone (`headP`, `lineP`, `acctAct`, `numAct`) and moves by
  `advance`.  What holds of a loop — here and in the files on locality, lines and extents — is
  read off what one step does (`loopF_inv`, `loopF_rel`, `loopF_fuel`).
-/
namespace HL.Lex
open HL HL.Utf8

namespace Ctl
scoped notation "LF" => (0x0A : UInt8)
scoped notation "CR" => (0x0D : UInt8)
end Ctl
open Ctl

/-- the derived `==` compares constructor indices -/
instance : LawfulBEq TokType where
  rfl := by intro a; exact beq_self_eq_true a.ctorIdx
  eq_of_beq := by
    intro a b h
    have := congrArg TokType.ofNat (eq_of_beq h : a.ctorIdx = b.ctorIdx)
    rwa [TokType.ofNat_ctorIdx, TokType.ofNat_ctorIdx] at this

/-- `z'` is reached from `z` by consuming a prefix of `z.after` (line/column are not constrained). -/
def Adv (z z' : Z) : Prop := ∃ pre, z.after = pre ++ z'.after ∧ z'.before = pre.reverse ++ z.before

theorem Adv.refl (z : Z) : Adv z z := ⟨[], by simp, by simp⟩

theorem Adv.trans {a b c : Z} (h1 : Adv a b) (h2 : Adv b c) : Adv a c := by
  obtain ⟨p, h1a, h1b⟩ := h1
  obtain ⟨q, h2a, h2b⟩ := h2
  exact ⟨p ++ q, by simp [h1a, h2a], by simp [h1b, h2b]⟩

theorem Adv.congr {a b b' : Z} (h : Adv a b) (hb : b'.before = b.before) (ha : b'.after = b.after) :
    Adv a b' := by
  obtain ⟨p, h1, h2⟩ := h
  exact ⟨p, by rw [ha]; exact h1, by rw [hb]; exact h2⟩

theorem Adv.bump (z : Z) (w : Nat) : Adv z (z.bump w) :=
  ⟨z.after.take w, by simp [Z.bump], by simp [Z.bump]⟩

theorem Adv.advance (z : Z) : Adv z (advance z) := by
  unfold HL.Lex.advance
  split
  · exact Adv.refl z
  · exact Adv.bump z _

theorem Adv.after_le {z z' : Z} (h : Adv z z') : z'.after.length ≤ z.after.length := by
  obtain ⟨p, h1, _⟩ := h
  simp [h1]

theorem Adv.before_le {z z' : Z} (h : Adv z z') : z.before.length ≤ z'.before.length := by
  obtain ⟨p, _, h2⟩ := h
  simp [h2]

theorem Adv.total {z z' : Z} (h : Adv z z') :
    z'.before.length + z'.after.length = z.before.length + z.after.length := by
  obtain ⟨p, h1, h2⟩ := h
  simp [h1, h2]; omega

theorem Adv.input {z z' : Z} (h : Adv z z') : z'.input = z.input := by
  obtain ⟨p, h1, h2⟩ := h
  simp [Z.input, h1, h2]

theorem input_drop_before (z : Z) : z.input.drop z.before.length = z.after := by
  have : z.before.length = z.before.reverse.length := by simp
  rw [Z.input, this, List.drop_left]

theorem advance_cons {z : Z} {b : UInt8} {t : Bytes} (h : z.after = b :: t) :
    advance z = z.bump (decodeRune (b :: t)).2 := by
  unfold advance; rw [h]

theorem advance_ascii {z : Z} {b : UInt8} {t : Bytes} (hz : z.after = b :: t) (hb : b < 0x80) :
    advance z = { z with before := b :: z.before, after := t, col := z.col + 1 } := by
  unfold advance
  simp [hz, decodeRune, hb, Z.bump]

theorem advance_rem_lt (z : Z) (h : z.after ≠ []) : (advance z).after.length < z.after.length := by
  obtain ⟨b, t, hz⟩ := List.exists_cons_of_ne_nil h
  have := decodeRune_width_pos b t
  rw [advance_cons hz]
  simp [Z.bump, hz]
  omega

/-- Fuel-bounded iteration of a partial step function: the shape of every loop of the lexer. -/
def loopF {α : Type} (step : α → Option α) : Nat → α → α
  | 0, s => s
  | n+1, s =>
    match step s with
    | none => s
    | some s' => loopF step n s'

section
variable {α β : Type} {f : α → Option α} {g : β → Option β}

theorem loopF_none {s : α} (h : f s = none) (n : Nat) : loopF f n s = s := by
  cases n with
  | zero => rfl
  | succ n => rw [loopF, h]

theorem loopF_some {s s' : α} (h : f s = some s') (n : Nat) : loopF f (n + 1) s = loopF f n s' := by
  rw [loopF, h]

theorem loopF_inv (P : α → Prop) (h : ∀ s s', f s = some s' → P s → P s') (n : Nat) {s : α} (hs : P s) :
    P (loopF f n s) := by
  induction n generalizing s with
  | zero => exact hs
  | succ n ih =>
    cases hf : f s with
    | none => rw [loopF_none hf]; exact hs
    | some s' => rw [loopF_some hf]; exact ih (h s s' hf hs)

theorem loopF_rel (R : α → β → Prop)
    (h : ∀ s t, R s t → (f s = none ∧ g t = none) ∨ ∃ s' t', f s = some s' ∧ g t = some t' ∧ R s' t')
    (n : Nat) {s : α} {t : β} (hst : R s t) : R (loopF f n s) (loopF g n t) := by
  induction n generalizing s t with
  | zero => exact hst
  | succ n ih =>
    rcases h s t hst with ⟨hf, hg⟩ | ⟨s', t', hf, hg, h'⟩
    · rw [loopF_none hf, loopF_none hg]; exact hst
    · rw [loopF_some hf, loopF_some hg]; exact ih h'

theorem loopF_map (T : α → β) (h : ∀ s, g (T s) = (f s).map T) (n : Nat) (s : α) :
    loopF g n (T s) = T (loopF f n s) := by
  refine loopF_rel (fun s t => t = T s) (fun s t hst => ?_) n rfl
  subst hst
  rw [h]
  cases f s with
  | none => exact Or.inl ⟨rfl, rfl⟩
  | some s' => exact Or.inr ⟨s', _, rfl, rfl, rfl⟩

theorem loopF_fuel (μ : α → Nat) (h : ∀ s s', f s = some s' → μ s' < μ s) (n m : Nat) (s : α)
    (hn : μ s ≤ n) (hm : μ s ≤ m) : loopF f n s = loopF f m s := by
  induction n generalizing m s with
  | zero =>
    cases hf : f s with
    | none => rw [loopF_none hf, loopF_none hf]
    | some s' => have := h s s' hf; omega
  | succ n ih =>
    cases hf : f s with
    | none => rw [loopF_none hf, loopF_none hf]
    | some s' =>
      have := h s s' hf
      obtain ⟨m, rfl⟩ : ∃ k, m = k + 1 := ⟨m - 1, by omega⟩
      rw [loopF_some hf, loopF_some hf]
      exact ih m s' (by omega) (by omega)

theorem loopF_stop (μ : α → Nat) (h : ∀ s s', f s = some s' → μ s' < μ s) (n : Nat) (s : α)
    (hn : μ s ≤ n) : f (loopF f n s) = none := by
  induction n generalizing s with
  | zero =>
    cases hf : f s with
    | none => exact hf
    | some s' => have := h s s' hf; omega
  | succ n ih =>
    cases hf : f s with
    | none => rw [loopF_none hf]; exact hf
    | some s' =>
      have := h s s' hf
      rw [loopF_some hf]
      exact ih s' (by omega)
end

/-- the loop condition of `advWhile p` as a predicate of the unread input -/
def headP (p : UInt8 → Bool) : Bytes → Bool
  | [] => false
  | b :: _ => p b

/-- the loop condition of `advLine p` -/
def lineP (p : UInt8 → Bool) (a : Bytes) : Bool := headP p a && !atEol a

/-- one turn of a loop that steps over a rune while `q` holds of the unread input -/
def advStep (q : Bytes → Bool) (z : Z) : Option Z :=
  match z.after with
  | [] => none
  | b :: t => if q (b :: t) then some (advance z) else none

/-- step over runes while `q` holds of the unread input -/
abbrev advF (q : Bytes → Bool) : Nat → Z → Z := loopF (advStep q)

theorem advWhileF_eq (p : UInt8 → Bool) (n : Nat) (z : Z) : advWhileF p n z = advF (headP p) n z := by
  induction n generalizing z with
  | zero => rfl
  | succ n ih =>
    rw [advWhileF, advF, loopF, advStep]
    cases z.after with
    | nil => rfl
    | cons b t =>
      cases hp : p b
      · simp only [headP, hp, Bool.false_eq_true, if_false]
      · simp only [headP, hp, if_true, ih]

theorem advLineF_eq (p : UInt8 → Bool) (n : Nat) (z : Z) : advLineF p n z = advF (lineP p) n z := by
  induction n generalizing z with
  | zero => rfl
  | succ n ih =>
    rw [advLineF, advF, loopF, advStep]
    cases z.after with
    | nil => rfl
    | cons b t =>
      cases hp : p b && !atEol (b :: t)
      · simp only [lineP, headP, hp, Bool.false_eq_true, if_false]
      · simp only [lineP, headP, hp, if_true, ih]

/-- `advIf` is one turn of the loop of `advWhile` -/
theorem advIf_eq (p : UInt8 → Bool) (z : Z) : advIf p z = advF (headP p) 1 z := by
  rw [advIf, advF, loopF, advStep]
  cases z.after with
  | nil => rfl
  | cons b t =>
    cases hp : p b
    · simp only [headP, hp, Bool.false_eq_true, if_false]
    · simp only [headP, hp, if_true]; rfl

theorem advStep_cons (q : Bytes → Bool) {z : Z} {b : UInt8} {t : Bytes} (hz : z.after = b :: t) :
    advStep q z = if q (b :: t) then some (advance z) else none := by
  rw [advStep, hz]

theorem advStep_some {q : Bytes → Bool} {z z' : Z} (h : advStep q z = some z') :
    z' = advance z ∧ z.after ≠ [] ∧ q z.after = true := by
  unfold advStep at h
  split at h
  · cases h
  · rename_i b t hz
    split at h
    · rename_i hq
      cases h
      exact ⟨rfl, by simp [hz], by rw [hz]; exact hq⟩
    · cases h

theorem advStep_lt {q : Bytes → Bool} {z z' : Z} (h : advStep q z = some z') :
    z'.after.length < z.after.length := by
  obtain ⟨rfl, hne, _⟩ := advStep_some h
  exact advance_rem_lt z hne

theorem advF_adv (q : Bytes → Bool) (n : Nat) (z : Z) : Adv z (advF q n z) :=
  loopF_inv (Adv z) (fun s _ h hs => (advStep_some h).1 ▸ hs.trans (Adv.advance s)) n (Adv.refl z)

theorem advF_fuel (q : Bytes → Bool) (n m : Nat) (z : Z) (hn : z.after.length ≤ n) (hm : z.after.length ≤ m) :
    advF q n z = advF q m z :=
  loopF_fuel (fun s : Z => s.after.length) (fun _ _ => advStep_lt) n m z hn hm

theorem advF_stop (q : Bytes → Bool) (n : Nat) (z : Z) (hn : z.after.length ≤ n) :
    ∀ b t, (advF q n z).after = b :: t → q (b :: t) = false := by
  intro b t h
  have := loopF_stop (f := advStep q) (fun s : Z => s.after.length) (fun _ _ => advStep_lt) n z hn
  rw [advStep_cons q h] at this
  cases hq : q (b :: t)
  · rfl
  · rw [hq] at this; cases this

theorem advF_lt (q : Bytes → Bool) (n : Nat) (z : Z) {b : UInt8} {t : Bytes} (h : z.after = b :: t)
    (hq : q (b :: t) = true) (hn : 0 < n) : (advF q n z).after.length < z.after.length := by
  obtain ⟨n, rfl⟩ : ∃ k, n = k + 1 := ⟨n - 1, by omega⟩
  have hs : advStep q z = some (advance z) := by rw [advStep_cons q h, hq]; rfl
  have h1 := advance_rem_lt z (by simp [h])
  have h2 := (advF_adv q n (advance z)).after_le
  rw [advF, loopF_some hs]
  exact Nat.lt_of_le_of_lt h2 h1

theorem advWhile_eq (p : UInt8 → Bool) (z : Z) : advWhile p z = advF (headP p) z.after.length z :=
  advWhileF_eq p _ z

theorem advLine_eq (p : UInt8 → Bool) (z : Z) : advLine p z = advF (lineP p) z.after.length z :=
  advLineF_eq p _ z

theorem advWhile_adv (p : UInt8 → Bool) (z : Z) : Adv z (advWhile p z) := advWhile_eq p z ▸ advF_adv _ _ z

theorem advIf_adv (p : UInt8 → Bool) (z : Z) : Adv z (advIf p z) := advIf_eq p z ▸ advF_adv _ 1 z

theorem advWhile_eq_fuel (p : UInt8 → Bool) (z : Z) (n : Nat) (hn : z.after.length ≤ n) :
    advWhile p z = advWhileF p n z := by
  rw [advWhile_eq, advWhileF_eq]; exact advF_fuel _ _ n z (Nat.le_refl _) hn

theorem advWhile_lt (p : UInt8 → Bool) (z : Z) {b : UInt8} {t : Bytes} (h : z.after = b :: t) (hp : p b = true) :
    (advWhile p z).after.length < z.after.length := by
  rw [advWhile_eq]; exact advF_lt (headP p) _ z h hp (by rw [h]; exact Nat.succ_pos _)

theorem advWhile_stop (p : UInt8 → Bool) (z : Z) :
    ∀ b t, (advWhile p z).after = b :: t → p b = false := by
  rw [advWhile_eq]; exact advF_stop (headP p) _ z (Nat.le_refl _)

theorem atEol_cons (c : UInt8) (t : Bytes) : atEol (c :: t) = (c == 0x0A || (c == 0x0D && headIs 0x0A t)) := rfl

theorem atEol_nil : atEol [] = false := rfl

theorem atEol_of_ne {c : UInt8} {t : Bytes} (h1 : c ≠ 0x0A) (h2 : c ≠ 0x0D) : atEol (c :: t) = false := by
  simp [atEol, h1, h2]

theorem atEol_cases {a : Bytes} (h : atEol a = true) :
    (∃ t, a = 0x0A :: t) ∨ (∃ t, a = 0x0D :: 0x0A :: t) := by
  cases a with
  | nil => simp [atEol] at h
  | cons c t =>
    simp only [atEol, Bool.or_eq_true, Bool.and_eq_true, beq_iff_eq] at h
    rcases h with rfl | ⟨rfl, h⟩
    · exact Or.inl ⟨t, rfl⟩
    · cases t with
      | nil => simp [headIs] at h
      | cons d u =>
        simp only [headIs, beq_iff_eq] at h
        subst h
        exact Or.inr ⟨u, rfl⟩

/-- the state behind a line feed -/
def Z.nl (z : Z) (rest : Bytes) : Z := ⟨LF :: z.before, rest, z.line + 1, 1, true⟩

/-- the Newline token at `z` -/
def nlTok (z : Z) : Token := ⟨.newline, [LF], z.position, ⟨z.line + 1, 1, z.before.length + 1⟩⟩

/-- a line end: LF, or CR LF -/
def eol (cr : Bool) : Bytes := if cr then [0x0D, LF] else [LF]

@[simp] theorem eol_false : eol false = [LF] := rfl
@[simp] theorem eol_true : eol true = [0x0D, LF] := rfl

theorem atEol_eol (cr : Bool) (t : Bytes) : atEol (eol cr ++ t) = true := by
  cases cr <;> rfl

/-- `atEol_cases` with the two line ends written as `eol cr`, the form `scanNewline_atc` takes;
    where only the first byte matters, `atEol_head` -/
theorem atEol_eol_cases {a : Bytes} (h : atEol a = true) : ∃ cr t, a = eol cr ++ t := by
  rcases atEol_cases h with ⟨t, rfl⟩ | ⟨t, rfl⟩
  · exact ⟨false, t, rfl⟩
  · exact ⟨true, t, rfl⟩

theorem atEol_head {a : Bytes} (h : atEol a = true) : ∃ c t, a = c :: t ∧ (c = LF ∨ c = CR) := by
  rcases atEol_cases h with ⟨t, rfl⟩ | ⟨t, rfl⟩
  · exact ⟨_, _, rfl, Or.inl rfl⟩
  · exact ⟨_, _, rfl, Or.inr rfl⟩

/-- the state behind the line end `eol cr` -/
def Z.nlc (z : Z) (cr : Bool) (rest : Bytes) : Z :=
  ⟨(eol cr).reverse ++ z.before, rest, z.line + 1, 1, true⟩

/-- the Newline token at `z` for the line end `eol cr`: it starts at the CR, if there is one -/
def nlTokc (z : Z) (cr : Bool) : Token :=
  ⟨.newline, [LF], z.position, ⟨z.line + 1, 1, z.before.length + (eol cr).length⟩⟩

theorem nlc_false (z : Z) (t : Bytes) : z.nlc false t = z.nl t := rfl
theorem nlTokc_false (z : Z) : nlTokc z false = nlTok z := rfl

/-- **Newline.**  `"\n"` and `"\r\n"` are each ONE Newline token. -/
theorem scanNewline_atc {z : Z} {t : Bytes} (cr : Bool) (hz : z.after = eol cr ++ t) :
    scanNewline z = (nlTokc z cr, z.nlc cr t) := by
  cases cr with
  | false =>
    have h0 : advIf (· == 0x0D) z = z := by simp [advIf, hz]
    rw [scanNewline, h0, advance_ascii (hz : z.after = LF :: t) (by decide)]
    simp [mkTok, nlTokc, Z.nlc, Z.position]
  | true =>
    have h0 : advIf (· == 0x0D) z = advance z := by simp [advIf, hz]
    rw [scanNewline, h0, advance_ascii (hz : z.after = 0x0D :: LF :: t) (by decide),
      advance_ascii (b := LF) (t := t) rfl (by decide)]
    simp [mkTok, nlTokc, Z.nlc, Z.position]

theorem advLine_adv (p : UInt8 → Bool) (z : Z) : Adv z (advLine p z) := advLine_eq p z ▸ advF_adv _ _ z

theorem advLine_eq_fuel (p : UInt8 → Bool) (z : Z) (n : Nat) (hn : z.after.length ≤ n) :
    advLine p z = advLineF p n z := by
  rw [advLine_eq, advLineF_eq]; exact advF_fuel _ _ n z (Nat.le_refl _) hn

theorem advLine_lt (p : UInt8 → Bool) (z : Z) {b : UInt8} {t : Bytes} (h : z.after = b :: t)
    (hp : (p b && !atEol (b :: t)) = true) : (advLine p z).after.length < z.after.length := by
  rw [advLine_eq]; exact advF_lt (lineP p) _ z h hp (by rw [h]; exact Nat.succ_pos _)

theorem advLine_stop (p : UInt8 → Bool) (z : Z) :
    ∀ b t, (advLine p z).after = b :: t → (p b && !atEol (b :: t)) = false := by
  rw [advLine_eq]; exact advF_stop (lineP p) _ z (Nat.le_refl _)

/-- what the loop of `scanAccount` does at the unread input: stop (`none`), or step over a rune
    that is a single blank (`some true`) or part of the name (`some false`) -/
def acctAct : Bytes → Option Bool
  | [] => none
  | b :: t =>
    let r := (decodeRune (b :: t)).1
    if r == 0x20 then (if headIs 0x20 t then none else some true)
    else if isAccountTerminator r then none
    else some false

/-- one turn of the loop of `scanAccount` on (current state, state at `lastNonSpace`) -/
def acctStep (s : Z × Z) : Option (Z × Z) :=
  match acctAct s.1.after with
  | none => none
  | some blank => some (advance s.1, if blank then s.2 else advance s.1)

theorem scanAccountF_eq (n : Nat) (z l : Z) : scanAccountF n z l = loopF acctStep n (z, l) := by
  induction n generalizing z l with
  | zero => rfl
  | succ n ih =>
    rw [scanAccountF, loopF, acctStep]
    cases hz : z.after with
    | nil => rfl
    | cons b t =>
      simp only [acctAct, ← advance_cons hz]
      cases h1 : (decodeRune (b :: t)).1 == 0x20
      · cases h2 : isAccountTerminator (decodeRune (b :: t)).1
        · simp only [Bool.false_eq_true, if_false, ih]
        · simp only [Bool.false_eq_true, if_false, if_true]
      · cases h2 : headIs 0x20 t
        · simp only [Bool.false_eq_true, if_false, if_true, ih]
        · simp only [if_true]

theorem acctStep_some {s s' : Z × Z} (h : acctStep s = some s') :
    ∃ blank, acctAct s.1.after = some blank ∧ s' = (advance s.1, if blank then s.2 else advance s.1) := by
  unfold acctStep at h
  split at h
  · cases h
  · rename_i blank ha
    cases h
    exact ⟨blank, ha, rfl⟩

theorem acctAct_ne_nil {a : Bytes} {v : Bool} (h : acctAct a = some v) : a ≠ [] :=
  fun e => by rw [e] at h; cases h

theorem scanAccountF_adv (n : Nat) (z l : Z) (hl : Adv l z) :
    Adv z (scanAccountF n z l).1 ∧ Adv l (scanAccountF n z l).2 ∧
      Adv (scanAccountF n z l).2 (scanAccountF n z l).1 := by
  rw [scanAccountF_eq]
  refine loopF_inv (fun s : Z × Z => Adv z s.1 ∧ Adv l s.2 ∧ Adv s.2 s.1) ?_ n ⟨Adv.refl z, Adv.refl l, hl⟩
  intro s s' h ⟨h1, h2, h3⟩
  obtain ⟨blank, _, rfl⟩ := acctStep_some h
  have ha := Adv.advance s.1
  cases blank
  · exact ⟨h1.trans ha, (h2.trans h3).trans ha, Adv.refl _⟩
  · exact ⟨h1.trans ha, h2, h3.trans ha⟩

theorem scanAccountF_fuel (n m : Nat) (z l : Z)
    (hn : z.after.length ≤ n) (hm : z.after.length ≤ m) : scanAccountF n z l = scanAccountF m z l := by
  rw [scanAccountF_eq, scanAccountF_eq]
  refine loopF_fuel (fun s : Z × Z => s.1.after.length) (fun s s' h => ?_) n m (z, l) hn hm
  obtain ⟨_, ha, rfl⟩ := acctStep_some h
  exact advance_rem_lt s.1 (acctAct_ne_nil ha)

/-- one turn of the loop of `looksLikeAccount` on (unread input, `hasColon`): it walks as the
    loop of `scanAccount` does, and remembers whether it met a colon -/
def lookStep (s : Bytes × Bool) : Option (Bytes × Bool) :=
  match acctAct s.1 with
  | none => none
  | some _ => some (s.1.drop (decodeRune s.1).2, s.2 || (decodeRune s.1).1 == 0x3A)

theorem looksLikeAccountF_eq (n : Nat) (a : Bytes) (hc : Bool) :
    looksLikeAccountF n a hc = (loopF lookStep n (a, hc)).2 := by
  induction n generalizing a hc with
  | zero => rfl
  | succ n ih =>
    cases a with
    | nil => rfl
    | cons b t =>
      rw [looksLikeAccountF, loopF, lookStep]
      simp only [acctAct]
      cases h0 : (decodeRune (b :: t)).1 == 0x3A
      · cases h1 : (decodeRune (b :: t)).1 == 0x20
        · cases h2 : isAccountTerminator (decodeRune (b :: t)).1
          · simp only [Bool.false_eq_true, if_false, Bool.or_false, ih]
          · simp only [Bool.false_eq_true, if_false, if_true]
        · cases h2 : headIs 0x20 t
          · simp only [Bool.false_eq_true, if_false, if_true, Bool.or_false, ih]
          · simp only [Bool.false_eq_true, if_false, if_true]
      · have hr : (decodeRune (b :: t)).1 = 0x3A := beq_iff_eq.mp h0
        simp only [hr, if_true, ih, Bool.or_true]
        rfl

theorem lookStep_lt {s s' : Bytes × Bool} (h : lookStep s = some s') : s'.1.length < s.1.length := by
  unfold lookStep at h
  split at h
  · cases h
  · rename_i ha
    cases h
    cases hs : s.1 with
    | nil => rw [hs] at ha; cases ha
    | cons b t =>
      have := decodeRune_width_pos b t
      simp only [List.length_drop, List.length_cons]
      omega

theorem looksLikeAccountF_fuel (n m : Nat) (a : Bytes) (hc : Bool)
    (hn : a.length ≤ n) (hm : a.length ≤ m) : looksLikeAccountF n a hc = looksLikeAccountF m a hc := by
  rw [looksLikeAccountF_eq, looksLikeAccountF_eq]
  exact congrArg Prod.snd (loopF_fuel (fun s : Bytes × Bool => s.1.length) (fun _ _ => lookStep_lt) n m (a, hc) hn hm)

/-- what the loop of `scanNumber` does at the unread input with the flag `hasDigits`: stop, or
    step over one rune — and over a sign behind it (`true`: the `e` of an exponent) — with the
    new flag -/
def numAct : Bytes → Bool → Option (Bool × Bool)
  | [], _ => none
  | ch :: rest, hasDigits =>
    if isDigit ch then some (false, true)
    else if ch == 0x2E || ch == 0x2C then some (false, hasDigits)
    else if ch == 0x20 && headIsDigit rest then some (false, hasDigits)
    else if (ch == 0x45 || ch == 0x65) && hasDigits then
      if expAhead rest then some (true, hasDigits) else none
    else none

/-- one turn of the loop of `scanNumber` on (state, `hasDigits`) -/
def numStep (s : Z × Bool) : Option (Z × Bool) :=
  match numAct s.1.after s.2 with
  | none => none
  | some (sign, hd) => some (if sign then advIf isSign (advance s.1) else advance s.1, hd)

theorem scanNumberF_eq (n : Nat) (z : Z) (hd : Bool) : scanNumberF n z hd = (loopF numStep n (z, hd)).1 := by
  induction n generalizing z hd with
  | zero => rfl
  | succ n ih =>
    rw [scanNumberF, loopF, numStep]
    cases hz : z.after with
    | nil => rfl
    | cons ch rest =>
      simp only [numAct]
      cases h1 : isDigit ch
      · cases h2 : (ch == 0x2E || ch == 0x2C)
        · cases h3 : (ch == 0x20 && headIsDigit rest)
          · cases h4 : ((ch == 0x45 || ch == 0x65) && hd)
            · simp only [Bool.false_eq_true, if_false]
            · cases h5 : expAhead rest
              · simp only [Bool.false_eq_true, if_false, if_true]
              · simp only [Bool.false_eq_true, if_false, if_true, ih]
          · simp only [Bool.false_eq_true, if_false, if_true, ih]
        · simp only [Bool.false_eq_true, if_false, if_true, ih]
      · simp only [Bool.false_eq_true, if_false, if_true, ih]

theorem numStep_some {s s' : Z × Bool} (h : numStep s = some s') :
    ∃ sign hd, numAct s.1.after s.2 = some (sign, hd) ∧
      s' = (if sign then advIf isSign (advance s.1) else advance s.1, hd) := by
  unfold numStep at h
  split at h
  · cases h
  · rename_i sign hd ha
    cases h
    exact ⟨sign, hd, ha, rfl⟩

theorem scanNumberF_adv (n : Nat) (z : Z) (hd : Bool) : Adv z (scanNumberF n z hd) := by
  rw [scanNumberF_eq]
  refine loopF_inv (fun s : Z × Bool => Adv z s.1) (fun s s' h hs => ?_) n (Adv.refl z)
  obtain ⟨sign, _, _, rfl⟩ := numStep_some h
  have ha := hs.trans (Adv.advance s.1)
  cases sign
  · exact ha
  · exact ha.trans (advIf_adv _ _)

theorem scanNumberF_fuel (n m : Nat) (z : Z) (hd : Bool)
    (hn : z.after.length ≤ n) (hm : z.after.length ≤ m) : scanNumberF n z hd = scanNumberF m z hd := by
  rw [scanNumberF_eq, scanNumberF_eq]
  refine congrArg Prod.fst (loopF_fuel (fun s : Z × Bool => s.1.after.length) (fun s s' h => ?_) n m (z, hd) hn hm)
  obtain ⟨sign, _, ha, rfl⟩ := numStep_some h
  have h1 := advance_rem_lt s.1 (fun e => by rw [e] at ha; cases ha)
  have h2 := (advIf_adv isSign (advance s.1)).after_le
  cases sign
  · exact h1
  · exact Nat.lt_of_le_of_lt h2 h1

/-- The token lies between the old and the new lexer position; the new state is ahead. -/
structure Good (z : Z) (r : Token × Z) : Prop where
  adv : Adv z r.2
  pos_ge : z.before.length ≤ r.1.pos.off
  pos_le : r.1.pos.off ≤ r.1.stop.off
  /-- the token ends at or before the position the lexer is left in (before it: an account
      token behind whose name a single blank was scanned, a text token behind whose value white
      space was scanned) -/
  stop_le : r.1.stop.off ≤ r.2.before.length

theorem mkTok_good {z s e : Z} (ty : TokType) (v : Bytes) (hs : Adv z s) (he : Adv s e) :
    Good z (mkTok ty v s e) :=
  ⟨hs.trans he, hs.before_le, he.before_le, Nat.le_refl _⟩

theorem Good.of_adv {z0 z : Z} {r : Token × Z} (h0 : Adv z0 z) (h : Good z r) : Good z0 r :=
  ⟨h0.trans h.adv, Nat.le_trans h0.before_le h.pos_ge, h.pos_le, h.stop_le⟩

/-- Good, starting exactly where the lexer stands, strictly consuming, not an EOF token, and
    not empty. -/
structure Ok (z : Z) (r : Token × Z) : Prop extends Good z r where
  prog : r.2.after.length < z.after.length
  ne_eof : r.1.ty ≠ .eof
  pos_eq : r.1.pos.off = z.before.length
  nonempty : r.1.pos.off < r.1.stop.off

theorem mkTok_ok {z e : Z} (ty : TokType) (v : Bytes) (he : Adv z e)
    (hlt : e.after.length < z.after.length) (hty : ty ≠ .eof) : Ok z (mkTok ty v z e) :=
  ⟨mkTok_good ty v (Adv.refl z) he, hlt, hty, rfl, by
    have := he.total
    simp only [mkTok, Z.position]
    omega⟩

theorem mkTokAt_ok {z e : Z} (ty : TokType) (v : Bytes) (stop : Pos) (he : Adv z e)
    (hlt : e.after.length < z.after.length) (hty : ty ≠ .eof)
    (h1 : z.before.length < stop.off) (h2 : stop.off ≤ e.before.length) :
    Ok z (mkTokAt ty v z stop e) :=
  ⟨⟨he, Nat.le_refl _, Nat.le_of_lt h1, h2⟩, hlt, hty, rfl, h1⟩

/-- what `Next` guarantees in every case (EOF included) -/
structure Res (z : Z) (r : Token × Z) : Prop extends Good z r where
  prog : z.after ≠ [] → r.2.after.length < z.after.length
  eof : r.1.ty = .eof → r.2.after = [] ∧ r.1.pos = r.1.stop
  nonempty : r.1.ty ≠ .eof → r.1.pos.off < r.1.stop.off
  /-- the EOF token ends where the lexer stands (at the end of the input) -/
  stop_eof : r.1.ty = .eof → r.1.stop.off = r.2.before.length

theorem Ok.res {z : Z} {r : Token × Z} (h : Ok z r) : Res z r :=
  ⟨h.toGood, fun _ => h.prog, fun e => absurd e h.ne_eof, fun _ => h.nonempty, fun e => absurd e h.ne_eof⟩

theorem ite_ind {α : Type} {P : α → Prop} {c : Prop} [Decidable c] {a b : α}
    (ha : c → P a) (hb : ¬c → P b) : P (if c then a else b) := by
  split
  · exact ha ‹_›
  · exact hb ‹_›

theorem mkTok_ok1 {z e : Z} (ty : TokType) (v : Bytes) (h : z.after ≠ []) (he : Adv (advance z) e)
    (hty : ty ≠ .eof) : Ok z (mkTok ty v z e) :=
  mkTok_ok _ _ ((Adv.advance z).trans he) (Nat.lt_of_le_of_lt he.after_le (advance_rem_lt z h)) hty

theorem scanDate_ok (z : Z) {b : UInt8} {t : Bytes} (h : z.after = b :: t) (hb : isDigit b = true) :
    Ok z (scanDate z) :=
  mkTok_ok _ _ (advWhile_adv _ z) (advWhile_lt _ z h (by simp [hb])) (by decide)

/-- also used of `scanStatus`, `scanSign` and `scanCurrencySymbol`, which unfold to `punct` with a value
    read off the input -/
theorem punct_ok (ty : TokType) (v : Bytes) (z : Z) (h : z.after ≠ []) (hty : ty ≠ .eof) :
    Ok z (punct ty v z) :=
  mkTok_ok1 _ _ h (Adv.refl _) hty

theorem scanComment_ok (z : Z) (h : z.after ≠ []) : Ok z (scanComment z) :=
  mkTok_ok1 _ _ h (advLine_adv _ _) (by decide)

theorem scanNewline_ok (z : Z) (h : z.after ≠ []) : Ok z (scanNewline z) := by
  have h0 := advIf_adv (· == 0x0D) z
  have h1 := Adv.advance (advIf (· == 0x0D) z)
  have hlt : (advance (advIf (· == 0x0D) z)).after.length < z.after.length := by
    by_cases hz : (advIf (· == 0x0D) z).after = []
    · have h3 : (advance (advIf (· == 0x0D) z)).after.length ≤ 0 := by simpa [hz] using h1.after_le
      have h4 : 0 < z.after.length := List.length_pos_iff.mpr h
      omega
    · have := advance_rem_lt _ hz
      have := h0.after_le
      omega
  exact mkTok_ok _ _ ((h0.trans h1).congr rfl rfl) hlt (by decide)

/-- `scanAt`, `scanEquals`: one `c`, or two -/
theorem pair_ok (c : UInt8) {ty2 ty1 : TokType} (v2 v1 : Bytes) (z : Z) (h : z.after ≠ []) (h2 : ty2 ≠ .eof)
    (h1 : ty1 ≠ .eof) :
    Ok z (if headIs c (advance z).after then mkTok ty2 v2 z (advance (advance z)) else mkTok ty1 v1 z (advance z)) :=
  ite_ind (fun _ => mkTok_ok1 _ _ h (Adv.advance _) h2) fun _ => mkTok_ok1 _ _ h (Adv.refl _) h1

theorem trimRightFunc_length_le (s : Bytes) : (trimRightFunc s).length ≤ s.length := by
  unfold trimRightFunc
  split
  · simp
  · split <;> (rw [List.length_take]; exact Nat.min_le_right _ _)

theorem textStop_bounds {z e : Z} (h : Adv z e) :
    z.before.length ≤ (textStop z e).off ∧ (textStop z e).off ≤ e.before.length ∧
      (z.before.length < e.before.length → z.before.length < (textStop z e).off) := by
  have hle := h.before_le
  have hlen : (between z e).length = e.before.length - z.before.length := by simp [between]
  have htr := trimRightFunc_length_le (between z e)
  unfold textStop
  simp only []
  split
  · exact ⟨hle, Nat.le_refl _, fun h => h⟩
  · rename_i hne
    have : 0 < (trimRightFunc (between z e)).length := List.length_pos_iff.mpr hne
    refine ⟨by simp, by simp only []; omega, fun _ => by simp only []; omega⟩

theorem scanText_ok (z : Z) {b : UInt8} {t : Bytes} (h : z.after = b :: t)
    (hb : ((!(b == 0x3B || b == 0x7C)) && !atEol (b :: t)) = true) : Ok z (scanText z) := by
  have ha := advLine_adv (fun ch => !(ch == 0x3B || ch == 0x7C)) z
  have hlt := advLine_lt (fun ch => !(ch == 0x3B || ch == 0x7C)) z h hb
  have hb := textStop_bounds ha
  have := ha.total
  exact mkTokAt_ok _ _ _ ha hlt (by decide) (hb.2.2 (by omega)) hb.2.1

theorem scanNumber_ok (z : Z) {b : UInt8} {t : Bytes} (h : z.after = b :: t) (hb : isDigit b = true) :
    Ok z (scanNumber z) := by
  unfold scanNumber
  refine mkTok_ok _ _ (scanNumberF_adv _ z false) ?_ (by decide)
  rw [h]
  simp only [List.length_cons, scanNumberF, h, hb, if_true]
  have h1 := advance_rem_lt z (by simp [h])
  have h2 := (scanNumberF_adv t.length (advance z) true).after_le
  simp [h] at h1
  omega

theorem acctAct_colon {a : Bytes} (h : ((decodeRune a).1 == 0x3A) = true) : acctAct a ≠ some true := by
  cases a with
  | nil => exact fun e => by cases e
  | cons b t =>
    rw [acctAct, beq_iff_eq.mp h]
    exact fun e => by cases e

/-- The loops of `looksLikeAccount` and of `scanAccount` walk together; where the first has met a
    colon, the second has moved `lastNonSpace`: the state at `lastNonSpace` lies strictly behind
    the start. -/
theorem scanAccountF_last_gt (n : Nat) (z l : Z) (h : looksLikeAccountF n z.after false = true) :
    z.before.length < (scanAccountF n z l).2.before.length := by
  rw [looksLikeAccountF_eq] at h
  rw [scanAccountF_eq]
  refine (loopF_rel (fun (s : Bytes × Bool) (t : Z × Z) => s.1 = t.1.after ∧ z.before.length ≤ t.1.before.length ∧
    (s.2 = true → z.before.length < t.2.before.length)) (fun s t hst => ?_) n (s := (z.after, false)) (t := (z, l))
    ⟨rfl, Nat.le_refl _, fun e => by cases e⟩).2.2 h
  obtain ⟨h1, h2, h3⟩ := hst
  unfold lookStep acctStep
  rw [h1]
  cases ha : acctAct t.1.after with
  | none => exact Or.inl ⟨rfl, rfl⟩
  | some blank =>
    have hlt : t.1.before.length < (advance t.1).before.length := by
      have := advance_rem_lt t.1 (acctAct_ne_nil ha); have := (Adv.advance t.1).total; omega
    obtain ⟨b, u, hu⟩ := List.exists_cons_of_ne_nil (acctAct_ne_nil ha)
    refine Or.inr ⟨_, _, rfl, rfl, ?_, Nat.le_of_lt (Nat.lt_of_le_of_lt h2 hlt), fun hc => ?_⟩
    · rw [advance_cons hu, hu]; simp [Z.bump, hu]
    · cases blank
      · exact Nat.lt_of_le_of_lt h2 hlt
      · refine h3 ?_
        cases hs : s.2
        · rw [hs, Bool.false_or] at hc; exact absurd ha (acctAct_colon hc)
        · rfl

/-- if `looksLikeAccount` says yes, the account token is not empty: its End lies behind the
    colon at least (and the loop takes at least its first rune) -/
theorem scanAccount_ok (z : Z) (hl : looksLikeAccount z.after = true) : Ok z (scanAccount z) := by
  have hadv := scanAccountF_adv z.after.length z z (Adv.refl z)
  have hgt := scanAccountF_last_gt z.after.length z z hl
  have h1 := hadv.2.2.before_le
  have h2 := hadv.1.total
  show Ok z (mkTokAt .account _ z (scanAccountF z.after.length z z).2.position (scanAccountF z.after.length z z).1)
  exact mkTokAt_ok _ _ _ hadv.1 (by omega) (by decide) hgt h1

theorem letter_text_ok {b : UInt8} {t : Bytes} (hb : isLetter b = true) :
    ((!(b == 0x3B || b == 0x7C)) && !atEol (b :: t)) = true := by
  have h1 : b ≠ 0x0A := by intro e; subst e; revert hb; decide
  have h2 : b ≠ 0x0D := by intro e; subst e; revert hb; decide
  have h3 : b ≠ 0x3B := by intro e; subst e; revert hb; decide
  have h4 : b ≠ 0x7C := by intro e; subst e; revert hb; decide
  simp [atEol_of_ne h1 h2, h3, h4]

theorem scanDirectiveOrAccount_ok (z : Z) {b : UInt8} {t : Bytes} (h : z.after = b :: t)
    (hb : isLetter b = true) : Ok z (scanDirectiveOrAccount z) := by
  unfold scanDirectiveOrAccount
  simp only []
  split
  · exact mkTok_ok _ _ (advWhile_adv _ z) (advWhile_lt _ z h hb) (by decide)
  · split
    · rename_i hl
      exact scanAccount_ok z hl
    · exact scanText_ok z h (letter_text_ok hb)

theorem between_ne_nil_lt {s e : Z} (h : between s e ≠ []) : s.before.length < e.before.length := by
  unfold between at h
  by_cases hc : s.before.length < e.before.length
  · exact hc
  · have : e.before.length - s.before.length = 0 := by omega
    simp [this] at h

theorem scanCommodityOrText_ok (C : Classes) (z : Z) {b : UInt8} {t : Bytes} (h : z.after = b :: t)
    (hb : ((!(b == 0x3B || b == 0x7C)) && !atEol (b :: t)) = true) : Ok z (scanCommodityOrText C z) := by
  unfold scanCommodityOrText
  simp only []
  have h1 := advWhile_adv isLetter z
  split
  · rename_i he
    simp only [Bool.and_eq_true, decide_eq_true_eq] at he
    have := h1.total
    exact mkTok_ok _ _ h1 (by omega) (by decide)
  · have h2 := advWhile_adv (fun c => isLetter c || isDigit c) (advWhile isLetter z)
    split
    · rename_i hc
      simp only [looksLikeCommodity, Bool.and_eq_true, Bool.not_eq_true', List.isEmpty_eq_false_iff] at hc
      have hlt := between_ne_nil_lt hc.1
      have := (h1.trans h2).total
      exact mkTok_ok _ _ (h1.trans h2) (by omega) (by decide)
    · exact scanText_ok z h hb

theorem Res.of_ok_adv {z0 z : Z} {r : Token × Z} (h0 : Adv z0 z) (h : Ok z r) : Res z0 r :=
  ⟨h.toGood.of_adv h0, fun _ => Nat.lt_of_lt_of_le h.prog h0.after_le, fun e => absurd e h.ne_eof,
    fun _ => h.nonempty, fun e => absurd e h.ne_eof⟩

theorem scanInLine_res (C : Classes) (z0 : Z) : Res z0 (scanInLine C z0) := by
  unfold scanInLine
  have hs : Adv z0 (skipSpaces z0) := advWhile_adv _ z0
  generalize skipSpaces z0 = z at hs ⊢
  unfold scanInLineAt
  simp only []
  split
  · rename_i heq
    refine ⟨mkTok_good _ _ hs (Adv.refl z), ?_, ?_, ?_, fun _ => rfl⟩
    · intro hne
      have : 0 < z0.after.length := List.length_pos_iff.mpr hne
      simpa [mkTok, heq] using this
    · intro _
      exact ⟨heq, rfl⟩
    · intro h; exact absurd rfl h
  · rename_i ch t heq
    have hne : z.after ≠ [] := by simp [heq]
    refine Res.of_ok_adv hs ?_
    refine ite_ind (fun _ => scanNewline_ok z hne) fun c1 => ?_
    refine ite_ind (fun _ => scanComment_ok z hne) fun c2 => ?_
    refine ite_ind (fun _ => ite_ind (fun _ => punct_ok _ _ z hne (by decide)) fun _ =>
      mkTok_ok1 _ _ hne ((advLine_adv _ _).trans (advIf_adv _ _)) (by decide)) fun _ => ?_
    refine ite_ind (fun _ => punct_ok _ _ z hne (by decide)) fun _ => ?_
    refine ite_ind (fun _ => punct_ok _ _ z hne (by decide)) fun _ => ?_
    refine ite_ind (fun _ => punct_ok _ _ z hne (by decide)) fun _ => ?_
    refine ite_ind (fun _ => punct_ok _ _ z hne (by decide)) fun c3 => ?_
    refine ite_ind (fun _ => pair_ok _ _ _ z hne (by decide) (by decide)) fun _ => ?_
    refine ite_ind (fun _ => pair_ok _ _ _ z hne (by decide) (by decide)) fun _ => ?_
    refine ite_ind (fun _ => punct_ok .status _ z hne (by decide)) fun _ => ?_
    refine ite_ind (fun _ => ?_) fun _ => ?_
    · have := punct_ok .commodity (encodeRune (decodeRune (ch :: t)).1) z hne (by decide)
      rwa [punct, advance_cons heq, ← heq] at this
    refine ite_ind (fun _ => mkTok_ok1 _ _ hne ((advLine_adv _ _).trans (advIf_adv _ _)) (by decide)) fun _ => ?_
    have hb : ((!(ch == 0x3B || ch == 0x7C)) && !atEol (ch :: t)) = true := by
      simp only [Bool.not_eq_true] at c1 c2 c3
      simp [c1, c2, c3]
    refine ite_ind (fun _ => ite_ind (fun _ => punct_ok .sign _ z hne (by decide)) fun _ => scanText_ok z heq hb) fun _ => ?_
    refine ite_ind (fun hd => ite_ind (fun _ => scanDate_ok z heq hd) fun _ => scanNumber_ok z heq hd) fun _ => ?_
    refine ite_ind (fun _ => ite_ind (fun hl => scanAccount_ok z hl) fun _ => scanCommodityOrText_ok C z heq hb) fun _ => ?_
    exact scanText_ok z heq hb

theorem scanLineStartAt_res (C : Classes) (z : Z) {b : UInt8} {t : Bytes} (heq : z.after = b :: t) :
    Res z (scanLineStartAt C z) := by
  have hne : z.after ≠ [] := by simp [heq]
  have hp : peek z = b := by rw [peek, heq]; rfl
  rw [scanLineStartAt, hp, heq]
  refine ite_ind (fun _ => (scanComment_ok z hne).res) fun _ => ?_
  refine ite_ind (fun hw => (mkTok_ok _ _ (advLine_adv _ z) (advLine_lt _ z heq hw) (by decide)).res) fun _ => ?_
  refine ite_ind (fun hd => (scanDate_ok z heq hd).res) fun _ => ?_
  exact ite_ind (fun hl => (scanDirectiveOrAccount_ok z heq hl).res) fun _ => scanInLine_res C z

theorem scanLineStart_res (C : Classes) (z0 : Z) {b : UInt8} {t : Bytes} (h : z0.after = b :: t) :
    Res z0 (scanLineStart C z0) := by
  unfold scanLineStart
  have hs : Adv z0 { z0 with atStart := false } := (Adv.refl z0).congr rfl rfl
  have := scanLineStartAt_res C { z0 with atStart := false } (b := b) (t := t) h
  exact ⟨this.toGood.of_adv hs, this.prog, this.eof, this.nonempty, this.stop_eof⟩

/-- Everything `Next` guarantees, for every state, every byte string, every classifier. -/
theorem next_res (C : Classes) (z : Z) : Res z (next C z) := by
  unfold next
  split
  · rename_i heq
    exact ⟨mkTok_good _ _ (Adv.refl z) (Adv.refl z), fun h => absurd heq h, fun _ => ⟨heq, rfl⟩,
      fun h => absurd rfl h, fun _ => rfl⟩
  · rename_i b t heq
    split
    · exact scanLineStart_res C z heq
    · exact scanInLine_res C z

theorem next_nil (C : Classes) {z : Z} (h : z.after = []) : next C z = mkTok .eof [] z z := by
  unfold next; rw [h]

theorem next_lt_of_ne_eof (C : Classes) (z : Z) (h : (next C z).1.ty ≠ .eof) :
    (next C z).2.after.length < z.after.length := by
  apply (next_res C z).prog
  intro h0
  rw [next_nil C h0] at h
  exact h rfl

theorem lexF_ne_nil (C : Classes) (n : Nat) (z : Z) (h : 0 < n) : lexF C n z ≠ [] := by
  cases n with
  | zero => omega
  | succ n =>
    unfold lexF
    simp only []
    split <;> simp

theorem lexF_fuel (C : Classes) (n m : Nat) (z : Z)
    (hn : z.after.length + 1 ≤ n) (hm : z.after.length + 1 ≤ m) : lexF C n z = lexF C m z := by
  induction n generalizing m z with
  | zero => omega
  | succ n ih =>
    cases m with
    | zero => omega
    | succ m =>
      unfold lexF
      simp only []
      split
      · rfl
      · rename_i hne
        have hne' : (next C z).1.ty ≠ .eof := by simpa using hne
        have := next_lt_of_ne_eof C z hne'
        rw [ih m (next C z).2 (by omega) (by omega)]

open HL.Spec.LexSpec in
/-- The oracle `ordered` (left to right, no overlap, inside the input, strict progress, one EOF
    at the very end) holds for the stream lexed from any state, behind any offset `p` that the
    lexer has passed. -/
theorem lexF_ordered (C : Classes) (n : Nat) (z : Z) (hn : z.after.length + 1 ≤ n) (p : Nat)
    (hp : p ≤ z.before.length) :
    ordered (z.before.length + z.after.length) p (lexF C n z) = true := by
  induction n generalizing z p with
  | zero => omega
  | succ n ih =>
    have hr := next_res C z
    have ht := hr.adv.total
    have hg := hr.pos_ge
    unfold lexF
    simp only []
    split
    · rename_i he
      have he' : (next C z).1.ty = .eof := by simpa using he
      obtain ⟨h1, h2⟩ := hr.eof he'
      have hs := hr.stop_eof he'
      simp only [ordered, he, Bool.true_and, Bool.and_eq_true, decide_eq_true_eq, beq_iff_eq]
      rw [h1, List.length_nil, Nat.add_zero] at ht
      rw [h2] at hg ⊢
      omega
    · rename_i hne
      have hne' : (next C z).1.ty ≠ .eof := by simpa using hne
      have hlt := next_lt_of_ne_eof C z hne'
      have hrest := ih (next C z).2 (by omega) _ hr.stop_le
      rw [ht] at hrest
      cases hlex : lexF C n (next C z).2 with
      | nil => exact absurd hlex (lexF_ne_nil C n _ (by omega))
      | cons t2 rest =>
        rw [hlex] at hrest
        have hs := hr.stop_le
        simp only [ordered, Bool.and_eq_true, decide_eq_true_eq, bne_iff_ne, ne_eq]
        exact ⟨⟨⟨⟨hne', by omega⟩, hr.nonempty hne'⟩, by omega⟩, hrest⟩

section
open HL.Spec.LexSpec

theorem ordered_cons_cons (n p : Nat) (t t2 : Token) (rest : List Token) :
    ordered n p (t :: t2 :: rest) =
      (t.ty != .eof && decide (p ≤ t.pos.off) && decide (t.pos.off < t.stop.off) &&
        decide (t.stop.off ≤ n) && ordered n t.stop.off (t2 :: rest)) := by
  simp [ordered]

/-- the stream is `ts ++ [eof]`, EOF sits at `n`, no other token is EOF, every other token is
    non-empty and inside -/
theorem ordered_last (n p : Nat) (l : List Token) (h : ordered n p l = true) :
    ∃ ts e, l = ts ++ [e] ∧ e.ty = .eof ∧ e.pos.off = n ∧ e.stop.off = n ∧
      ∀ t ∈ ts, t.ty ≠ .eof ∧ t.pos.off < t.stop.off ∧ t.stop.off ≤ n := by
  induction l generalizing p with
  | nil => simp [ordered] at h
  | cons t rest ih =>
    cases rest with
    | nil =>
      simp only [ordered, Bool.and_eq_true, decide_eq_true_eq, beq_iff_eq] at h
      obtain ⟨⟨⟨h1, _⟩, h3⟩, h4⟩ := h
      exact ⟨[], t, rfl, h1, h3, h4, by simp⟩
    | cons t2 rest =>
      rw [ordered_cons_cons] at h
      simp only [Bool.and_eq_true, decide_eq_true_eq, bne_iff_ne, ne_eq] at h
      obtain ⟨⟨⟨⟨h1, _⟩, h3⟩, h4⟩, h5⟩ := h
      obtain ⟨ts, e, g1, g2, g3, g4, g5⟩ := ih _ h5
      refine ⟨t :: ts, e, by simp [g1], g2, g3, g4, ?_⟩
      intro x hx
      rcases List.mem_cons.mp hx with rfl | hx
      · exact ⟨h1, h3, h4⟩
      · exact g5 x hx

/-- no overlap, left to right: every token starts at or behind the end of every earlier one,
    and ends strictly behind it (progress) -/
theorem ordered_pairwise (n p : Nat) (l : List Token) (h : ordered n p l = true) :
    (∀ t ∈ l, p ≤ t.pos.off ∧ (t.ty ≠ .eof → p < t.stop.off)) ∧
      l.Pairwise (fun a b => a.stop.off ≤ b.pos.off ∧ (b.ty ≠ .eof → a.stop.off < b.stop.off)) := by
  induction l generalizing p with
  | nil => simp [ordered] at h
  | cons t rest ih =>
    cases rest with
    | nil =>
      simp only [ordered, Bool.and_eq_true, decide_eq_true_eq, beq_iff_eq] at h
      exact ⟨by simp [h.1.1.2, h.1.1.1], by simp⟩
    | cons t2 rest =>
      rw [ordered_cons_cons] at h
      simp only [Bool.and_eq_true, decide_eq_true_eq, bne_iff_ne, ne_eq] at h
      obtain ⟨⟨⟨⟨_, h2⟩, h3⟩, _⟩, h5⟩ := h
      obtain ⟨ih1, ih2⟩ := ih _ h5
      refine ⟨fun x hx => ?_, List.pairwise_cons.mpr ⟨ih1, ih2⟩⟩
      rcases List.mem_cons.mp hx with rfl | hx
      · exact ⟨h2, fun _ => by omega⟩
      · have := ih1 x hx
        exact ⟨by omega, fun e => by have := this.2 e; omega⟩
end

end HL.Lex
