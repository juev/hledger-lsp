import HL.Lemmas.Parser
/-
  What the functions that stay inside a line have in common, stated once per function
  (`LineInternal`): two runs related by an `R` that survives every step except one over a Newline
  or an EOF (`LineSim`) return the same value and stay related.  Read off from it: `ReachL`
  (hence progress, the default year, `RC`), and in HL/Lemmas/ParserTwin.lean that two token lists
  with a common prefix are parsed alike.  Then `RC` for the functions that may cross a line end.
-/
namespace HL.Parser
open HL HL.Ast

variable {σ : Type} (E : Env σ)

/-- Both runs return the same value and end in states related by `R`. -/
def Agree {α : Type} (R : PState σ → PState σ → Prop) (r1 r2 : α × PState σ) : Prop :=
  r2.1 = r1.1 ∧ R r1.2 r2.2

section
variable {α : Type} {R : PState σ → PState σ → Prop} {r1 r2 q1 q2 : α × PState σ}

theorem Agree.mk' {a : α} {t1 t2} (h : R t1 t2) : Agree R (a, t1) (a, t2) := ⟨rfl, h⟩

theorem Agree.cases (h : Agree R r1 r2) : ∃ a t1 t2, r1 = (a, t1) ∧ r2 = (a, t2) ∧ R t1 t2 :=
  ⟨r1.1, r1.2, r2.2, rfl, Prod.ext h.1 rfl, h.2⟩

theorem Agree.ite (c : Prop) [Decidable c] (h1 : c → Agree R r1 r2) (h2 : ¬c → Agree R q1 q2) :
    Agree R (if c then r1 else q1) (if c then r2 else q2) := by
  split
  · exact h1 ‹_›
  · exact h2 ‹_›
end

structure LineSim (R : PState σ → PState σ → Prop) : Prop where
  cur : ∀ {s1 s2}, R s1 s2 → s2.current = s1.current
  dy : ∀ {s1 s2}, R s1 s2 → s2.defaultYear = s1.defaultYear
  adv : ∀ {s1 s2}, R s1 s2 → s1.current.ty ≠ .newline → s1.current.ty ≠ .eof → R (advance E s1) (advance E s2)
  err : ∀ {s1 s2}, R s1 s2 → ∀ m, R (error s1 m) (error s2 m)
  advErr : ∀ {s1 s2}, R s1 s2 → s1.current.ty ≠ .newline → s1.current.ty ≠ .eof → ∀ m,
    R (errorAt (advance E s1) s1.current.pos m) (errorAt (advance E s2) s1.current.pos m)

/-- `F`, run from `s1`, stays inside the line. -/
def LineInternal {α : Type} (F : PState σ → α × PState σ) (s1 : PState σ) : Prop :=
  ∀ {R : PState σ → PState σ → Prop}, LineSim E R → ∀ {s2}, R s1 s2 → Agree R (F s1) (F s2)

theorem isLineEnd_false {t : Token} (h : ¬ isLineEnd t = true) : t.ty ≠ .newline ∧ t.ty ≠ .eof := by
  unfold isLineEnd at h; simp at h; exact h

/-- The closing token `postingOpen` asks for is a bracket (or nothing). -/
def ClosingOk (cl : Option TokType) : Prop := cl = none ∨ cl = some .rbracket ∨ cl = some .rparen

theorem postingOpen_closing (st : PState σ) : ClosingOk (postingOpen E st).1.2.2 := by
  unfold postingOpen ClosingOk
  grind

theorem LineSim.advTy {E} {R : PState σ → PState σ → Prop} (h : LineSim E R) {s1 s2 : PState σ} (r : R s1 s2)
    {t : TokType} (c : s1.current.ty = t) (h1 : t ≠ .newline := by decide) (h2 : t ≠ .eof := by decide) :
    R (advance E s1) (advance E s2) :=
  h.adv r (c ▸ h1) (c ▸ h2)

variable {s1 : PState σ}

theorem parseComment_line (c : s1.current.ty = .comment) : LineInternal E (parseComment E) s1 := by
  intro R h s2 r
  unfold parseComment
  rw [h.cur r]
  exact .mk' (h.advTy r c)

theorem skipLoopF_line (n : Nat) : LineInternal E (fun st => ((), skipLoopF E n st)) s1 := by
  intro R h s2 r
  induction n generalizing s1 s2 with
  | zero => exact .mk' r
  | succ n ih =>
    simp only [skipLoopF, h.cur r]
    split
    · exact .mk' r
    · rename_i hl
      exact ih (h.adv r (isLineEnd_false hl).1 (isLineEnd_false hl).2)

theorem skipUntilF_line (b : Bool) (n : Nat) : LineInternal E (fun st => ((), skipUntilF E b n st)) s1 := by
  intro R h s2 r
  induction n generalizing s1 s2 with
  | zero => exact .mk' r
  | succ n ih =>
    simp only [skipUntilF, h.cur r]
    split
    · exact .mk' r
    · rename_i hl
      have e := isLineEnd_false (not_or.1 hl).1
      exact ih (h.adv r e.1 e.2)

theorem postingClosing_line {cl} (hcl : ClosingOk cl) : LineInternal E (fun st => ((), postingClosing E cl st)) s1 := by
  intro R h s2 r
  simp only [postingClosing, h.cur r]
  split
  · rename_i c
    rcases hcl with rfl | rfl | rfl
    · simp at c
    · exact .mk' (h.advTy r (Option.some.inj c).symm)
    · exact .mk' (h.advTy r (Option.some.inj c).symm)
  · exact .mk' r

theorem parseDate_line : LineInternal E (parseDate E) s1 := by
  intro R h s2 r
  simp only [parseDate, h.cur r]
  refine .ite _ (fun _ => .mk' (h.err r _)) fun c => ?_
  have c : s1.current.ty = .date := by simpa using c
  rw [h.dy (h.advTy r c)]
  -- every branch ends in `advance st`, with or without an error at the date's position
  repeat' split
  all_goals first | exact .mk' (h.advTy r c) | exact .mk' (h.advErr r (by simp [c]) (by simp [c]) _)

theorem parseStatus_line : LineInternal E (parseStatus E) s1 := by
  intro R h s2 r
  unfold parseStatus
  rw [h.cur r]
  exact .ite _ (fun c => .mk' (h.advTy r c)) fun _ => .mk' r

theorem amountLeadSign_line : LineInternal E (amountLeadSign E) s1 := by
  intro R h s2 r
  unfold amountLeadSign
  rw [h.cur r]
  exact .ite _ (fun c => .mk' (h.advTy r c)) fun _ => .mk' r

theorem amountLeftCommodity_line (sg sb) : LineInternal E (amountLeftCommodity E sg sb) s1 := by
  intro R h s2 r
  unfold amountLeftCommodity
  rw [h.cur r]
  exact .ite _ (fun c => .mk' (h.advTy r c)) fun _ => .mk' r

theorem amountSecondSign_line (sg) : LineInternal E (amountSecondSign E sg) s1 := by
  intro R h s2 r
  unfold amountSecondSign
  rw [h.cur r]
  exact .ite _ (fun c => .mk' (h.advTy r c)) fun _ => .mk' r

theorem amountRightCommodity_line (c stop) : LineInternal E (amountRightCommodity E c stop) s1 := by
  intro R h s2 r
  unfold amountRightCommodity
  rw [h.cur r]
  exact .ite _ (fun _ => .ite _ (fun c => .mk' (c.elim (h.advTy r) fun c => h.advTy r c.1)) fun _ => .mk' r)
    fun _ => .mk' r

theorem amountNumber_line (sp sg c sb) : LineInternal E (amountNumber E sp sg c sb) s1 := by
  intro R h s2 r
  simp only [amountNumber, h.cur r]
  refine .ite _ (fun _ => .mk' (h.err r _)) fun hc => ?_
  have a := amountRightCommodity_line E c s1.current.stop h (h.advTy r (t := .number) (by simpa using hc))
  split
  · exact .mk' (h.err r _)
  · refine .ite _ (fun _ => .mk' (h.err r _)) fun _ => ?_
    exact ⟨by simp only [a.1], a.2⟩

theorem parseAmount_line : LineInternal E (parseAmount E) s1 := by
  intro R h s2 r
  have a := amountLeadSign_line E h r
  have b := amountLeftCommodity_line E (amountLeadSign E s1).1.1 (amountLeadSign E s1).1.2 h a.2
  have c := amountSecondSign_line E (amountLeadSign E s1).1.1 h b.2
  simp only [parseAmount, h.cur r, a.1, b.1, c.1]
  exact amountNumber_line E _ _ _ _ h c.2

theorem parseCost_line (hk : s1.current.ty = .at ∨ s1.current.ty = .atAt) : LineInternal E (parseCost E) s1 := by
  intro R h s2 r
  obtain ⟨a, t1, t2, e1, e2, p⟩ := (parseAmount_line E h (hk.elim (h.advTy r) (h.advTy r))).cases
  simp only [parseCost, h.cur r, e1, e2]
  cases a
  · exact .mk' p
  · exact ⟨by simp only [h.cur p], p⟩

theorem parseBalanceAssertion_line (hk : s1.current.ty = .equals ∨ s1.current.ty = .doubleEquals) :
    LineInternal E (parseBalanceAssertion E) s1 := by
  intro R h s2 r
  obtain ⟨a, t1, t2, e1, e2, p⟩ := (parseAmount_line E h (hk.elim (h.advTy r) (h.advTy r))).cases
  simp only [parseBalanceAssertion, h.cur r, e1, e2]
  cases a
  · exact .mk' p
  · exact ⟨by simp only [h.cur p], p⟩

theorem postingOpen_line : LineInternal E (postingOpen E) s1 := by
  intro R h s2 r
  have a : Agree R (if s1.current.ty = .status then parseStatus E s1 else (.none, s1))
      (if s1.current.ty = .status then parseStatus E s2 else (.none, s2)) :=
    .ite _ (fun _ => parseStatus_line E h r) fun _ => .mk' r
  simp only [postingOpen, h.cur r, a.1, h.cur a.2]
  exact .ite _ (fun c => .mk' (h.advTy a.2 c)) fun _ => .ite _ (fun c => .mk' (h.advTy a.2 c)) fun _ => .mk' a.2

theorem lineComment_line : LineInternal E (lineComment E) s1 := by
  intro R h s2 r
  unfold lineComment
  rw [h.cur r]
  exact .ite _ (fun c => .mk' (h.advTy r c)) fun _ => .mk' r

theorem postingAmount_line : LineInternal E (postingAmount E) s1 := by
  intro R h s2 r
  unfold postingAmount
  rw [h.cur r]
  exact .ite _ (fun _ => parseAmount_line E h r) fun _ => .mk' r

theorem postingCost_line : LineInternal E (postingCost E) s1 := by
  intro R h s2 r
  unfold postingCost
  rw [h.cur r]
  exact .ite _ (fun c => parseCost_line E c h r) fun _ => .mk' r

theorem postingAssertion_line : LineInternal E (postingAssertion E) s1 := by
  intro R h s2 r
  unfold postingAssertion
  rw [h.cur r]
  exact .ite _ (fun c => parseBalanceAssertion_line E c h r) fun _ => .mk' r

theorem postingTail_line {cl} (hcl : ClosingOk cl) : LineInternal E (postingTail E cl) s1 := by
  intro R h s2 r
  obtain ⟨a, _, _, a1, a2, r⟩ := (postingAmount_line E h (postingClosing_line E hcl h r).2).cases
  obtain ⟨b, _, _, b1, b2, r⟩ := (postingCost_line E h r).cases
  obtain ⟨c, _, _, c1, c2, r⟩ := (postingAssertion_line E h r).cases
  obtain ⟨e, _, _, e1, e2, r⟩ := (lineComment_line E h r).cases
  simp only [postingTail, a1, a2, b1, b2, c1, c2, e1, e2]
  exact .mk' r

theorem txDescription_line : LineInternal E (txDescription E) s1 := by
  intro R h s2 r
  simp only [txDescription, h.cur r]
  refine .ite _ (fun c => ?_) fun _ => .mk' r
  have a := h.advTy r c
  rw [h.cur a]
  refine .ite _ (fun c => ?_) fun _ => .mk' a
  have b := h.advTy a c
  rw [h.cur b]
  split
  · rename_i c
    exact .mk' (h.advTy b c)
  · exact .mk' b

theorem txDate2_line : LineInternal E (txDate2 E) s1 := by
  intro R h s2 r
  unfold txDate2
  rw [h.cur r]
  exact .ite _ (fun c => parseDate_line E h (h.advTy r c)) fun _ => .mk' r

theorem txStatus_line : LineInternal E (txStatus E) s1 := by
  intro R h s2 r
  unfold txStatus
  rw [h.cur r]
  exact .ite _ (fun _ => parseStatus_line E h r) fun _ => .mk' r

theorem txCode_line : LineInternal E (txCode E) s1 := by
  intro R h s2 r
  unfold txCode
  rw [h.cur r]
  exact .ite _ (fun c => .mk' (h.advTy r c)) fun _ => .mk' r

theorem txComment_line : LineInternal E (txComment E) s1 := by
  intro R h s2 r
  unfold txComment
  rw [h.cur r]
  refine .ite _ (fun c => ?_) fun _ => .mk' r
  have a := parseComment_line E c h r
  exact ⟨by rw [a.1], a.2⟩

theorem commodityInline_line : LineInternal E (commodityInline E) s1 := by
  intro R h s2 r
  simp only [commodityInline, h.cur r]
  refine .ite _ (fun c => ?_) fun _ => .ite _ (fun c => ?_) fun _ =>
    .ite _ (fun c => .mk' (h.advTy r c)) fun _ => .mk' r
  · have a := h.advTy r c
    rw [h.cur a]
    exact .ite _ (fun c => .mk' (h.advTy a c)) fun _ => .mk' a
  · have a := h.advTy r c
    rw [h.cur a]
    exact .ite _ (fun c => .mk' (c.elim (h.advTy a) (h.advTy a))) fun _ => .mk' a

theorem accountNameRest_line (nm) : LineInternal E (accountNameRest E nm) s1 := by
  intro R h s2 r
  unfold accountNameRest
  rw [h.cur r]
  exact .ite _ (fun c => .mk' (h.advTy r c)) fun _ => .mk' r

theorem subValueF_line (n : Nat) (acc : Bytes) : LineInternal E (subValueF E n · acc) s1 := by
  intro R h s2 r
  induction n generalizing s1 s2 acc with
  | zero => exact .mk' r
  | succ n ih =>
    simp only [subValueF, h.cur r]
    refine .ite _ (fun _ => .mk' r) fun hl => ?_
    have e := isLineEnd_false (not_or.1 hl).1
    exact ih _ (h.adv r e.1 e.2)

theorem includePathF_line (n : Nat) (acc : Bytes) : LineInternal E (includePathF E n · acc) s1 := by
  intro R h s2 r
  induction n generalizing s1 s2 acc with
  | zero => exact .mk' r
  | succ n ih =>
    simp only [includePathF, h.cur r]
    refine .ite _ (fun _ => .mk' r) fun hl => ?_
    have e := isLineEnd_false (not_or.1 hl).1
    exact ih _ (h.adv r e.1 e.2)

theorem reachL_sim (a : PState σ) : LineSim E fun s1 s2 => s2 = s1 ∧ ReachL E a s1 where
  cur r := r.1 ▸ rfl
  dy r := r.1 ▸ rfl
  adv := by rintro _ _ ⟨rfl, r⟩ h1 h2; exact ⟨rfl, ReachL.adv E r h2 h1⟩
  err := by rintro _ _ ⟨rfl, r⟩ m; exact ⟨rfl, ReachL.err E r m⟩
  advErr := by rintro _ _ ⟨rfl, r⟩ h1 h2 m; exact ⟨rfl, ReachL.advErrAt E r h2 h1 m⟩

theorem LineInternal.reachL {α : Type} {F : PState σ → α × PState σ} {st : PState σ} (hF : LineInternal E F st)
    {a : PState σ} (r : ReachL E a st) : ReachL E a (F st).2 := (hF (reachL_sim E a) ⟨rfl, r⟩).2.2

theorem LineInternal.rc {α : Type} {F : PState σ → α × PState σ} {st : PState σ} (hF : LineInternal E F st)
    {a : PState σ} (h : RC E a 0 st) : RC E a 0 (F st).2 := RC.line E h (LineInternal.reachL E hF (ReachL.refl E st))

theorem skipToNextLine_RC {a st : PState σ} (h0 : RC E a 0 st) :
    RC E a 1 (skipToNextLine E st) := by
  unfold skipToNextLine
  have h2 : RC E a 0 (skipLoopF E (fuelOf E st) st) := LineInternal.rc E (skipLoopF_line E (fuelOf E st)) h0
  simp only
  split
  · rename_i h; exact RC.advNL E h2 h
  · exact RC.mono E h2 (by omega)

theorem parseComment_RC {a st : PState σ} (h0 : RC E a 0 st) (h : st.current.ty = .comment) :
    RC E a 0 (parseComment E st).2 := LineInternal.rc E (parseComment_line E h) h0
theorem parseDate_RC {a st : PState σ} (h0 : RC E a 0 st) :
    RC E a 0 (parseDate E st).2 := LineInternal.rc E (parseDate_line E) h0
theorem parseStatus_RC {a st : PState σ} (h0 : RC E a 0 st) :
    RC E a 0 (parseStatus E st).2 := LineInternal.rc E (parseStatus_line E) h0
theorem parseAmount_RC {a st : PState σ} (h0 : RC E a 0 st) :
    RC E a 0 (parseAmount E st).2 := LineInternal.rc E (parseAmount_line E) h0
theorem parseCost_RC {a st : PState σ} (h0 : RC E a 0 st)
    (h : st.current.ty = .at ∨ st.current.ty = .atAt) :
    RC E a 0 (parseCost E st).2 := LineInternal.rc E (parseCost_line E h) h0
theorem parseBalanceAssertion_RC {a st : PState σ} (h0 : RC E a 0 st)
    (h : st.current.ty = .equals ∨ st.current.ty = .doubleEquals) :
    RC E a 0 (parseBalanceAssertion E st).2 := LineInternal.rc E (parseBalanceAssertion_line E h) h0
theorem skipUntilF_RC (b n) {a st : PState σ} (h0 : RC E a 0 st) :
    RC E a 0 (skipUntilF E b n st) := LineInternal.rc E (skipUntilF_line E b n) h0
theorem subValueF_RC (n acc) {a st : PState σ} (h0 : RC E a 0 st) :
    RC E a 0 (subValueF E n st acc).2 := LineInternal.rc E (subValueF_line E n acc) h0
theorem includePathF_RC (n acc) {a st : PState σ} (h0 : RC E a 0 st) :
    RC E a 0 (includePathF E n st acc).2 := LineInternal.rc E (includePathF_line E n acc) h0
theorem postingOpen_RC {a st : PState σ} (h0 : RC E a 0 st) :
    RC E a 0 (postingOpen E st).2 := LineInternal.rc E (postingOpen_line E) h0
theorem postingTail_RC {cl} (hc : ClosingOk cl) {a st : PState σ} (h0 : RC E a 0 st) :
    RC E a 0 (postingTail E cl st).2 := LineInternal.rc E (postingTail_line E hc) h0
theorem txDescription_RC {a st : PState σ} (h0 : RC E a 0 st) :
    RC E a 0 (txDescription E st).2 := LineInternal.rc E (txDescription_line E) h0
theorem txDate2_RC {a st : PState σ} (h0 : RC E a 0 st) : RC E a 0 (txDate2 E st).2 := LineInternal.rc E (txDate2_line E) h0
theorem txStatus_RC {a st : PState σ} (h0 : RC E a 0 st) : RC E a 0 (txStatus E st).2 := LineInternal.rc E (txStatus_line E) h0
theorem txCode_RC {a st : PState σ} (h0 : RC E a 0 st) : RC E a 0 (txCode E st).2 := LineInternal.rc E (txCode_line E) h0
theorem txComment_RC {a st : PState σ} (h0 : RC E a 0 st) : RC E a 0 (txComment E st).2 := LineInternal.rc E (txComment_line E) h0
theorem accountNameRest_RC (nm) {a st : PState σ} (h0 : RC E a 0 st) :
    RC E a 0 (accountNameRest E nm st).2 := LineInternal.rc E (accountNameRest_line E nm) h0
theorem lineComment_RC {a st : PState σ} (h0 : RC E a 0 st) : RC E a 0 (lineComment E st).2 := LineInternal.rc E (lineComment_line E) h0
theorem commodityInline_RC {a st : PState σ} (h0 : RC E a 0 st) :
    RC E a 0 (commodityInline E st).2 := LineInternal.rc E (commodityInline_line E) h0

/- The proofs by `unfold f; grind` below have no other access to the facts above: a hypothesis
   `RC E a _ st` together with a call `f E st` in the unfolded body instantiates them. -/
grind_pattern RC.mono => RC E a tl b, RC E a tl' b
grind_pattern RC.advOther => RC E a 0 st, advance E st
grind_pattern RC.advNL => RC E a tl st, advance E st
grind_pattern RC.advIndent => RC E a tl st, advance E st
grind_pattern RC.err => RC E a 0 st, error st msg
grind_pattern skipToNextLine_RC => RC E a 0 st, skipToNextLine E st
grind_pattern parseComment_RC => RC E a 0 st, parseComment E st
grind_pattern parseDate_RC => RC E a 0 st, parseDate E st
grind_pattern parseStatus_RC => RC E a 0 st, parseStatus E st
grind_pattern parseAmount_RC => RC E a 0 st, parseAmount E st
grind_pattern parseCost_RC => RC E a 0 st, parseCost E st
grind_pattern parseBalanceAssertion_RC => RC E a 0 st, parseBalanceAssertion E st
grind_pattern skipUntilF_RC => RC E a 0 st, skipUntilF E b n st
grind_pattern subValueF_RC => RC E a 0 st, subValueF E n st acc
grind_pattern includePathF_RC => RC E a 0 st, includePathF E n st acc
grind_pattern txDate2_RC => RC E a 0 st, txDate2 E st
grind_pattern txStatus_RC => RC E a 0 st, txStatus E st
grind_pattern txCode_RC => RC E a 0 st, txCode E st
grind_pattern txComment_RC => RC E a 0 st, txComment E st
grind_pattern accountNameRest_RC => RC E a 0 st, accountNameRest E nm st
grind_pattern lineComment_RC => RC E a 0 st, lineComment E st
grind_pattern commodityInline_RC => RC E a 0 st, commodityInline E st
grind_pattern postingOpen_RC => RC E a 0 st, postingOpen E st
grind_pattern postingTail_RC => RC E a 0 st, postingTail E cl st
grind_pattern txDescription_RC => RC E a 0 st, txDescription E st

/-- From the state after the Indent has been consumed (this form is used for progress).  After the
    Indent the posting stays inside its line; only `skipToNextLine` (no account name) may end
    by consuming one Newline: at most one at the end. -/
theorem parsePosting_RC' {a st : PState σ} (h1 : RC E a 0 (advance E st)) (h : st.current.ty = .indent) :
    RC E a 1 (parsePosting E st).2 := by
  unfold parsePosting
  have := postingOpen_closing E (advance E st)
  grind (splits := 20)

theorem parsePosting_RC {a st : PState σ} {tl} (h0 : RC E a tl st) (h : st.current.ty = .indent) :
    RC E a 1 (parsePosting E st).2 := parsePosting_RC' E (RC.advIndent E h0 h) h

theorem postingsF_RC (n : Nat) {a st : PState σ} {tl} (h0 : RC E a tl st) (h1 : tl ≤ 1) :
    RC E a 1 (postingsF E n st).2 := by
  induction n generalizing st tl with
  | zero => unfold postingsF; exact RC.mono E h0 h1
  | succ n ih =>
    unfold postingsF
    split
    · exact RC.mono E h0 h1
    · rename_i h
      have hi : st.current.ty = .indent := by simpa using h
      have hp := parsePosting_RC E h0 hi
      simp only
      split
      · rename_i hnl
        exact ih (RC.advNL E hp hnl) (by omega)
      · exact ih hp (by omega)

/-- The pieces of the header stay inside the line; the last step consumes its Newline, if there. -/
theorem txHeader_RC {a st : PState σ} (h0 : RC E a 0 st) : RC E a 1 (txHeader E st).2 := by
  unfold txHeader
  grind (splits := 20)

theorem parseTransaction_RC {a st : PState σ} (h0 : RC E a 0 st) : RC E a 1 (parseTransaction E st).2 := by
  unfold parseTransaction
  have hd := parseDate_RC E h0
  split
  · rename_i heq; rw [heq] at hd
    exact skipToNextLine_RC E hd
  · rename_i heq; rw [heq] at hd
    simp only
    exact postingsF_RC E _ (txHeader_RC E hd) (by omega)

theorem RC.ite {β : Type} {c : Prop} [Decidable c] {a : PState σ} {tl} {x y : β × PState σ}
    (h1 : c → RC E a tl x.2) (h2 : ¬c → RC E a tl y.2) : RC E a tl (if c then x else y).2 := by
  split
  · exact h1 ‹_›
  · exact h2 ‹_›

theorem parseSubdirectivesF_RC (n : Nat) {a st : PState σ} {tl} (m) (h0 : RC E a tl st) (h1 : tl ≤ 1) :
    RC E a 1 (parseSubdirectivesF E n st m).2 := by
  induction n generalizing st tl m with
  | zero => exact RC.mono E h0 h1
  | succ n ih =>
    simp only [parseSubdirectivesF]
    refine RC.ite E (fun _ => RC.mono E h0 h1) fun h => ?_
    have hA := RC.advNL E h0 (by simpa using h)
    refine RC.ite E (fun _ => hA) fun h => ?_
    have hB := RC.advIndent E hA (by simpa using h)
    have adv : ∀ c : TokType, c ≠ .eof → c ≠ .newline → (advance E (advance E st)).current.ty = c →
        RC E a 0 (advance E (advance E (advance E st))) :=
      fun c h1 h2 h => RC.advOther E hB (by rw [h]; exact h1) (by rw [h]; exact h2)
    refine RC.ite E (fun h => ih _ (adv _ (by simp) (by simp) h) (by omega)) fun _ => ?_
    refine RC.ite E (fun _ => ih _ hB (by omega)) fun _ => ?_
    refine RC.ite E (fun h => ih _ (adv _ (by simp) (by simp) h) (by omega)) fun _ => ?_
    exact RC.ite E (fun h => ih _ (subValueF_RC E _ _ (adv _ (by simp) (by simp) h)) (by omega))
      fun _ => ih _ (skipToNextLine_RC E hB) (by omega)

theorem parseSubdirectives_RC {a st : PState σ} (h0 : RC E a 0 st) :
    RC E a 1 (parseSubdirectives E st).2 := parseSubdirectivesF_RC E _ _ h0 (by omega)

grind_pattern parseSubdirectives_RC => RC E a 0 st, parseSubdirectives E st

theorem parseAccountDirective_RC (p) {a st : PState σ} (h0 : RC E a 0 st) :
    RC E a 1 (parseAccountDirective E p st).2 := by
  unfold parseAccountDirective
  grind (splits := 20)

theorem parseCommodityDirective_RC (p) {a st : PState σ} (h0 : RC E a 0 st) :
    RC E a 1 (parseCommodityDirective E p st).2 := by
  unfold parseCommodityDirective
  grind (splits := 20)

theorem parseIncludeDirective_RC (p) {a st : PState σ} (h0 : RC E a 0 st) :
    RC E a 1 (parseIncludeDirective E p st).2 := by
  unfold parseIncludeDirective
  grind (splits := 20)

theorem parsePriceDirective_RC (p) {a st : PState σ} (h0 : RC E a 0 st) :
    RC E a 1 (parsePriceDirective E p st).2 := by
  unfold parsePriceDirective
  grind (splits := 20)

theorem parseDefaultCommodityDirective_RC (p) {a st : PState σ} (h0 : RC E a 0 st) :
    RC E a 1 (parseDefaultCommodityDirective E p st).2 := by
  unfold parseDefaultCommodityDirective
  grind (splits := 20)

theorem parseYearDirective_RC (p) {a st : PState σ} (h0 : RC E a 0 st) :
    RC E a 1 (parseYearDirective E p st).2 := by
  unfold parseYearDirective
  have hy : ∀ y, RC E a 0 { st with defaultYear := y } := fun y => RC.year E h0 y
  grind (splits := 20)

theorem parseDirective_RC' {a st : PState σ} (h1 : RC E a 0 (advance E st)) :
    RC E a 1 (parseDirective E st).2 := by
  unfold parseDirective
  grind (splits := 20) [parseAccountDirective_RC, parseCommodityDirective_RC, parseIncludeDirective_RC,
    parsePriceDirective_RC, parseDefaultCommodityDirective_RC, parseYearDirective_RC]

theorem parseDirective_RC {a st : PState σ} (h0 : RC E a 0 st) (h : st.current.ty = .directive) :
    RC E a 1 (parseDirective E st).2 := parseDirective_RC' E (RC.advOther E h0 (by simp [h]) (by simp [h]))

theorem journalStep_RC (st : PState σ) : RC E st 1 (journalStep E st).2 := by
  have h0 := RC.refl E st
  unfold journalStep
  grind (splits := 20) [parseTransaction_RC, parseDirective_RC]

end HL.Parser
