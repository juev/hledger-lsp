/-
  `include.Loader.Load` on a fresh loader (`load`): the files it returns are exactly the
  existing files reachable from the root (other than the root), each with its content, and
  `FileOrder` lists exactly those files — provided the directory has at most
  `MaxIncludeDepth` files.  Termination: the work list potential decreases (`loadFuel`).
-/
import HL.Lemmas.ReachIdx
namespace HL.Lemmas.Load
open HL.Index HL.Workspace HL.Lemmas.AList HL.Lemmas.ReachIdx HL.Spec.Rebuild

structure LoadInv (fs : FS) (root : String) (todo : List (String × Nat)) (st : LoadSt) : Prop where
  root_mem : root ∈ st.visited
  vis : ∀ x ∈ st.visited, Reach fs root x ∧ (fs.get x).isSome
  todo_reach : ∀ x ∈ todo, Reach fs root x.1
  depth : ∀ x ∈ todo, x.2 + 1 ≤ st.visited.length
  order : ∀ x, x ∈ st.order ↔ (x ∈ st.visited ∧ x ≠ root)
  files : ∀ x, st.files.get x = if x ∈ st.visited ∧ x ≠ root then fs.get x else none
  nodup : st.visited.Nodup
  closed : ∀ u ∈ st.visited, ∀ v ∈ succs fs u, v ∈ st.visited ∨ v ∈ todo.map (·.1) ∨ fs.get v = none

theorem succs_of_get (fs : FS) (p : String) (c : Contrib) (h : fs.get p = some c) :
    succs fs p = c.incs := by simp [succs, h]

theorem LoadInv.pop {fs : FS} {root p : String} {d : Nat} {todo : List (String × Nat)} {st : LoadSt}
    (h : LoadInv fs root ((p, d) :: todo) st) (hp : p ∈ st.visited ∨ fs.get p = none) :
    LoadInv fs root todo st :=
  { h with
    todo_reach := fun x hx => h.todo_reach x (List.mem_cons_of_mem _ hx)
    depth := fun x hx => h.depth x (List.mem_cons_of_mem _ hx)
    closed := fun u hu v hv => by
      rcases h.closed u hu v hv with h1 | h1 | h1
      · exact Or.inl h1
      · rcases List.mem_cons.mp h1 with h1 | h1
        · exact hp.elim (fun hp => Or.inl (h1 ▸ hp)) fun hp => Or.inr (Or.inr (h1 ▸ hp))
        · exact Or.inr (Or.inl h1)
      · exact Or.inr (Or.inr h1) }

theorem LoadInv.push {fs : FS} {root p : String} {d : Nat} {todo : List (String × Nat)} {st : LoadSt}
    {c : Contrib} (h : LoadInv fs root ((p, d) :: todo) st) (hv : p ∉ st.visited)
    (hg : fs.get p = some c) :
    LoadInv fs root (c.incs.map (·, d + 1) ++ todo)
      { visited := st.visited ++ [p], files := st.files.set p c, order := st.order ++ [p] } := by
  have hpr : Reach fs root p := h.todo_reach (p, d) List.mem_cons_self
  have hsucc : succs fs p = c.incs := succs_of_get fs p c hg
  have hne : p ≠ root := fun e => hv (e ▸ h.root_mem)
  refine
    { root_mem := List.mem_append_left _ h.root_mem
      vis := fun x hx => ?_, todo_reach := fun x hx => ?_, depth := fun x hx => ?_,
      order := fun x => ?_, files := fun x => ?_, nodup := ?_, closed := fun u hu v hvv => ?_ }
  · rcases List.mem_append.mp hx with hx | hx
    · exact h.vis x hx
    · exact List.mem_singleton.mp hx ▸ ⟨hpr, by rw [hg]; rfl⟩
  · rcases List.mem_append.mp hx with hx | hx
    · obtain ⟨y, hy, rfl⟩ := List.mem_map.mp hx
      exact .step hpr (hsucc ▸ hy)
    · exact h.todo_reach x (List.mem_cons_of_mem _ hx)
  · rw [List.length_append, List.length_singleton]
    rcases List.mem_append.mp hx with hx | hx
    · obtain ⟨y, _, rfl⟩ := List.mem_map.mp hx
      exact Nat.succ_le_succ (h.depth (p, d) List.mem_cons_self)
    · exact Nat.le_succ_of_le (h.depth x (List.mem_cons_of_mem _ hx))
  · simp only [List.mem_append, List.mem_singleton, h.order x]
    constructor
    · rintro (h1 | h1)
      · exact ⟨Or.inl h1.1, h1.2⟩
      · exact ⟨Or.inr h1, h1 ▸ hne⟩
    · rintro ⟨h1 | h1, h2⟩
      · exact Or.inl ⟨h1, h2⟩
      · exact Or.inr h1
  · simp only [get_set, List.mem_append, List.mem_singleton]
    by_cases e : p = x
    · subst e; simp [hne, hg]
    · have e' : ¬ x = p := fun h => e h.symm
      simp only [e, if_false, h.files x, e', or_false]
  · exact nodup_concat h.nodup hv
  · simp only [List.map_append, List.map_map, List.mem_append]
    rcases List.mem_append.mp hu with hu | hu
    · rcases h.closed u hu v hvv with h1 | h1 | h1
      · exact Or.inl (Or.inl h1)
      · rcases List.mem_cons.mp h1 with h1 | h1
        · exact Or.inl (Or.inr (List.mem_singleton.mpr h1))
        · exact Or.inr (Or.inl (Or.inr h1))
      · exact Or.inr (Or.inr h1)
    · cases List.mem_singleton.mp hu
      exact Or.inr (Or.inl (Or.inl (List.mem_map.mpr ⟨v, hsucc ▸ hvv, rfl⟩)))

theorem loadF_inv (limit : Nat) (fs : FS) (root : String) (hlim : fs.keys.length ≤ limit) :
    ∀ (n : Nat) (todo : List (String × Nat)) (st : LoadSt),
      todo.length + rest (graphOf fs) st.visited < n → LoadInv fs root todo st →
      LoadInv fs root [] (loadF limit fs n todo st) := by
  intro n
  induction n with
  | zero => intro todo st h; omega
  | succ n ih =>
    intro todo st hfuel hinv
    cases todo with
    | nil => exact hinv
    | cons pd rest' =>
      obtain ⟨p, d⟩ := pd
      have hpop : rest'.length + rest (graphOf fs) st.visited < n := by
        rw [List.length_cons] at hfuel; omega
      rw [loadF]
      by_cases hv : p ∈ st.visited
      · rw [if_pos hv]; exact ih rest' st hpop (hinv.pop (Or.inl hv))
      · rw [if_neg hv]
        cases hg : fs.get p with
        | none => exact ih rest' st hpop (hinv.pop (Or.inr hg))
        | some c =>
          -- the depth limit is not reached: a chain of includes consists of distinct visited
          -- files of the directory
          have hlen : (p :: st.visited).length ≤ fs.keys.length :=
            (List.nodup_cons.mpr ⟨hv, hinv.nodup⟩).length_le_of_subset fun x hx => by
              rcases List.mem_cons.mp hx with hx | hx
              · rw [hx, mem_keys_iff, hg]; rfl
              · exact (mem_keys_iff _ _).mpr (hinv.vis x hx).2
          rw [List.length_cons] at hlen
          have hd := hinv.depth (p, d) List.mem_cons_self
          have hnl : ¬ d + 1 ≥ limit := by omega
          have hrest := rest_visit (graphOf fs) st.visited p hv
          rw [getD_graphOf, succs_of_get fs p c hg] at hrest
          dsimp only
          rw [if_neg hnl]
          refine ih _ _ ?_ (hinv.push hv hg)
          show (c.incs.map (·, d + 1) ++ rest').length + rest (graphOf fs) (st.visited ++ [p]) < n
          rw [List.length_cons] at hfuel
          rw [List.length_append, List.length_map]
          omega

theorem rest_le_total (fs : FS) (r : List String) :
    rest (graphOf fs) r ≤ (fs.map fun e => e.2.incs.length + 1).sum := by
  induction fs with
  | nil => simp [rest, graphOf]
  | cons e fs ih =>
    obtain ⟨k, c⟩ := e
    simp only [graphOf, List.map_cons] at *
    rw [rest_cons]
    split <;> simp only [List.sum_cons] <;> omega

theorem load_spec (limit : Nat) (fs : FS) (root : String) (c : Contrib)
    (hlim : fs.keys.length ≤ limit) (hroot : fs.get root = some c) :
    let st := load limit fs root c
    (∀ x c', st.files.get x = some c' ↔ (Reach fs root x ∧ x ≠ root ∧ fs.get x = some c')) ∧
    (∀ x, x ∈ st.order ↔ (st.files.get x).isSome) := by
  have hinit : LoadInv fs root (c.incs.map (·, 0)) { visited := [root] } :=
    { root_mem := by simp
      vis := by intro x hx; simp at hx; subst hx; exact ⟨.base, by rw [hroot]; rfl⟩
      todo_reach := by
        intro x hx
        obtain ⟨y, hy, rfl⟩ := List.mem_map.mp hx
        exact .step .base (by rw [succs_of_get fs root c hroot]; exact hy)
      depth := by
        intro x hx
        obtain ⟨y, _, rfl⟩ := List.mem_map.mp hx
        simp
      order := by intro x; simp
      files := by intro x; simp
      nodup := by simp
      closed := by
        intro u hu v hv
        simp at hu; subst hu
        rw [succs_of_get fs u c hroot] at hv
        exact Or.inr (Or.inl (by simp [List.map_map, Function.comp_def, hv])) }
  have hfuel : (c.incs.map (·, 0)).length + rest (graphOf fs) [root] < loadFuel fs c := by
    have := rest_le_total fs [root]
    unfold loadFuel; simp only [List.length_map]; omega
  have hfin := loadF_inv limit fs root hlim (loadFuel fs c) (c.incs.map (·, 0)) { visited := [root] } hfuel hinit
  -- every reachable existing file has been visited
  have hall : ∀ x, Reach fs root x → (fs.get x).isSome → x ∈ (load limit fs root c).visited := by
    intro x hx
    induction hx with
    | base => intro _; exact hfin.root_mem
    | @step u v hp hq ih =>
      intro hv
      have hu : (fs.get u).isSome := by
        cases e : fs.get u with
        | some _ => rfl
        | none => simp [succs, e] at hq
      rcases hfin.closed u (ih hu) v hq with h | h | h
      · exact h
      · simp at h
      · rw [h] at hv; simp at hv
  intro st
  have hst : st = loadF limit fs (loadFuel fs c) (c.incs.map (·, 0)) { visited := [root] } := rfl
  rw [← hst] at hfin
  have hfiles : ∀ x c', st.files.get x = some c' ↔ (Reach fs root x ∧ x ≠ root ∧ fs.get x = some c') := by
    intro x c'
    rw [hfin.files x]
    constructor
    · intro h
      by_cases hc : x ∈ st.visited ∧ x ≠ root
      · rw [if_pos hc] at h
        exact ⟨(hfin.vis x hc.1).1, hc.2, h⟩
      · simp [hc] at h
    · rintro ⟨hr, hne, hg⟩
      have : x ∈ st.visited := hall x hr (by rw [hg]; rfl)
      simp [this, hne, hg]
  refine ⟨hfiles, ?_⟩
  intro x
  rw [hfin.order x, hfin.files x]
  constructor
  · intro h
    rw [if_pos h]
    exact (hfin.vis x h.1).2
  · intro h
    by_cases hc : x ∈ st.visited ∧ x ≠ root
    · exact hc
    · simp [hc] at h

end HL.Lemmas.Load
