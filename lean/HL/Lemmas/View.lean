/-
  From the workspace invariant to the judgement `viewOk`: the observed view of a workspace
  satisfying `WInv` is the view of a rebuild, component by component.
-/
import HL.Lemmas.Init
namespace HL.Lemmas.View
open HL.Index HL.Workspace HL.Lemmas.AList HL.Lemmas.ReachIdx HL.Lemmas.Edges HL.Lemmas.Index
open HL.Lemmas.Counter HL.Lemmas.WsInv HL.Lemmas.Update HL.Spec.Rebuild

theorem mem_members (fs : FS) (root p : String) :
    p ∈ members fs root ↔ (Reach fs root p ∧ (fs.get p).isSome) := by
  simp [members, List.mem_filter, mem_reach_iff]

theorem members_nodup (fs : FS) (root : String) : (members fs root).Nodup := by
  unfold members
  apply isort_nodup
  exact List.Pairwise.filter _ (bfsF_nodup _ _ _ _ (by simp))

theorem keys_perm_members (cfg : Cfg) (fs : FS) (w : WS) (h : WInv cfg fs w) :
    w.idx.files.keys.Perm (members fs w.root) := by
  rw [List.perm_ext_iff_of_nodup h.pinv.g.idx.nodup (members_nodup fs w.root)]
  intro a
  rw [mem_keys_iff, mem_members, h.closed a]

theorem members_eq (cfg : Cfg) (fs : FS) (w : WS) (h : WInv cfg fs w) :
    isort w.idx.files.keys = members fs w.root := by
  have := isort_unique _ _ (keys_perm_members cfg fs w h)
  rw [this]
  unfold members
  exact isort_eq_of_sorted _ _ (List.Perm.refl _) (isort_sorted _)

theorem contribsOf_eq (fs : FS) : ∀ (l : AList FileIdx), (∀ e ∈ l, fs.get e.1 = some e.2.c) →
    contribsOf l = l.keys.filterMap fs.get := by
  intro l
  induction l with
  | nil => intro _; rfl
  | cons e r ih =>
    intro h
    have h1 := h e List.mem_cons_self
    simp only [contribsOf, AList.keys, List.map_cons, List.filterMap_cons, h1] at *
    rw [ih (fun e he => h e (List.mem_cons_of_mem _ he))]

theorem files_get_fs (cfg : Cfg) (fs : FS) (w : WS) (h : WInv cfg fs w) :
    ∀ e ∈ w.idx.files, fs.get e.1 = some e.2.c ∧ e.2 = mkFileIdx e.1 e.2.c := by
  intro e he
  have hg := mem_get_of_nodup _ e.1 e.2 h.pinv.g.idx.nodup he
  obtain ⟨c, hc, hfi⟩ := h.pinv.g.fresh e.1 e.2 hg
  have : e.2.c = c := by rw [hfi]; rfl
  exact ⟨by rw [this]; exact hc, by rw [this]; exact hfi⟩

theorem contribs_perm (cfg : Cfg) (fs : FS) (w : WS) (h : WInv cfg fs w) :
    (contribsOf w.idx.files).Perm ((members fs w.root).filterMap fs.get) := by
  rw [contribsOf_eq fs _ (fun e he => (files_get_fs cfg fs w h e he).1)]
  exact (keys_perm_members cfg fs w h).filterMap _

theorem entriesOfFiles_eq (fs : FS) : ∀ (l : AList FileIdx),
    (∀ e ∈ l, fs.get e.1 = some e.2.c ∧ e.2 = mkFileIdx e.1 e.2.c) →
    entriesOfFiles l = l.keys.flatMap (entriesOf fs) := by
  intro l
  induction l with
  | nil => intro _; rfl
  | cons e r ih =>
    intro h
    have h1 := h e List.mem_cons_self
    simp only [entriesOfFiles, AList.keys, List.map_cons, List.flatMap_cons] at *
    rw [ih (fun e he => h e (List.mem_cons_of_mem _ he))]
    congr 1
    simp only [entriesOf, h1.1]
    rw [← h1.2]

theorem entries_perm (cfg : Cfg) (fs : FS) (w : WS) (h : WInv cfg fs w) :
    (entriesOfFiles w.idx.files).Perm ((members fs w.root).flatMap (entriesOf fs)) := by
  rw [entriesOfFiles_eq fs _ (files_get_fs cfg fs w h)]
  exact (keys_perm_members cfg fs w h).flatMap_right _

theorem sumFor_pos_mem (l : AList Nat) (k : String) (h : 0 < sumFor l k) : k ∈ l.keys := by
  induction l with
  | nil => simp [sumFor] at h
  | cons e r ih =>
    rw [sumFor_cons] at h
    simp only [AList.keys, List.map_cons, List.mem_cons]
    by_cases e1 : e.1 = k
    · exact Or.inl e1.symm
    · simp only [e1, if_false, Nat.zero_add] at h
      exact Or.inr (ih h)

theorem total_pos (proj : Contrib → AList Nat) (cs : List Contrib) (k : String)
    (h : 0 < total proj cs k) : ∃ c ∈ cs, 0 < sumFor (proj c) k := by
  induction cs with
  | nil => exact absurd h (Nat.lt_irrefl 0)
  | cons c r ih =>
    rw [total_cons] at h
    by_cases e : 0 < sumFor (proj c) k
    · exact ⟨c, List.mem_cons_self, e⟩
    · obtain ⟨c', hc', h'⟩ := ih (by omega)
      exact ⟨c', List.mem_cons_of_mem _ hc', h'⟩

theorem total_pos_mem (proj : Contrib → AList Nat) (cs : List Contrib) (k : String)
    (h : 0 < total proj cs k) : k ∈ cs.flatMap fun c => (proj c).keys :=
  have ⟨c, hc, hp⟩ := total_pos proj cs k h
  List.mem_flatMap.mpr ⟨c, hc, sumFor_pos_mem _ _ hp⟩

theorem mem_support (proj : Contrib → AList Nat) (cs : List Contrib) (k : String) :
    k ∈ support proj cs ↔ 0 < total proj cs k := by
  simp only [support, mem_isort, mem_dedup, List.mem_filter, decide_eq_true_eq]
  constructor
  · exact fun h => h.2
  · exact fun h => ⟨total_pos_mem proj cs k h, h⟩

theorem counter_keys (proj : Contrib → AList Nat) (cs : List Contrib) :
    (counter proj cs).keys = support proj cs := by
  simp [counter, AList.keys, Function.comp_def]

theorem sortedKeys_eq_isort {α : Type} (m : AList α) (l : List String) (hn : m.keys.Nodup)
    (hl : l.Nodup) (h : ∀ a, a ∈ m.keys ↔ a ∈ isort l) : sortedKeys m = isort l :=
  isort_ext _ _ hn hl fun a => (h a).trans (mem_isort l a)

theorem sortedKeys_of_sum (proj : Contrib → AList Nat) (cs : List Contrib) (m : AList Nat)
    (hsum : ∀ k, cnt m k = total proj cs k) (hpos : Pos m) (hn : m.keys.Nodup) :
    sortedKeys m = support proj cs :=
  sortedKeys_eq_isort m _ hn (dedup_nodup _) fun a => by
    rw [mem_keys_iff_pos m hpos a, hsum a]; exact (mem_support proj cs a).symm

theorem mapOk_of (proj : Contrib → AList Nat) (cs : List Contrib) (m : AList Nat)
    (hsum : ∀ k, cnt m k = total proj cs k) (hpos : Pos m) (hn : m.keys.Nodup) :
    mapOk (counter proj cs) m = true := by
  simp only [mapOk, Bool.and_eq_true, beq_iff_eq, List.all_eq_true]
  refine ⟨by rw [sortedKeys_of_sum proj cs m hsum hpos hn, counter_keys], ?_⟩
  intro e he
  simp only [counter, List.mem_map] at he
  obtain ⟨k, hk, rfl⟩ := he
  have hp := (mem_support proj cs k).mp hk
  simp only
  rw [(get_eq_of_cnt m k _ hp).mpr (hsum k)]

theorem counterOk_mapOk (proj : Contrib → AList Nat) (files : AList FileIdx) (m : AList Nat)
    (cs : List Contrib) (hperm : (contribsOf files).Perm cs) (h : CounterOk proj files m) :
    mapOk (counter proj cs) m = true ∧ sortedKeys m = support proj cs :=
  have hsum : ∀ k, cnt m k = total proj cs k := fun k => by
    rw [h.sum k, total_perm proj _ _ hperm k]
  ⟨mapOk_of proj cs m hsum h.pos h.nodup, sortedKeys_of_sum proj cs m hsum h.pos h.nodup⟩

theorem map_pair_get {α : Type} (l : List String) (f : String → α) (t : String) :
    AList.get (l.map fun k => (k, f k)) t = if t ∈ l then some (f t) else none := by
  induction l with
  | nil => simp
  | cons a r ih =>
    simp only [List.map_cons, get_cons, List.mem_cons, ih]
    by_cases e : a = t
    · subst e; simp
    · have : ¬ t = a := fun h => e h.symm
      simp [e, this]

theorem map_pair_keys {α : Type} (l : List String) (f : String → α) :
    AList.keys (l.map fun k => (k, f k)) = l := by
  simp [AList.keys, Function.comp_def]

theorem sumFor_tvFlat_pos (t : String) (c : Contrib) (v : String) (h : 0 < sumFor (tvFlat t c) v) :
    t ∈ c.tvc.keys := by
  unfold tvFlat at h
  have hne : (c.tvc.filter fun e => e.1 = t) ≠ [] := by
    intro hnil; rw [hnil] at h; simp [sumFor] at h
  obtain ⟨e, he⟩ := List.exists_mem_of_ne_nil _ hne
  have := List.mem_filter.mp he
  simp only [decide_eq_true_eq] at this
  exact List.mem_map.mpr ⟨e, this.1, this.2⟩

theorem mem_tvTags (cs : List Contrib) (t : String) : t ∈ tvTags cs ↔ support (tvFlat t) cs ≠ [] := by
  simp only [tvTags, mem_isort, mem_dedup, List.mem_filter, decide_eq_true_eq]
  constructor
  · exact fun h => h.2
  · intro h
    refine ⟨?_, h⟩
    obtain ⟨v, hv⟩ := List.exists_mem_of_ne_nil _ h
    have hp := (mem_support _ _ _).mp hv
    obtain ⟨c, hc, hcp⟩ := total_pos _ cs v hp
    exact List.mem_flatMap.mpr ⟨c, hc, sumFor_tvFlat_pos t c v hcp⟩

theorem tvOk_nested (files : AList FileIdx) (m : AList (AList Nat)) (cs : List Contrib)
    (hperm : (contribsOf files).Perm cs) (h : TvOk files m) :
    nestedOk ((tvTags cs).map fun t => (t, counter (tvFlat t) cs)) m = true ∧
    (∀ t, (m.get t).map sortedKeys =
      if t ∈ tvTags cs then some (support (tvFlat t) cs) else none) := by
  have hsum : ∀ t v, tvCnt m t v = total (tvFlat t) cs v := fun t v => by
    rw [h.sum t v, total_perm _ _ _ hperm v]
  have hinner : ∀ t inner, m.get t = some inner →
      mapOk (counter (tvFlat t) cs) inner = true ∧ sortedKeys inner = support (tvFlat t) cs ∧
      support (tvFlat t) cs ≠ [] := by
    intro t inner hg
    obtain ⟨hne, hpos, hnd⟩ := h.canon t inner hg
    have hs : ∀ k, cnt inner k = total (tvFlat t) cs k := by
      intro k
      rw [← hsum t k]
      simp [tvCnt, AList.getD, hg]
    refine ⟨mapOk_of (tvFlat t) cs inner hs hpos hnd, sortedKeys_of_sum (tvFlat t) cs inner hs hpos hnd, ?_⟩
    cases inner with
    | nil => exact absurd rfl hne
    | cons e r =>
      obtain ⟨v, n⟩ := e
      have hgv : AList.get ((v, n) :: r) v = some n := by simp [get_cons]
      have hn := hpos v n hgv
      have : 0 < total (tvFlat t) cs v := by
        rw [← hs v]; simp [cnt, hgv]; exact hn
      intro hnil
      have := (mem_support _ _ _).mpr this
      rw [hnil] at this; simp at this
  have hkeys : ∀ t, t ∈ m.keys ↔ t ∈ tvTags cs := by
    intro t
    rw [mem_keys_iff, mem_tvTags]
    constructor
    · intro hs
      obtain ⟨inner, hi⟩ := Option.isSome_iff_exists.mp hs
      exact (hinner t inner hi).2.2
    · intro hs
      obtain ⟨v, hv⟩ := List.exists_mem_of_ne_nil _ hs
      have hp := (mem_support _ _ _).mp hv
      rw [← hsum t v] at hp
      cases e : m.get t with
      | some _ => rfl
      | none => simp [tvCnt, AList.getD, e, cnt] at hp
  have hsorted : sortedKeys m = tvTags cs := sortedKeys_eq_isort m _ h.nodup (dedup_nodup _) hkeys
  constructor
  · simp only [nestedOk, Bool.and_eq_true, beq_iff_eq, List.all_eq_true]
    refine ⟨by rw [hsorted, map_pair_keys], ?_⟩
    intro e he
    obtain ⟨t, ht, rfl⟩ := List.mem_map.mp he
    have := (hkeys t).mpr ht
    obtain ⟨inner, hi⟩ := Option.isSome_iff_exists.mp ((mem_keys_iff _ _).mp this)
    simp only [hi]
    exact (hinner t inner hi).1
  · intro t
    by_cases ht : t ∈ tvTags cs
    · simp only [ht, if_true]
      have := (hkeys t).mpr ht
      obtain ⟨inner, hi⟩ := Option.isSome_iff_exists.mp ((mem_keys_iff _ _).mp this)
      rw [hi]; simp [(hinner t inner hi).2.1]
    · simp only [ht, if_false]
      have : t ∉ m.keys := fun hk => ht ((hkeys t).mp hk)
      rw [(get_eq_none_iff _ _).mpr this]; rfl

theorem accountIndexOf_all (names : List String) : (accountIndexOf names).all = names := by
  unfold accountIndexOf
  have : ∀ (l : List String) (acc : AccountIndex),
      (l.foldl (fun idx name =>
        ({ all := idx.all ++ [name],
           byPrefix := (prefixesOf name).foldl
             (fun bp p => bp.set p (bp.getD p [] ++ [name])) idx.byPrefix } : AccountIndex)) acc).all
        = acc.all ++ l := by
    intro l
    induction l with
    | nil => intro acc; simp
    | cons a r ih => intro acc; simp only [List.foldl_cons]; rw [ih]; simp
  rw [this]; rfl

theorem listMapEqv_of_ext (a b : AList (List String)) (h : ∀ k, a.get k = b.get k) :
    listMapEqv a b = true := by
  simp only [listMapEqv, Bool.and_eq_true, List.all_eq_true, beq_iff_eq]
  exact ⟨fun e _ => (h e.1).symm, fun e _ => h e.1⟩

theorem get_buildTagValues (m : AList (AList Nat)) (hn : m.keys.Nodup) (t : String) :
    (buildTagValues m).get t = (m.get t).map sortedKeys := by
  rw [buildTagValues, get_foldl_set sortedKeys m hn]
  cases m.get t <;> rfl

theorem txOk_of (files : AList FileIdx) (m : AList (List Entry)) (es : List Entry)
    (hperm : (entriesOfFiles files).Perm es) (h : TxOk files m) :
    (sortedKeys m == AList.keys ((isort (dedup (es.map (·.key)))).map fun k => (k, es.filter fun e => e.key = k)) &&
     ((isort (dedup (es.map (·.key)))).map fun k => (k, es.filter fun e => e.key = k)).all
       fun e => (m.getD e.1 []).isPerm e.2) = true := by
  have hp : ∀ key, (m.getD key []).Perm (es.filter fun e => e.key = key) :=
    fun key => (h.perm key).trans (hperm.filter _)
  simp only [Bool.and_eq_true, beq_iff_eq, List.all_eq_true]
  constructor
  · rw [map_pair_keys]
    refine sortedKeys_eq_isort m _ h.nodup (dedup_nodup _) fun k => ?_
    rw [mem_keys_iff, mem_isort, mem_dedup]
    constructor
    · intro hs
      obtain ⟨l, hl⟩ := Option.isSome_iff_exists.mp hs
      have hne := h.nonempty k l hl
      have hgd : m.getD k [] = l := by simp [AList.getD, hl]
      have hpk := hp k
      rw [hgd] at hpk
      obtain ⟨x, hx⟩ := List.exists_mem_of_ne_nil _ hne
      have := hpk.mem_iff.mp hx
      have := List.mem_filter.mp this
      simp only [decide_eq_true_eq] at this
      exact List.mem_map.mpr ⟨x, this.1, this.2⟩
    · intro hk
      obtain ⟨x, hx, hxk⟩ := List.mem_map.mp hk
      have : x ∈ es.filter fun e => e.key = k := List.mem_filter.mpr ⟨hx, by simpa using hxk⟩
      have := (hp k).mem_iff.mpr this
      cases e : m.get k with
      | some _ => rfl
      | none => simp [AList.getD, e] at this
  · intro e he
    obtain ⟨k, _, rfl⟩ := List.mem_map.mp he
    exact List.isPerm_iff.mpr (hp k)

theorem mem_contribsOf (files : AList FileIdx) (hn : files.keys.Nodup) (c : Contrib) :
    c ∈ contribsOf files ↔ ∃ f fi, files.get f = some fi ∧ fi.c = c := by
  simp only [contribsOf, List.mem_map]
  constructor
  · rintro ⟨e, he, rfl⟩
    exact ⟨e.1, e.2, mem_get_of_nodup _ _ _ hn he, rfl⟩
  · rintro ⟨f, fi, hg, rfl⟩
    exact ⟨(f, fi), get_mem _ _ _ hg, rfl⟩

theorem ptOk_of (fixT : Bool) (files : AList FileIdx) (m : AList String) (cs : List Contrib)
    (hn : files.keys.Nodup) (hperm : (contribsOf files).Perm cs) (h : PtOk fixT files m)
    (hfix : fixT = true) :
    (sortedKeys m == AList.keys ((isort (dedup (cs.flatMap fun c => c.pts.keys))).map fun p =>
        (p, cs.filterMap fun c => c.pts.get p)) &&
     ((isort (dedup (cs.flatMap fun c => c.pts.keys))).map fun p =>
        (p, cs.filterMap fun c => c.pts.get p)).all fun e => match m.get e.1 with
      | some t => e.2.contains t
      | none => false) = true := by
  simp only [Bool.and_eq_true, beq_iff_eq, List.all_eq_true]
  have hkeys : ∀ p, p ∈ m.keys ↔ p ∈ cs.flatMap fun c => c.pts.keys := by
    intro p
    rw [mem_keys_iff]
    constructor
    · intro hs
      obtain ⟨t, ht⟩ := Option.isSome_iff_exists.mp hs
      obtain ⟨f, fi, hf, hfi⟩ := h.sound p t ht
      have : fi.c ∈ cs := hperm.mem_iff.mp ((mem_contribsOf files hn fi.c).mpr ⟨f, fi, hf, rfl⟩)
      exact List.mem_flatMap.mpr ⟨fi.c, this, (mem_keys_iff _ _).mpr (by rw [hfi]; rfl)⟩
    · intro hp
      obtain ⟨c, hc, hpc⟩ := List.mem_flatMap.mp hp
      obtain ⟨f, fi, hf, hfi⟩ := (mem_contribsOf files hn c).mp (hperm.mem_iff.mpr hc)
      exact h.complete hfix f fi p hf (by rw [hfi]; exact (mem_keys_iff _ _).mp hpc)
  constructor
  · rw [map_pair_keys]
    exact sortedKeys_eq_isort m _ h.nodup (dedup_nodup _) fun p => by rw [hkeys p, mem_isort, mem_dedup]
  · intro e he
    obtain ⟨p, hp, rfl⟩ := List.mem_map.mp he
    simp only [mem_isort, mem_dedup] at hp
    have := (mem_keys_iff _ _).mp ((hkeys p).mpr hp)
    obtain ⟨t, ht⟩ := Option.isSome_iff_exists.mp this
    simp only [ht, List.contains_iff_mem, List.mem_filterMap]
    obtain ⟨f, fi, hf, hfi⟩ := h.sound p t ht
    exact ⟨fi.c, hperm.mem_iff.mp ((mem_contribsOf files hn fi.c).mpr ⟨f, fi, hf, rfl⟩), hfi⟩

theorem mem_addKey (s : List String) (k a : String) : a ∈ addKey s k ↔ a ∈ s ∨ a = k := by
  unfold addKey
  by_cases h : k ∈ s
  · rw [if_pos h]; exact ⟨Or.inl, fun h' => h'.elim id fun e => e ▸ h⟩
  · rw [if_neg h, List.mem_append, List.mem_singleton]

theorem mem_foldl_addKey (l acc : List String) (a : String) :
    a ∈ l.foldl addKey acc ↔ a ∈ acc ∨ a ∈ l := by
  induction l generalizing acc with
  | nil => simp
  | cons x r ih => rw [List.foldl_cons, ih, mem_addKey, List.mem_cons, or_assoc]

theorem nodup_foldl_addKey (l acc : List String) (h : acc.Nodup) : (l.foldl addKey acc).Nodup :=
  foldl_inv l acc h fun s k _ hs => by
    unfold addKey
    by_cases hk : k ∈ s
    · rw [if_pos hk]; exact hs
    · rw [if_neg hk]; exact nodup_concat hs hk

/-- `resolved.AllDirectives()` projected -/
def allOf {α : Type} (proj : Contrib → List α) (w : WS) : List α :=
  (match w.primary with | some c => proj c | none => []) ++
    w.order.flatMap fun p => match w.rfiles.get p with | some c => proj c | none => []

theorem mem_allOf {α : Type} (proj : Contrib → List α) (cfg : Cfg) (fs : FS) (w : WS)
    (h : WInv cfg fs w) (x : α) :
    x ∈ allOf proj w ↔ ∃ c ∈ (members fs w.root).filterMap fs.get, x ∈ proj c := by
  have hR := h.pinv.r
  obtain ⟨cr, hcr⟩ := Option.isSome_iff_exists.mp ((h.closed w.root).mp h.pinv.rootIdx).2
  simp only [allOf, List.mem_append, List.mem_flatMap, List.mem_filterMap, mem_members]
  rw [hR.primary, hcr]
  constructor
  · rintro (hx | ⟨p, hp, hx⟩)
    · exact ⟨cr, ⟨w.root, (h.closed w.root).mp h.pinv.rootIdx, hcr⟩, hx⟩
    · have hs := (hR.order p).mp hp
      obtain ⟨c, hc⟩ := Option.isSome_iff_exists.mp hs
      rw [hc] at hx
      have hrf := hR.rfiles p
      rw [hc] at hrf
      by_cases e1 : p = w.root
      · simp [e1] at hrf
      · by_cases e2 : (w.idx.files.get p).isSome
        · simp only [e1, e2, if_false, if_true] at hrf
          exact ⟨c, ⟨p, (h.closed p).mp e2, hrf.symm⟩, hx⟩
        · simp [e1, e2] at hrf
  · rintro ⟨c, ⟨p, hp, hpc⟩, hx⟩
    by_cases e1 : p = w.root
    · subst e1
      rw [hcr] at hpc
      simp only [Option.some.injEq] at hpc
      exact Or.inl (hpc ▸ hx)
    · have hidx := (h.closed p).mpr hp
      have hrf := hR.rfiles p
      simp only [e1, if_false, hidx, if_true] at hrf
      refine Or.inr ⟨p, (hR.order p).mpr (by rw [hrf, hpc]; rfl), ?_⟩
      rw [hrf, hpc]; exact hx

theorem newF_eq (cfg : Cfg) (fs : FS) (w : WS) (h : WInv cfg fs w) : newF w = some (computeFormats w) :=
  newF_some w h.pinv.r.has h.cache.1

theorem declA_ok (cfg : Cfg) (fs : FS) (w : WS) (h : WInv cfg fs w) :
    isort (computeAccts w) =
      isort (dedup (((members fs w.root).filterMap fs.get).flatMap (·.declA))) := by
  refine isort_ext _ _ (nodup_foldl_addKey _ [] List.nodup_nil) (dedup_nodup _) fun a => ?_
  show a ∈ (allAcctDirs w).foldl addKey [] ↔ _
  rw [mem_foldl_addKey, mem_dedup]
  simp only [List.not_mem_nil, false_or, List.mem_flatMap]
  exact mem_allOf (·.declA) cfg fs w h a

theorem declC_ok (cfg : Cfg) (fs : FS) (w : WS) (h : WInv cfg fs w) :
    isort (computeComms w) =
      isort (dedup (((members fs w.root).filterMap fs.get).flatMap fun c => c.cds.map (·.sym))) := by
  have hc : computeComms w = ((allCommDirs w).map (·.sym)).foldl addKey [] := by
    unfold computeComms; rw [List.foldl_map]
  rw [hc]
  refine isort_ext _ _ (nodup_foldl_addKey _ [] List.nodup_nil) (dedup_nodup _) fun a => ?_
  rw [mem_foldl_addKey, mem_dedup]
  simp only [List.not_mem_nil, false_or, List.mem_flatMap, List.mem_map]
  constructor
  · rintro ⟨cd, hcd, rfl⟩
    obtain ⟨c, hc, hx⟩ := (mem_allOf (·.cds) cfg fs w h cd).mp hcd
    exact ⟨c, hc, cd, hx, rfl⟩
  · rintro ⟨c, hc, cd, hx, rfl⟩
    exact ⟨cd, (mem_allOf (·.cds) cfg fs w h cd).mpr ⟨c, hc, hx⟩, rfl⟩

theorem files_get_eq (cfg : Cfg) (fs : FS) (w1 w2 : WS) (h1 : WInv cfg fs w1) (h2 : WInv cfg fs w2)
    (hr : w1.root = w2.root) (f : String) : w1.idx.files.get f = w2.idx.files.get f := by
  have key : ∀ (wa wb : WS), WInv cfg fs wa → WInv cfg fs wb → wa.root = wb.root →
      ∀ fi, wa.idx.files.get f = some fi → wb.idx.files.get f = some fi := by
    intro wa wb ha hb hab fi hfi
    have hm := (ha.closed f).mp (by rw [hfi]; rfl)
    rw [hab] at hm
    obtain ⟨fi', hfi'⟩ := Option.isSome_iff_exists.mp ((hb.closed f).mpr hm)
    obtain ⟨c, hc, e1⟩ := ha.pinv.g.fresh f fi hfi
    obtain ⟨c', hc', e2⟩ := hb.pinv.g.fresh f fi' hfi'
    rw [hc] at hc'
    simp only [Option.some.injEq] at hc'
    rw [hfi', e2, e1, hc']
  cases e : w1.idx.files.get f with
  | some fi => exact (key w1 w2 h1 h2 hr fi e).symm
  | none =>
    cases e2 : w2.idx.files.get f with
    | none => rfl
    | some fi =>
      have := key w2 w1 h2 h1 hr.symm fi e2
      rw [e] at this; simp at this

theorem pts_get_eq (cfg : Cfg) (fs : FS) (w1 w2 : WS) (h1 : WInv cfg fs w1) (h2 : WInv cfg fs w2)
    (hr : w1.root = w2.root) (hfix : cfg.fixT = true) (p : String) :
    w1.idx.pts.get p = w2.idx.pts.get p := by
  rw [h1.pinv.g.idx.pts.exact hfix p, h2.pinv.g.idx.pts.exact hfix p]
  exact ptRestoreVal_congr _ _ h1.pinv.g.idx.nodup h2.pinv.g.idx.nodup p fun f fi => by
    rw [files_get_eq cfg fs w1 w2 h1 h2 hr f]

theorem members_ok (limit : Nat) (cfg : Cfg) (fs : FS) (w : WS) (h : WInv cfg fs w) :
    membersOk (rebuildAt limit w.root fs) (observe w).1 = true := by
  simp only [membersOk, rebuildAt, observe_fst, beq_iff_eq]
  exact members_eq cfg fs w h

theorem counts_ok (limit : Nat) (cfg : Cfg) (fs : FS) (w : WS) (h : WInv cfg fs w) :
    countsOk (rebuildAt limit w.root fs) (observe w).1 = true := by
  have hI := h.pinv.g.idx
  have hperm := contribs_perm cfg fs w h
  simp only [countsOk, rebuildAt, observe_fst, Bool.and_eq_true]
  exact ⟨⟨⟨⟨(counterOk_mapOk _ _ _ _ hperm hI.ac).1, (counterOk_mapOk _ _ _ _ hperm hI.pc).1⟩,
    (counterOk_mapOk _ _ _ _ hperm hI.cc).1⟩, (counterOk_mapOk _ _ _ _ hperm hI.tc).1⟩,
    (tvOk_nested _ _ _ hperm hI.tvc).1⟩

theorem names_ok (limit : Nat) (cfg : Cfg) (fs : FS) (w : WS) (h : WInv cfg fs w) :
    namesOk (rebuildAt limit w.root fs) (observe w).1 = true := by
  have hI := h.pinv.g.idx
  have hperm := contribs_perm cfg fs w h
  have keys (proj m) (hc : CounterOk proj w.idx.files m) := (counterOk_mapOk proj _ m _ hperm hc).2
  obtain ⟨g1, g2, g3, g4, g5, g6⟩ := hI.derived
  simp only [namesOk, rebuildAt, observe_fst, Bool.and_eq_true, beq_iff_eq, counter_keys]
  rw [g1, g2, g3, g4, g5, g6, buildAccountIndex, accountIndexOf_all, keys _ _ hI.ac, keys _ _ hI.pc,
    keys _ _ hI.cc, keys _ _ hI.tc, keys _ _ hI.dc]
  refine ⟨⟨⟨⟨⟨⟨rfl, listMapEqv_of_ext _ _ fun _ => rfl⟩, rfl⟩, rfl⟩, rfl⟩, rfl⟩,
    listMapEqv_of_ext _ _ fun t => ?_⟩
  rw [get_buildTagValues _ hI.tvc.nodup, (tvOk_nested _ _ _ hperm hI.tvc).2 t]
  simp only [List.map_map, Function.comp_def, counter_keys, map_pair_get]

theorem tx_ok (limit : Nat) (cfg : Cfg) (fs : FS) (w : WS) (h : WInv cfg fs w) :
    txOk (rebuildAt limit w.root fs) (observe w).1 = true := by
  simp only [txOk, rebuildAt, observe_fst]
  exact txOk_of _ _ _ (entries_perm cfg fs w h) h.pinv.g.idx.txs

theorem decl_ok (limit : Nat) (cfg : Cfg) (fs : FS) (w : WS) (h : WInv cfg fs w) :
    declOk (rebuildAt limit w.root fs) (observe w).1 = true := by
  simp only [declOk, rebuildAt, observe_fst, newA_some w h.pinv.r.has h.cache.2.2,
    newC_some w h.pinv.r.has h.cache.2.1, setOk,
    Bool.and_eq_true, beq_iff_eq]
  exact ⟨declA_ok cfg fs w h, declC_ok cfg fs w h⟩

theorem pt_ok (limit : Nat) (cfg : Cfg) (fs : FS) (w : WS) (h : WInv cfg fs w)
    (hfix : cfg.fixT = true) : ptOk (rebuildAt limit w.root fs) (observe w).1 = true := by
  simp only [ptOk, rebuildAt, observe_fst]
  exact ptOk_of cfg.fixT _ _ _ h.pinv.g.idx.nodup (contribs_perm cfg fs w h) h.pinv.g.idx.pts hfix

theorem view_ok (cfg : Cfg) (fs : FS) (w : WS) (h : WInv cfg fs w) :
    let r := rebuildAt cfg.limit w.root fs
    let v := (observe w).1
    membersOk r v = true ∧ countsOk r v = true ∧ namesOk r v = true ∧ txOk r v = true ∧
    declOk r v = true ∧ (cfg.fixT = true → ptOk r v = true) :=
  ⟨members_ok _ cfg fs w h, counts_ok _ cfg fs w h, names_ok _ cfg fs w h, tx_ok _ cfg fs w h,
    decl_ok _ cfg fs w h, pt_ok _ cfg fs w h⟩
end HL.Lemmas.View
