/-
  `updateIncludeEdgesLocked`: effect on the include graph and the reverse graph;
  `resolveIncludePaths`; reachability lemmas that do not depend on the workspace.
-/
import HL.Lemmas.ReachIdx
namespace HL.Lemmas.Edges
open HL.Index HL.Workspace HL.Lemmas.AList HL.Lemmas.ReachIdx HL.Spec.Rebuild

theorem mem_resolveIncl (path : String) (incs : List String) (v : String) :
    v ∈ resolveIncl path incs ↔ v ∈ incs ∧ v ≠ path := by
  simp [resolveIncl, List.mem_filter]

theorem resolveIncl_congr (path : String) (l₁ l₂ : List String)
    (h : ∀ v, v ≠ path → (v ∈ l₁ ↔ v ∈ l₂)) : resolveIncl path l₁ = resolveIncl path l₂ := by
  unfold resolveIncl
  apply isort_ext _ _ (dedup_nodup _) (dedup_nodup _)
  intro a
  simp only [mem_dedup, List.mem_filter, ne_eq, decide_eq_true_eq]
  constructor
  · rintro ⟨h1, h2⟩; exact ⟨(h a h2).mp h1, h2⟩
  · rintro ⟨h1, h2⟩; exact ⟨(h a h2).mpr h1, h2⟩

def revRemove (rev : AList (List String)) (path : String) (l : List String) : AList (List String) :=
  l.foldl (fun rev inc => rev.set inc (removeString (rev.getD inc []) path)) rev

def revAdd (rev : AList (List String)) (path : String) (l : List String) : AList (List String) :=
  l.foldl (fun rev inc => rev.set inc (addString (rev.getD inc []) path)) rev

theorem updateIncludeEdges_eq (w : WS) (path : String) (o n : List String) :
    updateIncludeEdges w path o n =
      { w with incG := w.incG.set path n, revG := revAdd (revRemove w.revG path o) path n } := rfl

theorem mem_revRemove (rev : AList (List String)) (path : String) (l : List String) (q x : String) :
    x ∈ (revRemove rev path l).getD q [] ↔ x ∈ rev.getD q [] ∧ ¬ (q ∈ l ∧ x = path) := by
  induction l generalizing rev with
  | nil => simp [revRemove]
  | cons a r ih =>
    simp only [revRemove, List.foldl_cons] at *
    rw [ih, getD_set]
    by_cases h : a = q
    · subst h
      simp only [if_true, removeString, List.mem_filter, ne_eq, decide_eq_true_eq, List.mem_cons,
        true_or, true_and]
      constructor
      · rintro ⟨⟨h1, h2⟩, _⟩; exact ⟨h1, h2⟩
      · rintro ⟨h1, h2⟩; exact ⟨⟨h1, h2⟩, fun h3 => h2 h3.2⟩
    · have : ¬ q = a := fun e => h e.symm
      simp [h, this]

theorem mem_revAdd (rev : AList (List String)) (path : String) (l : List String) (q x : String) :
    x ∈ (revAdd rev path l).getD q [] ↔ x ∈ rev.getD q [] ∨ (q ∈ l ∧ x = path) := by
  induction l generalizing rev with
  | nil => simp [revAdd]
  | cons a r ih =>
    simp only [revAdd, List.foldl_cons] at *
    rw [ih, getD_set]
    by_cases h : a = q
    · subst h
      simp only [if_true, addString, List.mem_cons, true_or, true_and]
      by_cases hp : path ∈ rev.getD a []
      · simp only [hp, if_true]
        constructor
        · rintro (h1 | h1)
          · exact Or.inl h1
          · exact Or.inr h1.2
        · rintro (h1 | h1)
          · exact Or.inl h1
          · exact Or.inl (h1 ▸ hp)
      · simp only [hp, if_false, List.mem_append, List.mem_singleton]
        constructor
        · rintro ((h1 | h1) | h1)
          · exact Or.inl h1
          · exact Or.inr h1
          · exact Or.inr h1.2
        · rintro (h1 | h1)
          · exact Or.inl (Or.inl h1)
          · exact Or.inl (Or.inr h1)
    · have : ¬ q = a := fun e => h e.symm
      simp [h, this]

/-- the reverse graph after `updateIncludeEdgesLocked(path, old, new)` -/
theorem mem_rev_update (w : WS) (path : String) (o n : List String) (q x : String) :
    x ∈ (updateIncludeEdges w path o n).revG.getD q [] ↔
      (x ∈ w.revG.getD q [] ∧ ¬ (q ∈ o ∧ x = path)) ∨ (q ∈ n ∧ x = path) := by
  rw [updateIncludeEdges_eq]
  simp only [mem_revAdd, mem_revRemove]

theorem incG_update (w : WS) (path : String) (o n : List String) (x : String) :
    (updateIncludeEdges w path o n).incG.getD x [] = if path = x then n else w.incG.getD x [] := by
  rw [updateIncludeEdges_eq]
  simp only [getD_set]

theorem reachS_target_indep {s₁ s₂ : String → List String} {root p : String}
    (hs : ∀ u, u ≠ p → s₁ u = s₂ u) (h : ReachS s₁ root p) : ReachS s₂ root p := by
  have key : ∀ x, ReachS s₁ root x → ReachS s₂ root x ∨ ReachS s₂ root p := by
    intro x hx
    induction hx with
    | base => exact Or.inl .base
    | @step u v _ hq ih =>
      rcases ih with ih | ih
      · by_cases e : u = p
        · exact Or.inr (e ▸ ih)
        · exact Or.inl (.step ih (hs u e ▸ hq))
      · exact Or.inr ih
  rcases key p h with h | h <;> exact h

theorem reachS_mod_self {s₁ s₂ : String → List String} {root x : String}
    (hs : ∀ u v, v ≠ u → v ∈ s₁ u → v ∈ s₂ u) (h : ReachS s₁ root x) : ReachS s₂ root x := by
  induction h with
  | base => exact .base
  | @step u v _ hq ih =>
    by_cases e : v = u
    · exact e ▸ ih
    · exact .step ih (hs u v e hq)

theorem reachS_drop_unreachable {s₁ s₂ : String → List String} {root t x : String}
    (hs : ∀ u, u ≠ t → s₁ u = s₂ u) (ht : ¬ ReachS s₁ root t) (h : ReachS s₁ root x) :
    ReachS s₂ root x := by
  induction h with
  | base => exact .base
  | @step u v hp hq ih =>
    have : u ≠ t := fun e => ht (e ▸ hp)
    exact .step ih (hs u this ▸ hq)

end HL.Lemmas.Edges
