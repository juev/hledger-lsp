import HL.Model.Balance
import HL.Spec.BalanceSpec
import HL.Lemmas.Dec

/-! Lemmas tying `Balance.check` / `Balance.accountBalances` to the rational specification. -/
namespace HL
namespace KV

def keys {β} (m : List (Bytes × β)) : List Bytes := m.map (·.1)

theorem get_eq_find? {β} (m : List (Bytes × β)) (k : Bytes) (z : β) : get m k z = (find? m k).getD z := by
  induction m with
  | nil => rfl
  | cons a r ih =>
    simp only [get, find?]
    split
    · rfl
    · exact ih

theorem find?_set {β} (m : List (Bytes × β)) (k k' : Bytes) (v : β) :
    find? (set m k v) k' = if k = k' then some v else find? m k' := by
  induction m with
  | nil => rfl
  | cons a r ih =>
    obtain ⟨k0, v0⟩ := a
    by_cases h0 : k0 = k
    · subst h0
      by_cases h1 : k0 = k' <;> simp only [set, find?, h1, if_true, if_false]
    · simp only [set, h0, if_false, find?, ih]
      by_cases h1 : k0 = k'
      · subst h1; simp only [if_true, Ne.symm h0, if_false]
      · simp only [h1, if_false]

theorem get_set {β} (m : List (Bytes × β)) (k k' : Bytes) (v z : β) :
    get (set m k v) k' z = if k = k' then v else get m k' z := by
  rw [get_eq_find?, get_eq_find?, find?_set]
  split <;> rfl

theorem find?_eq_none_iff {β} (m : List (Bytes × β)) (c : Bytes) : find? m c = none ↔ c ∉ keys m := by
  induction m with
  | nil => exact ⟨fun _ => List.not_mem_nil, fun _ => rfl⟩
  | cons a r ih =>
    simp only [find?, keys, List.map_cons, List.mem_cons, not_or]
    split
    · rename_i h; exact ⟨fun e => (nomatch e), fun e => absurd h.symm e.1⟩
    · rename_i h; exact ih.trans ⟨fun e => ⟨Ne.symm h, e⟩, fun e => e.2⟩

theorem mem_of_find? {β} (m : List (Bytes × β)) (c : Bytes) (v : β) (h : find? m c = some v) : (c, v) ∈ m := by
  induction m with
  | nil => cases h
  | cons a r ih =>
    simp only [find?] at h
    split at h
    · rename_i hk; cases h; cases hk; exact List.mem_cons_self
    · exact List.mem_cons_of_mem _ (ih h)

theorem keys_set {β} (m : List (Bytes × β)) (k : Bytes) (v : β) :
    keys (set m k v) = if k ∈ keys m then keys m else keys m ++ [k] := by
  induction m with
  | nil => rfl
  | cons a r ih =>
    obtain ⟨k0, v0⟩ := a
    by_cases h0 : k0 = k
    · subst h0; simp only [set, if_true, keys, List.map_cons, List.mem_cons, true_or]
    · simp only [set, h0, if_false, keys, List.map_cons, List.mem_cons, Ne.symm h0, false_or] at ih ⊢
      rw [ih]; split <;> simp only [*, if_true, if_false, List.cons_append]

theorem nodup_keys_set {β} (m : List (Bytes × β)) (k : Bytes) (v : β) (h : (keys m).Nodup) :
    (keys (set m k v)).Nodup := by
  rw [keys_set]
  split
  · exact h
  · rename_i hk
    exact List.nodup_append.2 ⟨h, List.nodup_cons.2 ⟨List.not_mem_nil, List.nodup_nil⟩, fun a ha b hb => by
      cases List.mem_singleton.1 hb; exact fun e => hk (e ▸ ha)⟩

end KV

namespace Balance
open Ast Spec.Bal

theorem real_image (tx : Transaction) : real (image tx) = (filterReal tx.postings).map imagePosting := by
  unfold real image filterReal
  rw [List.filter_map]
  congr 1
  apply List.filter_congr
  intro p _
  unfold Function.comp isReal imagePosting
  cases p.virt <;> rfl

theorem countInferred_fst (l : List Posting) (i cnt : Nat) (last : Int) :
    (countInferred l i (cnt, last)).1 = cnt + (l.filter fun p => p.amount.isNone).length := by
  induction l generalizing i cnt last with
  | nil => rfl
  | cons p r ih =>
    simp only [countInferred, List.filter_cons]
    split <;> rw [ih]
    · simp only [List.length_cons]; omega

theorem missing_image (tx : Transaction) :
    missing (image tx) = (countInferred (filterReal tx.postings) 0 (0, -1)).1 := by
  rw [countInferred_fst, Nat.zero_add, missing, real_image, List.filter_map, List.length_map]
  congr 2
  funext p
  simp [imagePosting]

/-- `Mul` would panic on this posting. -/
def mulOverflow (p : Posting) : Prop :=
  ∃ a c, p.amount = some a ∧ p.cost = some c ∧ c.isTotal = false ∧
    (c.amount.quantity.exp + a.quantity.exp > Dec.int32Max ∨ c.amount.quantity.exp + a.quantity.exp < Dec.int32Min)

theorem abs_exp (a : Dec) : (Dec.abs a).exp = a.exp := by
  unfold Dec.abs; split <;> rfl

def withSign (a x : Dec) : Dec := if Dec.isNegative a then Dec.neg x else x

theorem contribution_cases (p : Posting) :
    (p.amount = none ∧ contribution p = none) ∨
    (∃ a, p.amount = some a ∧ p.cost = none ∧ contribution p = some (some (a.commodity.symbol, a.quantity))) ∨
    (∃ a c, p.amount = some a ∧ p.cost = some c ∧ c.isTotal = true ∧
      contribution p = some (some (c.amount.commodity.symbol,
        withSign a.quantity (if Dec.isZero a.quantity then Dec.zeroValue else c.amount.quantity)))) ∨
    (∃ a c, p.amount = some a ∧ p.cost = some c ∧ c.isTotal = false ∧
      Dec.mul c.amount.quantity (Dec.abs a.quantity) = none ∧ contribution p = some none) ∨
    (∃ a c m, p.amount = some a ∧ p.cost = some c ∧ c.isTotal = false ∧
      Dec.mul c.amount.quantity (Dec.abs a.quantity) = some m ∧
      contribution p = some (some (c.amount.commodity.symbol, withSign a.quantity m))) := by
  unfold contribution withSign
  cases hA : p.amount with
  | none => exact Or.inl ⟨rfl, rfl⟩
  | some a =>
    cases hC : p.cost with
    | none => exact Or.inr (Or.inl ⟨a, rfl, rfl, rfl⟩)
    | some c =>
      cases ht : c.isTotal with
      | true => exact Or.inr (Or.inr (Or.inl ⟨a, c, rfl, rfl, ht, by simp only [ht, if_true]⟩))
      | false =>
        cases hm : Dec.mul c.amount.quantity (Dec.abs a.quantity) with
        | none =>
          exact Or.inr (Or.inr (Or.inr (Or.inl ⟨a, c, rfl, rfl, ht, hm, by
            simp only [ht, Bool.false_eq_true, if_false, hm]⟩)))
        | some m =>
          exact Or.inr (Or.inr (Or.inr (Or.inr ⟨a, c, m, rfl, rfl, ht, hm, by
            simp only [ht, Bool.false_eq_true, if_false, hm]⟩)))

theorem contribution_none_iff (p : Posting) : contribution p = none ↔ p.amount = none := by
  rcases contribution_cases p with ⟨h, e⟩ | ⟨a, h, _, e⟩ | ⟨a, c, h, _, _, e⟩ | ⟨a, c, h, _, _, _, e⟩ |
    ⟨a, c, m, h, _, _, _, e⟩ <;> simp [h, e]

theorem contribution_panic_iff (p : Posting) : contribution p = some none ↔ mulOverflow p := by
  have hov : ∀ a c : Dec, Dec.mul c (Dec.abs a) = none ↔
      (c.exp + a.exp > Dec.int32Max ∨ c.exp + a.exp < Dec.int32Min) := fun a c => by
    rw [Dec.mul_eq_none_iff, abs_exp]
  unfold mulOverflow
  rcases contribution_cases p with ⟨h, e⟩ | ⟨a, h, hc, e⟩ | ⟨a, c, h, hc, ht, e⟩ | ⟨a, c, h, hc, ht, hm, e⟩ |
    ⟨a, c, m, h, hc, ht, hm, e⟩
  · simp [h, e]
  · simp [h, hc, e]
  · simp [h, hc, ht, e]
  · simp only [e, true_iff]; exact ⟨a, c, h, hc, ht, (hov _ _).1 hm⟩
  · simp only [e, Option.some.injEq, reduceCtorEq, false_iff]
    rintro ⟨a', c', ha, hc', _, h'⟩
    rw [h] at ha; rw [hc] at hc'; cases ha; cases hc'
    rw [(hov _ _).2 h'] at hm; cases hm

theorem withSign_exact (a x : Dec) :
    Dec.toRat (withSign a x) = if Dec.toRat a < 0 then -Dec.toRat x else Dec.toRat x := by
  unfold withSign
  by_cases h : Dec.toRat a < 0
  · rw [if_pos ((Dec.isNegative_iff a).2 h), if_pos h, Dec.neg_exact]
  · rw [if_neg (fun e => h ((Dec.isNegative_iff a).1 e)), if_neg h]

/-- The decimal a posting contributes is exactly the statement's cost-converted quantity. -/
theorem contribution_exact (p : Posting) (k : Bytes) (q : Dec)
    (h : contribution p = some (some (k, q))) :
    converted totalBySignum (imagePosting p) = some (k, Dec.toRat q) := by
  unfold converted imagePosting
  rcases contribution_cases p with ⟨_, e⟩ | ⟨a, ha, hc, e⟩ | ⟨a, c, ha, hc, ht, e⟩ | ⟨a, c, _, _, _, _, e⟩ |
    ⟨a, c, m, ha, hc, ht, hm, e⟩ <;> rw [e] at h <;> cases h
  · simp only [ha, hc, Option.map_some, Option.map_none, imageAmount]
  · simp only [ha, hc, Option.map_some, imageAmount, imageCost, ht, if_true, withSign_exact, totalBySignum, signum]
    congr 2
    by_cases hz : Dec.toRat a.quantity = 0
    · simp [hz, (Dec.isZero_iff _).2 hz, Dec.toRat_zeroValue]
    · have : Dec.isZero a.quantity = false := Bool.eq_false_iff.2 fun e => hz ((Dec.isZero_iff _).1 e)
      by_cases hlt : Dec.toRat a.quantity < 0 <;> simp [hz, hlt, this, Rat.mul_neg]
  · simp only [ha, hc, Option.map_some, imageAmount, imageCost, ht, Bool.false_eq_true, if_false, withSign_exact,
      Dec.mul_exact hm, Dec.abs_exact, Dec.rabs]
    congr 2
    by_cases hlt : Dec.toRat a.quantity < 0 <;> simp [hlt, Rat.mul_neg]

/-- contributions of a list of syntax-tree postings to commodity `c` (statement's rule). -/
def contribs (l : List Posting) (c : Bytes) : List Rat :=
  l.filterMap fun p => match converted totalBySignum (imagePosting p) with
    | some (c', v) => if c' = c then some v else none
    | none => none

theorem sumRat_cons (a : Rat) (l : List Rat) : sumRat (a :: l) = a + sumRat l := rfl
theorem sumRat_nil : sumRat [] = 0 := rfl

theorem sum_cons_some {p : Posting} {r : List Posting} {m m' : Sums}
    (h : sumByCommodity (p :: r) m = some m') :
    (contribution p = none ∧ sumByCommodity r m = some m') ∨
    ∃ k q, contribution p = some (some (k, q)) ∧
      sumByCommodity r (KV.set m k (Dec.add (KV.get m k Dec.zero) q)) = some m' := by
  unfold sumByCommodity at h
  cases hc : contribution p with
  | none => rw [hc] at h; exact Or.inl ⟨rfl, h⟩
  | some o =>
    cases o with
    | none => rw [hc] at h; cases h
    | some kq => rw [hc] at h; exact Or.inr ⟨kq.1, kq.2, rfl, h⟩

theorem sum_spec (l : List Posting) (m m' : Sums) (h : sumByCommodity l m = some m')
    (hn : (KV.keys m).Nodup) :
    (KV.keys m').Nodup ∧
    ∀ c, Dec.toRat (KV.get m' c Dec.zero) = Dec.toRat (KV.get m c Dec.zero) + sumRat (contribs l c) := by
  induction l generalizing m with
  | nil => cases h; exact ⟨hn, fun c => (Rat.add_zero _).symm⟩
  | cons p r ih =>
    rcases sum_cons_some h with ⟨hc, h⟩ | ⟨k, q, hc, h⟩
    · have hconv : converted totalBySignum (imagePosting p) = none := by
        unfold converted imagePosting; rw [(contribution_none_iff p).1 hc]; rfl
      have hcons : ∀ c, contribs (p :: r) c = contribs r c := fun c => by
        unfold contribs; rw [List.filterMap_cons, hconv]
      simp only [hcons]
      exact ih m h hn
    · obtain ⟨h1, h2⟩ := ih _ h (KV.nodup_keys_set m k _ hn)
      refine ⟨h1, fun c => ?_⟩
      unfold contribs
      rw [h2 c, List.filterMap_cons, contribution_exact p k q hc, KV.get_set]
      by_cases hk : k = c
      · subst hk
        simp only [if_true, sumRat_cons, Dec.add_exact, Rat.add_assoc]; rfl
      · simp only [hk, if_false]; rfl

theorem sum_none_iff (l : List Posting) (m : Sums) :
    sumByCommodity l m = none ↔ ∃ p ∈ l, mulOverflow p := by
  induction l generalizing m with
  | nil => simp [sumByCommodity]
  | cons p r ih =>
    unfold sumByCommodity
    simp only [List.mem_cons, exists_eq_or_imp, ← contribution_panic_iff p]
    cases hc : contribution p with
    | none => simp [ih]
    | some o =>
      cases o with
      | none => simp
      | some kq => simp [ih]

theorem differencesOf_cons (k : Bytes) (v : Dec) (r : Sums) :
    differencesOf ((k, v) :: r) =
      if Dec.isZero v then differencesOf r else (k, Dec.abs v) :: differencesOf r := by
  unfold differencesOf
  rw [List.filterMap_cons]
  cases h : Dec.isZero v <;> simp [h]

theorem find?_differencesOf (sums : Sums) (hn : (KV.keys sums).Nodup) (c : Bytes) :
    KV.find? (differencesOf sums) c =
      match KV.find? sums c with
      | some v => if Dec.isZero v then none else some (Dec.abs v)
      | none => none := by
  induction sums with
  | nil => rfl
  | cons a r ih =>
    obtain ⟨k, v⟩ := a
    have hn' := List.nodup_cons.1 hn
    rw [differencesOf_cons]
    by_cases hk : k = c
    · subst hk
      have hnone := (KV.find?_eq_none_iff r k).2 hn'.1
      cases hz : Dec.isZero v
      · simp [KV.find?, hz]
      · simp [KV.find?, hz, ih hn'.2, hnone]
    · cases hz : Dec.isZero v <;> simp [KV.find?, hk, ih hn'.2]

theorem mem_dedup (l : List Bytes) (c : Bytes) : c ∈ dedup l ↔ c ∈ l := by
  induction l generalizing c with
  | nil => rfl
  | cons a r ih =>
    unfold dedup
    split
    · rename_i h
      exact (ih c).trans ⟨List.mem_cons_of_mem _, fun e => (List.mem_cons.1 e).elim (fun e => e ▸ (ih a).1 h) id⟩
    · simp only [List.mem_cons, ih]

theorem nodup_dedup (l : List Bytes) : (dedup l).Nodup := by
  induction l with
  | nil => exact List.nodup_nil
  | cons a r ih =>
    unfold dedup
    split
    · exact ih
    · exact List.nodup_cons.2 ⟨‹_›, ih⟩

theorem contributions_nil_of_not_mem (rule : TotalRule) (tx : RTx) (c : Bytes)
    (h : c ∉ commodities rule tx) : contributions rule tx c = [] := by
  unfold commodities at h
  rw [mem_dedup] at h
  unfold contributions
  rw [List.filterMap_eq_nil_iff]
  intro p hp
  cases hc : converted rule p with
  | none => rfl
  | some cv =>
    have : cv.1 ≠ c := fun e => h (List.mem_filterMap.2 ⟨p, hp, by rw [hc, ← e]; rfl⟩)
    simp only [this, if_false]

theorem find?_filterMap_keys (keys : List Bytes) (f : Bytes → Option Rat) (hn : keys.Nodup) (c : Bytes) :
    KV.find? (keys.filterMap fun k => (f k).map fun v => (k, v)) c = if c ∈ keys then f c else none := by
  induction keys with
  | nil => rfl
  | cons k r ih =>
    have hn' := List.nodup_cons.1 hn
    rw [List.filterMap_cons]
    by_cases hk : k = c
    · subst hk
      cases hf : f k
      · simp [ih hn'.2, hn'.1]
      · simp [KV.find?]
    · cases hf : f k <;> simp [KV.find?, hk, Ne.symm hk, ih hn'.2]

theorem find?_diffs (rule : TotalRule) (tx : RTx) (c : Bytes) :
    KV.find? (diffs rule tx) c =
      if residual rule tx c = 0 then none else some (rabs (residual rule tx c)) := by
  have e : diffs rule tx = (commodities rule tx).filterMap fun k =>
      (if residual rule tx k = 0 then none else some (rabs (residual rule tx k))).map fun v => (k, v) := by
    unfold diffs
    congr 1
    funext k
    by_cases hz : residual rule tx k = 0 <;> simp [hz]
  rw [e, find?_filterMap_keys (commodities rule tx) _ (nodup_dedup _)]
  split
  · rfl
  · rename_i hm
    rw [if_pos]
    unfold residual
    rw [contributions_nil_of_not_mem rule tx c hm]
    rfl

theorem contributions_image (tx : Transaction) (c : Bytes) :
    contributions totalBySignum (image tx) c = contribs (filterReal tx.postings) c := by
  unfold contributions contribs
  rw [real_image, List.filterMap_map]
  rfl

end Balance
end HL
