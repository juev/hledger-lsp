import HL.Lemmas.LexCover
/-!
  Carriage returns and the repaired lexer, part 1: what a Comment token's value can end with.

  `advLine` (the loops that run to the end of the line) steps over a carriage return only if no
  line feed follows it (`advLineF_last_cr`).  So in a text in which every CR is directly followed
  by LF (`CrOk`) no Comment value ends with a CR (`lexAll_comment_no_cr`) — the lexer-side half of
  C17's `ordered_disjoint_inline` / `covers_lexeme`.
-/
namespace HL.Lex
open HL HL.Utf8 Ctl

/-- every carriage return is directly followed by a line feed -/
def CrOk : Bytes → Bool
  | a :: b :: rest => (a != CR || b == LF) && CrOk (b :: rest)
  | [a] => a != CR
  | [] => true

theorem crOk_append_cr {a b : Bytes} (h : CrOk (a ++ CR :: b) = true) : headIs LF b = true := by
  induction a with
  | nil =>
    cases b with
    | nil => simp [CrOk] at h
    | cons c t =>
      simp only [List.nil_append, CrOk, Bool.and_eq_true, Bool.or_eq_true, bne_iff_ne, ne_eq,
        not_true_eq_false, false_or, beq_iff_eq] at h
      simp [headIs, h.1]
  | cons x a ih =>
    cases a with
    | nil =>
      simp only [List.cons_append, List.nil_append, CrOk, Bool.and_eq_true] at h
      exact ih h.2
    | cons y a =>
      simp only [List.cons_append, CrOk, Bool.and_eq_true] at h
      exact ih h.2

theorem advance_head_ne_cr {z : Z} {b : UInt8} {t : Bytes} (hz : z.after = b :: t) (hb : b ≠ CR) :
    (advance z).before.head? ≠ some CR := by
  rw [advance_cons hz]
  simp only [Z.bump, hz]
  have hw := decodeRune_width_pos b t
  have hno := decodeRune_take_noCR b t hb
  intro h
  have hne : ((b :: t).take (decodeRune (b :: t)).2).reverse ≠ [] := by
    obtain ⟨w, hw'⟩ : ∃ w, (decodeRune (b :: t)).2 = w + 1 := ⟨_, (Nat.succ_pred_eq_of_pos hw).symm⟩
    simp [hw']
  obtain ⟨x, l, hl⟩ := List.exists_cons_of_ne_nil hne
  rw [hl] at h
  simp only [List.cons_append, List.head?_cons, Option.some.injEq] at h
  have : CR ∈ ((b :: t).take (decodeRune (b :: t)).2).reverse := by rw [hl, h]; simp
  exact hno (List.mem_reverse.mp this)

/-- If `advLine` consumed anything and the last byte it consumed is a carriage return, no line
    feed follows: the loop does not step over the CR of a CR LF. -/
theorem advLineF_last_cr (p : UInt8 → Bool) (n : Nat) (z : Z)
    (hlt : z.before.length < (advLineF p n z).before.length)
    (hcr : (advLineF p n z).before.head? = some CR) : headIs LF (advLineF p n z).after = false := by
  rw [advLineF_eq] at hlt hcr ⊢
  refine loopF_inv (fun s : Z => z.before.length < s.before.length → s.before.head? = some CR →
    headIs LF s.after = false) ?_ n (fun h => absurd h (Nat.lt_irrefl _)) hlt hcr
  intro s _ hstep _ _ hcr
  obtain ⟨rfl, hne, hq⟩ := advStep_some hstep
  obtain ⟨b, t, hz⟩ := List.exists_cons_of_ne_nil hne
  by_cases hb : b = CR
  · subst hb
    rw [hz, lineP, atEol_cons] at hq
    rw [advance_ascii hz (by decide)]
    exact (by simpa using hq : _ ∧ headIs LF t = false).2
  · exact absurd hcr (advance_head_ne_cr hz hb)

theorem between_getLast {s e : Z} (h : s.before.length < e.before.length) :
    (between s e).getLast? = e.before.head? := by
  unfold between
  rw [List.getLast?_reverse]
  cases hb : e.before with
  | nil => rw [hb] at h; simp at h
  | cons c r =>
    have : 0 < (c :: r).length - s.before.length := by rw [hb] at h; omega
    obtain ⟨k, hk⟩ : ∃ k, (c :: r).length - s.before.length = k + 1 := ⟨_, (Nat.succ_pred_eq_of_pos this).symm⟩
    rw [hk]; rfl

/-- **A comment's value does not end with the CR of a CR LF.**  If the value of the token
    `scanComment` returns ends with a carriage return, that carriage return is not followed by a
    line feed in the input. -/
theorem scanComment_no_cr (z : Z) (hok : CrOk z.input = true) :
    (scanComment z).1.val.getLast? ≠ some CR := by
  intro h
  simp only [scanComment, mkTok] at h
  have hne : between (advance z) (advLine (fun _ => true) (advance z)) ≠ [] := by
    intro e; rw [e] at h; simp at h
  have hlt := between_ne_nil_lt hne
  rw [between_getLast hlt] at h
  have hno : headIs LF (advLine (fun _ => true) (advance z)).after = false := advLineF_last_cr _ _ _ hlt h
  have hin : (advLine (fun _ => true) (advance z)).input = z.input :=
    ((Adv.advance z).trans (advLine_adv _ _)).input
  generalize advLine (fun _ => true) (advance z) = e at h hno hin
  cases hb : e.before with
  | nil => rw [hb] at h; simp at h
  | cons c r =>
    rw [hb] at h
    simp only [List.head?_cons, Option.some.injEq] at h
    subst h
    rw [← hin, Z.input, hb] at hok
    simp only [List.reverse_cons, List.append_assoc, List.singleton_append] at hok
    have := crOk_append_cr hok
    rw [hno] at this
    exact absurd this (by decide)

def NC (r : Token × Z) : Prop := r.1.ty ≠ .comment

theorem nc_mk (ty : TokType) (v : Bytes) (s e : Z) (h : ty ≠ .comment) : NC (mkTok ty v s e) := h

theorem nc_ite {c : Prop} [Decidable c] {a b : Token × Z} (ha : NC a) (hb : NC b) : NC (if c then a else b) :=
  ite_ind (fun _ => ha) fun _ => hb

theorem nc_mkAt (ty : TokType) (v : Bytes) (s : Z) (stop : Pos) (e : Z) (h : ty ≠ .comment) :
    NC (mkTokAt ty v s stop e) := h

theorem scanText_nc (z : Z) : NC (scanText z) := nc_mkAt _ _ _ _ _ (by decide)
theorem scanAccount_nc (z : Z) : NC (scanAccount z) := by
  unfold scanAccount; exact nc_mkAt _ _ _ _ _ (by decide)
/-- if the token is a Comment token, `scanComment` made it at a state that works on `input` -/
def CommentFrom (input : Bytes) (r : Token × Z) : Prop :=
  r.1.ty = .comment → ∃ z', z'.input = input ∧ r.1 = (scanComment z').1

theorem NC.from {input : Bytes} {r : Token × Z} (h : NC r) : CommentFrom input r := fun e => absurd e h

theorem scanInLineAt_commentFrom (C : Classes) (z : Z) : CommentFrom z.input (scanInLineAt C z) := by
  unfold scanInLineAt
  split
  · exact NC.from (nc_mk _ _ _ _ (by decide))
  · dsimp only
    refine ite_ind (fun _ => NC.from (nc_mk _ _ _ _ (by decide))) fun _ => ?_
    refine ite_ind (fun _ _ => ⟨z, rfl, rfl⟩) fun _ => NC.from ?_
    refine nc_ite (nc_ite (nc_mk _ _ _ _ (by decide)) (nc_mk _ _ _ _ (by decide))) ?_
    refine nc_ite (nc_mk _ _ _ _ (by decide)) ?_
    refine nc_ite (nc_mk _ _ _ _ (by decide)) ?_
    refine nc_ite (nc_mk _ _ _ _ (by decide)) ?_
    refine nc_ite (nc_mk _ _ _ _ (by decide)) ?_
    refine nc_ite (nc_ite (nc_mk _ _ _ _ (by decide)) (nc_mk _ _ _ _ (by decide))) ?_
    refine nc_ite (nc_ite (nc_mk _ _ _ _ (by decide)) (nc_mk _ _ _ _ (by decide))) ?_
    refine nc_ite (nc_mk _ _ _ _ (by decide)) ?_
    refine nc_ite (nc_mk _ _ _ _ (by decide)) ?_
    refine nc_ite (nc_mk _ _ _ _ (by decide)) ?_
    refine nc_ite (nc_ite (nc_mk _ _ _ _ (by decide)) (scanText_nc z)) ?_
    refine nc_ite (nc_ite (nc_mk _ _ _ _ (by decide)) (nc_mk _ _ _ _ (by decide))) ?_
    exact nc_ite (nc_ite (scanAccount_nc z) 
      (nc_ite (nc_mk _ _ _ _ (by decide)) (nc_ite (nc_mk _ _ _ _ (by decide)) (scanText_nc z)))) (scanText_nc z)

theorem scanInLine_commentFrom (C : Classes) (z : Z) : CommentFrom z.input (scanInLine C z) := by
  have := scanInLineAt_commentFrom C (skipSpaces z)
  rwa [show (skipSpaces z).input = z.input from (advWhile_adv isBlank z).input] at this

/-- a Comment token returned by `Next` is made by `scanComment` at a state that works on the
    same input -/
theorem next_comment_inv (C : Classes) (z : Z) (h : (next C z).1.ty = .comment) :
    ∃ z', z'.input = z.input ∧ (next C z).1 = (scanComment z').1 := by
  refine (?_ : CommentFrom z.input (next C z)) h
  unfold next
  split
  · exact NC.from (nc_mk _ _ _ _ (by decide))
  · refine ite_ind (fun _ => ?_) fun _ => scanInLine_commentFrom C z
    unfold scanLineStart scanLineStartAt
    dsimp only
    refine ite_ind (fun _ _ => ⟨{ z with atStart := false }, rfl, rfl⟩) fun _ => ?_
    refine ite_ind (fun _ => NC.from (nc_mk _ _ _ _ (by decide))) fun _ => ?_
    refine ite_ind (fun _ => NC.from (nc_mk _ _ _ _ (by decide))) fun _ => ?_
    exact ite_ind (fun _ => NC.from
      (nc_ite (nc_mk _ _ _ _ (by decide)) (nc_ite (scanAccount_nc _) (scanText_nc _)))) fun _ => scanInLine_commentFrom C _

/-- **No Comment value ends with the CR of a line end**: in a text in which every carriage
    return is directly followed by a line feed, no Comment token's value ends with a carriage
    return — for every such text and every classifier. -/
theorem lexAll_comment_no_cr (C : Classes) (input : Bytes) (hok : CrOk input = true) :
    ∀ t ∈ lexAll C input, t.ty = .comment → t.val.getLast? ≠ some CR := by
  rw [lexAll_eq_lexS]
  refine lexS_forall_input C input (fun t => t.ty = .comment → t.val.getLast? ≠ some CR) ?_
    (Z.init input) (by simp [Z.init, Z.input])
  intro z hz hty
  obtain ⟨z', hi, he⟩ := next_comment_inv C z hty
  rw [he]
  exact scanComment_no_cr z' (by rw [hi, hz]; exact hok)

end HL.Lex
