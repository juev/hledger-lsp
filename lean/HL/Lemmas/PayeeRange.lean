/-
  Lemmas about the header walk of HL/Model/PayeeRange.lean: on every line printed from the
  header grammar (HL/Spec/HeaderG.lean) the walk stops exactly in front of the payee.
-/
import HL.Model.PayeeRange
import HL.Spec.HeaderG
namespace HL.Lemmas.PayeeRange
open HL HL.Text HL.PayeeRange HL.Spec.HeaderG

theorem dropWhile_append_all {p : Char → Bool} (b t : Txt) (hb : b.all p = true) :
    (b ++ t).dropWhile p = t.dropWhile p := by
  induction b with
  | nil => rfl
  | cons x xs ih =>
    simp only [List.all_cons, Bool.and_eq_true] at hb
    simp [hb.1, ih hb.2]

theorem dropWhile_suffix_length (p : Char → Bool) (s : Txt) : (s.dropWhile p).length ≤ s.length := by
  induction s with
  | nil => simp
  | cons x xs ih =>
    simp only [List.dropWhile_cons]
    split
    · simp; omega
    · simp

/-- The first character that is not a blank. -/
def firstNB (s : Txt) : Option Char := (skipBlanks s).head?

theorem skipBlanks_append (b t : Txt) (hb : blanks b = true) : skipBlanks (b ++ t) = skipBlanks t :=
  dropWhile_append_all b t hb

theorem skipBlanks_cons (c : Char) (t : Txt) (hc : isBlank c = false) : skipBlanks (c :: t) = c :: t := by
  simp [skipBlanks, hc]

theorem skipBlanks_idem (s : Txt) : skipBlanks (skipBlanks s) = skipBlanks s := by
  induction s with
  | nil => rfl
  | cons x xs ih =>
    cases hx : isBlank x
    · simp [skipBlanks, hx]
    · simpa [skipBlanks, hx] using ih

theorem firstNB_append (b t : Txt) (hb : blanks b = true) : firstNB (b ++ t) = firstNB t := by
  simp [firstNB, skipBlanks_append b t hb]

theorem firstNB_cons (c : Char) (t : Txt) (hc : isBlank c = false) : firstNB (c :: t) = some c := by
  simp [firstNB, skipBlanks_cons c t hc]

theorem firstNB_skip (s : Txt) : firstNB (skipBlanks s) = firstNB s := by
  simp [firstNB, skipBlanks_idem]

theorem skipBlanks_head (s : Txt) (c : Char) (r : Txt) (h : skipBlanks s = c :: r) : isBlank c = false := by
  induction s with
  | nil => simp [skipBlanks] at h
  | cons x xs ih =>
    cases hx : isBlank x
    · simp [skipBlanks, hx] at h
      rw [← h.1]; exact hx
    · simp [skipBlanks, hx] at h
      exact ih h

/-! The stages depend on their input only up to leading blanks. -/

theorem afterStatus_skip (s : Txt) : afterStatus (skipBlanks s) = afterStatus s := by
  simp [afterStatus, skipBlanks_idem]

theorem afterCode_skip (s : Txt) : afterCode (skipBlanks s) = afterCode s := by
  simp [afterCode, skipBlanks_idem]

theorem isSpace_of_isBlank (c : Char) (h : isBlank c = true) : isSpace c = true := by
  simp only [isBlank, Bool.or_eq_true, beq_iff_eq] at h
  rcases h with rfl | rfl <;> decide

theorem dropSpace_skip (s : Txt) : (skipBlanks s).dropWhile isSpace = s.dropWhile isSpace := by
  induction s with
  | nil => rfl
  | cons x xs ih =>
    cases hx : isBlank x
    · simp [skipBlanks, hx]
    · have := isSpace_of_isBlank x hx
      simpa [skipBlanks, hx, this] using ih

theorem afterDate2_none (R : Txt) (h : firstNB R ≠ some '=') : afterDate2 R = skipBlanks R := by
  unfold afterDate2
  cases hs : skipBlanks R with
  | nil => rfl
  | cons c r =>
    have : c ≠ '=' := by
      intro hc; apply h; simp [firstNB, hs, hc]
    simp [this]

theorem afterDate2_some (b0 b1 d R : Txt) (hb0 : blanks b0 = true) (hb1 : blanks b1 = true)
    (hd : d.all isDateRune = true) (hd0 : (d.head?.map isDigit).getD false = true)
    (hR : (R.head?.map fun c => !isDateRune c).getD true = true) :
    afterDate2 (b0 ++ '=' :: (b1 ++ (d ++ R))) = R := by
  unfold afterDate2
  rw [skipBlanks_append _ _ hb0, skipBlanks_cons _ _ (by decide)]
  simp only [beq_self_eq_true, if_true]
  rw [skipBlanks_append _ _ hb1]
  cases d with
  | nil => simp at hd0
  | cons d0 ds =>
    simp only [List.head?_cons, Option.map_some, Option.getD_some] at hd0
    have hnb : isBlank d0 = false := by
      cases hb : isBlank d0
      · rfl
      · simp only [isBlank, Bool.or_eq_true, beq_iff_eq] at hb
        rcases hb with rfl | rfl <;> simp [isDigit] at hd0 <;> exact absurd hd0 (by decide)
    rw [List.cons_append, skipBlanks_cons _ _ hnb]
    simp only [hd0, if_true]
    rw [← List.cons_append, dropWhile_append_all _ _ hd]
    cases R with
    | nil => rfl
    | cons r0 rs =>
      simp only [List.head?_cons, Option.map_some, Option.getD_some, Bool.not_eq_true'] at hR
      simp [hR]

theorem afterStatus_none (R : Txt) (h : firstNB R ≠ some '*' ∧ firstNB R ≠ some '!') :
    afterStatus R = skipBlanks R := by
  unfold afterStatus
  cases hs : skipBlanks R with
  | nil => rfl
  | cons c r =>
    have h1 : c ≠ '*' := by intro hc; apply h.1; simp [firstNB, hs, hc]
    have h2 : c ≠ '!' := by intro hc; apply h.2; simp [firstNB, hs, hc]
    simp [h1, h2]

theorem afterStatus_some (b : Txt) (m : Char) (R : Txt) (hb : blanks b = true)
    (hm : (m == '*' || m == '!') = true) : afterStatus (b ++ m :: R) = R := by
  unfold afterStatus
  have hnb : isBlank m = false := by
    simp only [Bool.or_eq_true, beq_iff_eq] at hm
    rcases hm with rfl | rfl <;> decide
  rw [skipBlanks_append _ _ hb, skipBlanks_cons _ _ hnb]
  simp only [hm, if_true]

theorem afterCode_none (R : Txt) (h : firstNB R ≠ some '(') : afterCode R = some (skipBlanks R) := by
  unfold afterCode
  cases hs : skipBlanks R with
  | nil => rfl
  | cons c r =>
    have : c ≠ '(' := by intro hc; apply h; simp [firstNB, hs, hc]
    simp [this]

theorem afterCode_some (b c R : Txt) (hb : blanks b = true) (hc : (c.all fun x => x != ')') = true) :
    afterCode (b ++ '(' :: (c ++ ')' :: R)) = some R := by
  unfold afterCode
  rw [skipBlanks_append _ _ hb, skipBlanks_cons _ _ (by decide)]
  simp only [beq_self_eq_true, if_true]
  rw [dropWhile_append_all _ _ hc]
  simp

theorem textOK_head {p : Txt} (h : textOK p = true) :
    ∃ c t, p = c :: t ∧ isSpace c = false ∧ c ≠ '=' ∧ c ≠ '*' ∧ c ≠ '!' ∧ c ≠ '(' := by
  cases p with
  | nil => simp [textOK] at h
  | cons c t =>
    simp only [textOK, List.head?_cons, Bool.and_eq_true, Bool.not_eq_true', bne_iff_ne, ne_eq] at h
    obtain ⟨⟨⟨⟨⟨⟨hsp, h1⟩, h2⟩, h3⟩, h4⟩, _⟩, _⟩ := h
    exact ⟨c, t, rfl, hsp, h1, h2, h3, h4⟩

/-- **On every line printed from a well-formed header the walk stops in front of the payee**,
    whatever follows the payee (`rest`: the printed tail, possibly with the CR of a CRLF line
    end). -/
theorem descriptionRest_header (h : Header) (rest : Txt) (hw : h.wf = true) :
    descriptionRest (h.lead ++ (h.payee ++ rest)) = some (h.payee ++ rest) := by
  obtain ⟨d2, st, cd, gap, payee, note, cmt⟩ := h
  simp only [Header.wf, Bool.and_eq_true] at hw
  obtain ⟨⟨⟨⟨⟨⟨hd2, hst⟩, hcd⟩, hgap⟩, hpay⟩, _⟩, _⟩ := hw
  obtain ⟨c, t, rfl, hsp, hne, hns, hnp, hnc⟩ := textOK_head hpay
  have hnb : isBlank c = false := by
    cases hb : isBlank c
    · rfl
    · rw [isSpace_of_isBlank c hb] at hsp; cases hsp
  simp only [Header.lead, Header.afterDate2] at hd2 ⊢
  -- what the last loop sees
  have hlast : ∀ R : Txt, skipBlanks R = skipBlanks (gap ++ (c :: t ++ rest)) →
      (match R.dropWhile isSpace with | [] => (none : Option Txt) | x :: r => some (x :: r)) = some (c :: t ++ rest) := by
    intro R hR
    rw [← dropSpace_skip R, hR, dropSpace_skip, dropWhile_append_all _ _ (by
      simp only [blanks, List.all_eq_true] at hgap ⊢
      intro x hx; exact isSpace_of_isBlank x (hgap x hx))]
    simp [hsp]
  have hcode : ∀ R : Txt, skipBlanks R = skipBlanks (codePart cd ++ (gap ++ (c :: t ++ rest))) →
      ∃ R', afterCode R = some R' ∧ skipBlanks R' = skipBlanks (gap ++ (c :: t ++ rest)) := by
    intro R hR
    rw [← afterCode_skip R, hR, afterCode_skip]
    cases cd with
    | none =>
      refine ⟨_, afterCode_none _ ?_, skipBlanks_idem _⟩
      simp [codePart, firstNB_append _ _ hgap, firstNB_cons _ _ hnb, hnc]
    | some bc =>
      obtain ⟨b, cc⟩ := bc
      simp only [Bool.and_eq_true] at hcd
      refine ⟨gap ++ (c :: t ++ rest), ?_, rfl⟩
      have hcc : (cc.all fun x => x != ')') = true := by
        simp only [List.all_eq_true, Bool.and_eq_true] at hcd ⊢
        intro x hx; exact (hcd.2 x hx).1
      have := afterCode_some b cc (gap ++ (c :: t ++ rest)) hcd.1 hcc
      simpa [codePart, List.append_assoc] using this
  have hstatus : ∀ R : Txt, skipBlanks R = skipBlanks (statusPart st ++ (codePart cd ++ (gap ++ (c :: t ++ rest)))) →
      skipBlanks (afterStatus R) = skipBlanks (codePart cd ++ (gap ++ (c :: t ++ rest))) := by
    intro R hR
    rw [← afterStatus_skip R, hR, afterStatus_skip]
    cases st with
    | none =>
      rw [afterStatus_none _ ?_, skipBlanks_idem]; · rfl
      cases cd with
      | none => simp [statusPart, codePart, firstNB_append _ _ hgap, firstNB_cons _ _ hnb, hns, hnp]
      | some bc =>
        obtain ⟨b, cc⟩ := bc
        simp only [Bool.and_eq_true] at hcd
        simp [statusPart, codePart, List.append_assoc, firstNB_append _ _ hcd.1,
          firstNB_cons '(' _ (by decide)]
    | some bm =>
      obtain ⟨b, m⟩ := bm
      simp only [Bool.and_eq_true] at hst
      have := afterStatus_some b m (codePart cd ++ (gap ++ (c :: t ++ rest))) hst.1 hst.2
      simp only [statusPart, List.append_assoc, List.singleton_append] at this ⊢
      rw [this]
  have hdate : skipBlanks (afterDate2 (date2Part d2 ++ (statusPart st ++ (codePart cd ++ (gap ++ (c :: t ++ rest)))))) =
      skipBlanks (statusPart st ++ (codePart cd ++ (gap ++ (c :: t ++ rest)))) := by
    cases d2 with
    | none =>
      rw [date2Part, List.nil_append, afterDate2_none _ ?_, skipBlanks_idem]
      cases st with
      | none =>
        cases cd with
        | none => simp [statusPart, codePart, firstNB_append _ _ hgap, firstNB_cons _ _ hnb, hne]
        | some bc =>
          obtain ⟨b, cc⟩ := bc
          simp only [Bool.and_eq_true] at hcd
          simp [statusPart, codePart, List.append_assoc, firstNB_append _ _ hcd.1,
            firstNB_cons '(' _ (by decide)]
      | some bm =>
        obtain ⟨b, m⟩ := bm
        simp only [Bool.and_eq_true, Bool.or_eq_true, beq_iff_eq] at hst
        have hmb : isBlank m = false := by rcases hst.2 with rfl | rfl <;> decide
        have hme : m ≠ '=' := by rcases hst.2 with rfl | rfl <;> decide
        simp [statusPart, List.append_assoc, firstNB_append _ _ hst.1, firstNB_cons m _ hmb, hme]
    | some x =>
      obtain ⟨b0, b1, d⟩ := x
      simp only [Bool.and_eq_true] at hd2
      obtain ⟨⟨⟨⟨hb0, hb1⟩, hd⟩, hd0⟩, hR⟩ := hd2
      have hR' : ((statusPart st ++ (codePart cd ++ (gap ++ (c :: t ++ rest)))).head?.map fun c => !isDateRune c).getD true = true := by
        cases st with
        | some bm => obtain ⟨b, m⟩ := bm; cases b <;> simpa [statusPart] using hR
        | none =>
          cases cd with
          | some bc => obtain ⟨b, cc⟩ := bc; cases b <;> simpa [statusPart, codePart] using hR
          | none => cases gap <;> simpa [statusPart, codePart] using hR
      have := afterDate2_some b0 b1 d _ hb0 hb1 hd hd0 hR'
      simp only [date2Part, List.append_assoc, List.cons_append] at this ⊢
      rw [this]
  unfold descriptionRest
  simp only [List.append_assoc]
  obtain ⟨R', hR', hR''⟩ := hcode _ (hstatus _ (by rw [hdate]))
  rw [hR']
  exact hlast R' hR''

theorem skipBlanks_length (s : Txt) : (skipBlanks s).length ≤ s.length :=
  dropWhile_suffix_length isBlank s

theorem afterDate2_length (s : Txt) : (afterDate2 s).length ≤ s.length := by
  have h0 := skipBlanks_length s
  unfold afterDate2
  split
  · simp
  · rename_i c r hs
    rw [hs] at h0; simp only [List.length_cons] at h0
    split
    · have h1 := skipBlanks_length r
      split
      · simp
      · rename_i d r' hr
        rw [hr] at h1; simp only [List.length_cons] at h1
        split
        · have := dropWhile_suffix_length isDateRune (d :: r')
          simp only [List.length_cons] at this; omega
        · simp only [List.length_cons]; omega
    · simp only [List.length_cons]; omega

theorem afterStatus_length (s : Txt) : (afterStatus s).length ≤ s.length := by
  have h0 := skipBlanks_length s
  unfold afterStatus
  split
  · simp
  · rename_i c r hs
    rw [hs] at h0; simp only [List.length_cons] at h0
    split
    · omega
    · simp only [List.length_cons]; omega

theorem afterCode_length (s r : Txt) (h : afterCode s = some r) : r.length ≤ s.length := by
  have h0 := skipBlanks_length s
  unfold afterCode at h
  split at h
  · simp at h; subst h; simp
  · rename_i c r0 hs
    rw [hs] at h0; simp only [List.length_cons] at h0
    split at h
    · have h1 := dropWhile_suffix_length (fun x => x != ')') r0
      split at h
      · cases h
      · rename_i x r' hx
        rw [hx] at h1; simp only [List.length_cons] at h1
        simp at h; subst h; omega
    · simp at h; subst h; simp only [List.length_cons]; omega

/-- Every stage returns a suffix of its input, so the column lies on the line. -/
theorem descriptionRest_length (s r : Txt) (h : descriptionRest s = some r) : r.length ≤ s.length := by
  unfold descriptionRest at h
  split at h
  · cases h
  · rename_i r0 hr0
    have h1 := afterCode_length _ _ hr0
    have h2 := afterStatus_length (afterDate2 s)
    have h3 := afterDate2_length s
    have h4 := dropWhile_suffix_length isSpace r0
    split at h
    · cases h
    · rename_i c r' hc
      rw [hc] at h4
      simp at h; subst h
      omega

/-- The column found on a line that is `pre` (everything up to the end of the date) followed by
    a well-formed header: the payee's. -/
theorem descriptionColumn_header (pre : Txt) (h : Header) (rest : Txt) (dateEnd : Nat)
    (hw : h.wf = true) (hde : 1 ≤ dateEnd) (hpre : pre.length = dateEnd - 1) :
    descriptionColumn (pre ++ (h.lead ++ (h.payee ++ rest))) dateEnd = some (dateEnd + h.lead.length) := by
  unfold descriptionColumn
  have h0 : dateEnd ≠ 0 := by omega
  have h1 : ¬ (pre ++ (h.lead ++ (h.payee ++ rest))).length < dateEnd - 1 := by
    simp only [List.length_append]; omega
  simp only [h0, h1, if_false]
  rw [← hpre, List.drop_left, descriptionRest_header h rest hw]
  simp only [Option.map_some, List.length_append, Option.some.injEq]
  omega

theorem payeeStart_header (lns : List Txt) (line : Nat) (pre : Txt) (h : Header) (rest : Txt) (dateEnd : Nat)
    (hline : 1 ≤ line) (hl : lns[line - 1]? = some (pre ++ (h.lead ++ (h.payee ++ rest))))
    (hw : h.wf = true) (hde : 1 ≤ dateEnd) (hpre : pre.length = dateEnd - 1) :
    payeeStart lns line dateEnd = some (dateEnd + h.lead.length) := by
  have h0 : line ≠ 0 := by omega
  simp only [payeeStart, h0, if_false, hl]
  exact descriptionColumn_header pre h rest dateEnd hw hde hpre

/-- The column found on any line lies on the line, after the date. -/
theorem descriptionColumn_bounds (ln : Txt) (dateEnd col : Nat) (h : descriptionColumn ln dateEnd = some col) :
    dateEnd ≤ col ∧ col ≤ ln.length := by
  unfold descriptionColumn at h
  split at h
  · cases h
  · split at h
    · cases h
    · simp only [Option.map_eq_some_iff] at h
      obtain ⟨r, hr, rfl⟩ := h
      have h1 := descriptionRest_length _ _ hr
      have h2 : r ≠ [] := by
        unfold descriptionRest at hr
        split at hr
        · cases hr
        · split at hr
          · cases hr
          · simp at hr; subst hr; simp
      have h3 : 0 < r.length := List.length_pos_iff.mpr h2
      simp only [List.length_drop] at h1
      omega

end HL.Lemmas.PayeeRange
