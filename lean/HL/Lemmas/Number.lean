/-
  Lemmas for C04's number clause: decimal digit strings, the grouping loop of FormatNumber,
  shopspring's Round on values that already fit.  The formatter's copy of `Decimal.string`
  (Model/Format) is shown equal to the decimal model's (Model/Dec), so its shape comes from
  Lemmas/DecString.
-/
import HL.Spec.NumberRead
import HL.Lemmas.DecString
namespace HL.Lemmas.Number
open HL HL.Fmt HL.FmtText HL.NumberRead

theorem digitsAux_eq (f n : Nat) (acc : Bytes) : digitsAux f n acc = Dec.natDigitsF f n ++ acc := by
  induction f generalizing n acc with
  | zero => rfl
  | succ f ih =>
    unfold digitsAux Dec.natDigitsF
    by_cases h : n < 10
    · simp only [h, if_true, show n / 10 = 0 by omega]; rfl
    · simp only [h, if_false, show ¬ n / 10 = 0 by omega, ih]
      simp [Dec.digitByte]

theorem natStr_eq (n : Nat) : natStr n = Dec.natDigits n := by
  unfold natStr Dec.natDigits; rw [digitsAux_eq, List.append_nil]

theorem intStr_eq (c : Int) : intStr c = Dec.intDigits c := by
  unfold intStr Dec.intDigits; rw [natStr_eq]

theorem rescale_eq (d : Dec) (e : Int) : rescale d e = Dec.rescale d e := by
  unfold rescale Dec.rescale
  by_cases h : d.exp = e
  · subst h; simp
  · by_cases h2 : e > d.exp
    · simp only [h, h2, if_true, if_false, show (e - d.exp).natAbs = (e - d.exp).toNat by omega]
    · simp only [h, h2, if_false, show (e - d.exp).natAbs = (d.exp - e).toNat by omega]

theorem decString_eq (d : Dec) (trim : Bool) : decString d trim = Dec.toStr trim d := by
  have number : ∀ ip fp : Bytes, (if fp.length > 0 then ip ++ [46] ++ fp else ip) =
      (if fp.isEmpty then ip else ip ++ 46 :: fp) := fun ip fp => by cases fp <;> simp
  unfold decString Dec.toStr
  simp only [natStr_eq, rescale_eq, intStr_eq, number]
  rfl

def AllDigits (s : Bytes) : Prop := ∀ b ∈ s, isDigit b = true

theorem digitsVal_digitsBytes (ds : List G.Digit) : digitsVal (G.digitsBytes ds) = G.natOf ds := by
  unfold digitsVal G.digitsBytes G.natOf
  rw [List.foldl_map]
  simp only [digitVal, Num.digitByte_val]

theorem AllDigits.append {a b : Bytes} (ha : AllDigits a) (hb : AllDigits b) : AllDigits (a ++ b) :=
  Num.AllDigits.append ha hb

theorem digit_ne (b : UInt8) (h : isDigit b = true) : b ≠ 46 ∧ b ≠ 44 ∧ b ≠ 45 ∧ b ≠ 32 :=
  ⟨Num.isDigit_ne h rfl, Num.isDigit_ne h rfl, Num.isDigit_ne h rfl, Num.isDigit_ne h rfl⟩

theorem groupLoop_spec (f : Nat) : ∀ (s : Bytes) (g : List Bytes),
    (groupLoop f s g).1 ++ (groupLoop f s g).2.flatten = s ++ g.flatten := by
  induction f with
  | zero => intro s g; rfl
  | succ f ih =>
    intro s g
    simp only [groupLoop]
    split
    · rw [ih]
      simp only [List.flatten_cons, ← List.append_assoc, List.take_append_drop]
    · rfl

theorem filter_join (p : UInt8 → Bool) (sep : Bytes) (gs : List Bytes)
    (hsep : ∀ b ∈ sep, p b = false) (hg : ∀ g ∈ gs, ∀ b ∈ g, p b = true) :
    (join sep gs).filter p = gs.flatten := by
  induction gs with
  | nil => rfl
  | cons a rest ih =>
    have ha : a.filter p = a := List.filter_eq_self.mpr (hg a (by simp))
    cases rest with
    | nil => simp [join, ha]
    | cons b rest =>
      have hs : sep.filter p = [] := List.filter_eq_nil_iff.mpr (fun x hx => by simp [hsep x hx])
      have := ih (fun g hgm => hg g (by simp [hgm]))
      simp only [join, List.filter_append, ha, hs, this, List.flatten_cons, List.append_nil]

theorem groupInt_filter (p : UInt8 → Bool) (ip sep : Bytes) (hsep : ∀ b ∈ sep, p b = false)
    (hip : ∀ b ∈ ip, p b = true) : (groupInt ip sep).filter p = ip := by
  unfold groupInt
  split
  · generalize hgl : groupLoop ip.length ip [] = r
    have hspec := groupLoop_spec ip.length ip []
    rw [hgl] at hspec
    obtain ⟨rest, groups⟩ := r
    simp only [List.flatten_nil, List.append_nil] at hspec
    -- every group is a piece of `ip`
    have hrest : ∀ b ∈ rest, p b = true := fun b hb => hip b (hspec ▸ List.mem_append_left _ hb)
    have hgroups : ∀ g ∈ groups, ∀ b ∈ g, p b = true := fun g hg b hb =>
      hip b (hspec ▸ List.mem_append_right _ (List.mem_flatten.2 ⟨g, hg, hb⟩))
    simp only
    split
    · rw [filter_join _ _ _ hsep, List.flatten_cons, hspec]
      intro g hg
      rcases List.mem_cons.mp hg with rfl | hg
      · exact hrest
      · exact hgroups g hg
    · rename_i hr
      cases rest with
      | nil => rw [filter_join _ _ _ hsep hgroups]; exact hspec
      | cons x xs => simp at hr
  · exact List.filter_eq_self.mpr hip

theorem round_exp (d : Dec) (n : Int) : (round d n).exp = -n := by
  unfold round
  split
  · assumption
  · rfl

/-- Half-away-from-zero rounding of `10 w` to tens is `w`. -/
theorem roundHalf_tenfold (w v : Int) (hv : v = if 10 * w < 0 then 10 * w - 5 else 10 * w + 5) :
    (if v / 10 < 0 && v % 10 != 0 then v / 10 + 1 else v / 10) = w := by
  by_cases h : w < 0
  · obtain ⟨hq, hm⟩ : v / 10 = w - 1 ∧ v % 10 = 5 :=
      (Int.ediv_emod_unique (by decide)).2 ⟨by rw [hv, if_pos (by omega)]; omega, by decide, by decide⟩
    simp [hq, hm, show w - 1 < 0 by omega]
  · obtain ⟨hq, hm⟩ : v / 10 = w ∧ v % 10 = 5 :=
      (Int.ediv_emod_unique (by decide)).2 ⟨by rw [hv, if_neg (by omega)]; omega, by decide, by decide⟩
    simp [hq, hm, h]

/-- Rounding to at least as many places as the value carries changes nothing:
    the coefficient is only scaled. -/
theorem round_exact (d : Dec) (n : Nat) (h : -(n : Int) ≤ d.exp) :
    (round d n).coef = d.coef * 10 ^ (d.exp + n).toNat := by
  unfold round
  split
  · rename_i he
    rw [show (d.exp + n).toNat = 0 by omega, Int.pow_zero, Int.mul_one]
  · rename_i he
    have hr : (rescale d (-(n : Int) - 1)).coef = 10 * (d.coef * 10 ^ (d.exp + n).toNat) := by
      rw [rescale_eq, Dec.rescale, if_neg (by omega),
        show (d.exp - (-(n : Int) - 1)).toNat = (d.exp + n).toNat + 1 by omega, Int.pow_succ, ← Int.mul_assoc,
        Int.mul_comm]
    exact roundHalf_tenfold _ _ (by rw [hr])

def signOf (c : Int) : Bytes := if c < 0 then [45] else []

theorem signBytes_eq (c : Int) : Num.signBytes (decide (c < 0)) = signOf c := by
  unfold Num.signBytes signOf
  by_cases h : c < 0 <;> simp [h, Num.MINUS]

theorem decString_shape (r : Dec) (P : Nat) (h : r.exp = -(P : Int)) (trim : Bool) (ht : 0 < P → trim = false) :
    ∃ ip fp : List G.Digit, ip ≠ [] ∧ fp.length = P ∧ G.natOf (ip ++ fp) = r.coef.natAbs ∧
      decString r trim =
        signOf r.coef ++ G.digitsBytes ip ++ (if 0 < P then 46 :: G.digitsBytes fp else []) := by
  rw [decString_eq]
  by_cases hP : 0 < P
  · cases ht hP
    obtain ⟨ip, fp, h1, h2, h3, hs⟩ := Num.toStr_neg false r (by omega)
    refine ⟨ip, fp, h1, by omega, h3, ?_⟩
    have : fp.isEmpty = false := by
      cases fp with
      | nil => simp at h2; omega
      | cons _ _ => rfl
    simp only [Bool.false_eq_true, if_false, this, Bool.not_false, Num.fracBytes, if_true] at hs
    rw [hs, signBytes_eq, if_pos hP]; rfl
  · have hc : r.coef * 10 ^ r.exp.toNat = r.coef := by
      rw [show r.exp.toNat = 0 by omega, Int.pow_zero, Int.mul_one]
    refine ⟨Num.digitsOfNat r.coef.natAbs, [], Num.digitsOfNat_ne_nil _, by simp; omega, by
      rw [List.append_nil, Num.natOf_digitsOfNat], ?_⟩
    rw [Num.toStr_nonneg _ r (by omega), hc, signBytes_eq, if_neg hP, List.append_nil]

theorem split_at_mark (m : UInt8) (ip fp : Bytes) (hdm : ∀ x ∈ ip, (x != m) = true) (withMark : Bool) :
    let t := if withMark then m :: fp else []
    (ip ++ t).takeWhile (· != m) = ip ∧
      (ip ++ t).drop (ip.length + 1) = (if withMark then fp else []) := by
  intro t
  constructor
  · rw [List.takeWhile_append_of_pos hdm]
    cases withMark <;> simp [t]
  · cases withMark
    · simp [t]
    · simp only [t, if_true]
      have : ip ++ m :: fp = (ip ++ [m]) ++ fp := by simp
      rw [this, List.drop_left' (by simp)]

theorem strip_sign (c : Int) (ip rest : Bytes) (hip : AllDigits ip) (hne : ip ≠ []) :
    ((signOf c ++ ip ++ rest).head? == some 45) = decide (c < 0) ∧
      (if decide (c < 0) = true then (signOf c ++ ip ++ rest).drop 1 else signOf c ++ ip ++ rest) =
        ip ++ rest := by
  unfold signOf
  by_cases h : c < 0
  · simp [h]
  · cases ip with
    | nil => exact absurd rfl hne
    | cons x xs => simp [h, (digit_ne x (hip x List.mem_cons_self)).2.2.1]

def pl (f : NumberFormat) : Nat := if f.hasDecimal then f.places else 0

/-- What `FormatNumber` writes: sign, grouped integer digits and, for a positive number of
    places, the decimal mark and exactly that many fraction digits, of the rounded value. -/
theorem formatNumber_shape (q : Dec) (f : NumberFormat) :
    ∃ ip fp, formatNumber q f = signOf (round q (pl f)).coef ++ groupInt ip f.sep ++
        (if pl f > 0 then encodeRune f.mark ++ fp else []) ∧
      AllDigits ip ∧ ip ≠ [] ∧ AllDigits fp ∧ fp.length = pl f ∧
      digitsVal (ip ++ fp) = (round q (pl f)).coef.natAbs := by
  obtain ⟨ip, fp, h1, h2, h3, hs⟩ := decString_shape (round q (pl f)) (pl f) (round_exp q _) (!f.hasDecimal)
    (fun hp => by unfold pl at hp; cases hd : f.hasDecimal <;> simp_all)
  -- the string handed to strings.Split
  have hstr : (if f.hasDecimal then stringFixed q f.places else decString (round q 0) true) =
      decString (round q (pl f)) (!f.hasDecimal) := by
    unfold pl stringFixed; cases f.hasDecimal <;> rfl
  have hdec : (f.hasDecimal && decide (f.places > 0)) = decide (pl f > 0) := by
    unfold pl; cases f.hasDecimal <;> simp
  have hip : AllDigits (G.digitsBytes ip) := Num.allDigits_digitsBytes ip
  have hfp : AllDigits (G.digitsBytes fp) := Num.allDigits_digitsBytes fp
  refine ⟨G.digitsBytes ip, G.digitsBytes fp, ?_, hip, by simpa [G.digitsBytes] using h1, hfp,
    by simpa [G.digitsBytes] using h2, by rw [← Num.digitsBytes_append, digitsVal_digitsBytes, h3]⟩
  generalize (round q (pl f)).coef = c at hs ⊢
  have hne46 : ∀ l : Bytes, AllDigits l → ∀ x ∈ l, (x != 46) = true := fun l hl x hx =>
    bne_iff_ne.2 (digit_ne x (hl x hx)).1
  -- `strings.Split` at the point and the sign test both see through the shape `sign digits [. digits]`
  -- of `decString_shape`; the grouping then touches the integer digits only
  obtain ⟨e1, e2⟩ := split_at_mark 46 (signOf c ++ G.digitsBytes ip) (G.digitsBytes fp) (by
    intro x hx
    rcases List.mem_append.1 hx with h | h
    · unfold signOf at h; split at h <;> simp at h; subst h; rfl
    · exact hne46 _ hip x h) (decide (pl f > 0))
  obtain ⟨n1, n2⟩ := strip_sign c (G.digitsBytes ip) [] hip (by simpa [G.digitsBytes] using h1)
  unfold formatNumber
  rw [hstr, hs]
  simp only [decide_eq_true_eq] at e1 e2
  simp only [List.append_nil] at n1 n2
  have hsign : (if decide (c < 0) = true then [45] else []) = signOf c := by simp [signOf]
  simp only [e1, e2, hdec, n1, n2, hsign]
  by_cases hp : pl f > 0
  · have := List.takeWhile_append_of_pos (l₂ := []) (hne46 _ hfp)
    simp only [List.append_nil, List.takeWhile_nil] at this
    simp only [hp, decide_true, if_true, this, List.append_assoc]
  · simp only [hp, decide_false, Bool.false_eq_true, if_false, List.append_nil]

theorem not_isFiller (f : NumberFormat) (hsep : f.sep = [] ∨ f.sep = [44] ∨ f.sep = [46] ∨ f.sep = [32])
    (b : UInt8) (h46 : b ≠ 46) (h44 : b ≠ 44) (h32 : b ≠ 32) : (!isFiller f b) = true := by
  have : f.sep ≠ [b] := by
    rcases hsep with h | h | h | h <;> simp [h, Ne.symm h46, Ne.symm h44, Ne.symm h32]
  simp [isFiller, h32, this]

theorem isFiller_digit (f : NumberFormat) (hsep : f.sep = [] ∨ f.sep = [44] ∨ f.sep = [46] ∨ f.sep = [32])
    (b : UInt8) (hb : isDigit b = true) : (!isFiller f b) = true :=
  not_isFiller f hsep b (digit_ne b hb).1 (digit_ne b hb).2.1 (digit_ne b hb).2.2.2

theorem isFiller_sep (f : NumberFormat) (hsep : f.sep = [] ∨ f.sep = [44] ∨ f.sep = [46] ∨ f.sep = [32]) :
    ∀ b ∈ f.sep, (!isFiller f b) = false := by
  intro b hb
  rcases hsep with h | h | h | h <;> rw [h] at hb <;> simp at hb <;> simp [isFiller, h, hb]

/-- `readWith` after the fillers have been removed. -/
def readCore (m : UInt8) (s : Bytes) : Int × Nat :=
  let neg := s.head? == some 45
  let s := if neg then s.drop 1 else s
  let ip := s.takeWhile (· != m)
  let fp := s.drop (ip.length + 1)
  let c : Int := (digitsVal (ip ++ fp) : Nat)
  (if neg then -c else c, fp.length)

theorem readCore_signed (m : UInt8) (c : Int) (ip fp : Bytes) (h1 : AllDigits ip) (h2 : ip ≠ [])
    (hdm : ∀ x ∈ ip, (x != m) = true) (withMark : Bool) (hfp : withMark = false → fp = []) :
    readCore m (signOf c ++ ip ++ (if withMark then m :: fp else [])) =
      (if c < 0 then -((digitsVal (ip ++ fp) : Nat) : Int) else ((digitsVal (ip ++ fp) : Nat) : Int), fp.length) := by
  obtain ⟨e1, e2⟩ := split_at_mark m ip fp hdm withMark
  obtain ⟨n1, n2⟩ := strip_sign c ip (if withMark then m :: fp else []) h1 h2
  have : (if withMark then fp else []) = fp := by
    cases withMark
    · exact (hfp rfl).symm
    · rfl
  simp only [readCore, n1, n2, e1, e2, this]
  simp only [decide_eq_true_eq]

theorem read_shape (f : NumberFormat) (hwf : WellFormed f) (c : Int) (ip fp : Bytes) (k : Nat)
    (h1 : AllDigits ip) (h2 : ip ≠ []) (h3 : AllDigits fp) (h4 : fp.length = k)
    (h5 : digitsVal (ip ++ fp) = c.natAbs) :
    readWith f (signOf c ++ groupInt ip f.sep ++ (if k > 0 then encodeRune f.mark ++ fp else [])) = (c, k) := by
  obtain ⟨hmark, hsep, hne⟩ := hwf
  have henc : encodeRune f.mark = [UInt8.ofNat f.mark] := by rcases hmark with h | h <;> rw [h] <;> rfl
  have hm : UInt8.ofNat f.mark = 46 ∨ UInt8.ofNat f.mark = 44 := by rcases hmark with h | h <;> rw [h] <;> decide
  show readCore (UInt8.ofNat f.mark) (List.filter (fun b => !isFiller f b) _) = _
  generalize UInt8.ofNat f.mark = m at *
  have keepm : (!isFiller f m) = true := by
    have : m ≠ 32 := by rcases hm with h | h <;> rw [h] <;> decide
    simp [isFiller, this, hne]
  have fsign : (signOf c).filter (fun b => !isFiller f b) = signOf c := by
    apply List.filter_eq_self.mpr
    intro b hb; unfold signOf at hb; split at hb <;> simp at hb; subst hb
    exact not_isFiller f hsep 45 (by decide) (by decide) (by decide)
  have ftail : (if k > 0 then encodeRune f.mark ++ fp else []).filter (fun b => !isFiller f b) =
      (if decide (k > 0) then m :: fp else []) := by
    have ffp := List.filter_eq_self.mpr fun b hb => isFiller_digit f hsep b (h3 b hb)
    by_cases hk : k > 0 <;> simp [hk, henc, ffp, keepm]
  have hdm : ∀ x ∈ ip, (x != m) = true := by
    intro x hx
    obtain ⟨a, b, _, _⟩ := digit_ne x (h1 x hx)
    rcases hm with h | h <;> rw [h] <;> simpa
  rw [List.filter_append, List.filter_append, fsign,
    groupInt_filter _ ip f.sep (isFiller_sep f hsep) (fun b hb => isFiller_digit f hsep b (h1 b hb)), ftail,
    readCore_signed m c ip fp h1 h2 hdm _ (fun hk => List.length_eq_zero_iff.1 (by simp at hk; omega)), h5, h4]
  congr 1
  split <;> omega

end HL.Lemmas.Number
