import HL.Lemmas.LexExtentTok
/-!
  Layer L3, part 3: the two look-aheads that decide between token classes.  No colon before the
  account stop: not an account (`looksLikeAccountF_noColon`).  Digits [ `.` digits ] followed by a
  byte that is neither a digit nor a date separator: not a date, whatever comes after it
  (`looksLikeDate_int`, `_frac`).
-/
namespace HL.Lex
open HL HL.Utf8 Ctl

/-- no colon in `s`, whatever else it holds, and an account stop behind it -/
theorem looksLikeAccountF_noColon {s rest : Bytes} (hs : ∀ c ∈ s, c < 0x80 ∧ c ≠ 0x3A) (hr : AcctStop rest)
    (n : Nat) : looksLikeAccountF n (s ++ rest) false = false := by
  rw [looksLikeAccountF_eq]
  refine (loopF_inv (fun p : Bytes × Bool => p.2 = false ∧ ∃ s, p.1 = s ++ rest ∧ ∀ c ∈ s, c < 0x80 ∧ c ≠ 0x3A)
    ?_ n ⟨rfl, s, rfl, hs⟩).1
  rintro ⟨_, _⟩ p' hstep ⟨rfl, s, rfl, hs⟩
  cases s with
  | nil => rw [lookStep, List.nil_append, acctAct_stop hr] at hstep; cases hstep
  | cons c s =>
    have hc := hs c (by simp)
    cases ha : acctAct (c :: s ++ rest) with
    | none => rw [lookStep, ha] at hstep; cases hstep
    | some b =>
      rw [lookStep, ha] at hstep
      cases hstep
      simp only [List.cons_append, decodeRune_of_lt hc.1, List.drop_one, List.tail_cons, Bool.false_or]
      exact ⟨beq_eq_false_iff_ne.mpr fun e => hc.2 (UInt8.toNat_inj.mp (by simpa using e)),
        s, rfl, fun x hx => hs x (by simp [hx])⟩

/-- **No colon ahead on this line: not an account.** -/
theorem looksLikeAccount_noColon (s rest : Bytes) (hs : ∀ c ∈ s, c < 0x80 ∧ c ≠ 0x3A)
    (hr : rest = [] ∨ ∃ t, rest = LF :: t) : looksLikeAccount (s ++ rest) = false :=
  looksLikeAccountF_noColon hs (hr.imp_right fun ⟨t, e⟩ => .inl ⟨_, t, e, by decide, by decide⟩) _

/-- what may follow a number for it not to look like a date: nothing, or a byte that is neither
    a digit nor one of `- / .` -/
def DateStop (rest : Bytes) : Prop := ∀ c t, rest = c :: t → isDigit c = false ∧ isSep c = false

/-- the byte behind the number is neither a digit nor a separator (nor is the 0 that is read
    behind the end of the input) -/
theorem DateStop.head {rest : Bytes} (hr : DateStop rest) :
    isDigit (rest.getD 0 0) = false ∧ isSep (rest.getD 0 0) = false := by
  cases rest with
  | nil => exact ⟨rfl, rfl⟩
  | cons c t => exact hr c t rfl

theorem DateStop.getD {rest : Bytes} (hr : DateStop rest) (s : Bytes) :
    isDigit ((s ++ rest).getD s.length 0) = false ∧ isSep ((s ++ rest).getD s.length 0) = false := by
  have : (s ++ rest).getD s.length 0 = rest.getD 0 0 := by
    simp [List.getD_eq_getElem?_getD, List.getElem?_append_right]
  rw [this]; exact hr.head

theorem digit_of_lt {int : Bytes} (hi : ∀ c ∈ int, isDigit c = true) (u : Bytes) {i : Nat} (h : i < int.length) :
    isDigit ((int ++ u).getD i 0) = true := by
  rw [getD_append_left int u i h, ← List.getElem_eq_getD (h := h) 0]
  exact hi _ (List.getElem_mem h)

/-- **A number is not a date**: `digits` … -/
theorem looksLikeDate_int (int rest : Bytes) (hi : ∀ c ∈ int, isDigit c = true) (hr : DateStop rest) :
    looksLikeDate (int ++ rest) = false := by
  unfold looksLikeDate
  split
  · rfl
  · cases hc : looksLikeDateCore (int ++ rest)
    · rfl
    · by_cases h5 : 4 < int.length
      · -- the fifth byte is a digit, not a separator
        have h4 := (looksLikeDateCore_true hc).2.2.2.2.1
        rw [digit_not_sep (digit_of_lt hi rest h5)] at h4; cases h4
      · -- among the first five bytes stands one that is neither
        have := looksLikeDateCore_bytes hc int.length (by omega)
        rw [(hr.getD int).1, (hr.getD int).2] at this
        rcases this with h | h <;> cases h

/-- … and `digits '.' digits`. -/
theorem looksLikeDate_frac (int frac rest : Bytes) (hi : ∀ c ∈ int, isDigit c = true)
    (hf : ∀ c ∈ frac, isDigit c = true) (hr : DateStop rest) :
    looksLikeDate (int ++ 0x2E :: frac ++ rest) = false := by
  unfold looksLikeDate
  split
  · rfl
  · cases hc : looksLikeDateCore (int ++ 0x2E :: frac ++ rest)
    · rfl
    · rw [List.append_assoc] at hc
      obtain ⟨_, _, _, _, h4, h5, h6⟩ := looksLikeDateCore_true hc
      by_cases hgt : 4 < int.length
      · rw [digit_not_sep (digit_of_lt hi _ hgt)] at h4; cases h4
      by_cases hlt : int.length < 4
      · -- the point stands where a date has a digit
        have := looksLikeDateCore_digits hc int.length hlt
        rw [List.cons_append, getD_append_head] at this; cases this
      -- four digits and the point: `d` or `dd` behind it would have to be followed by a point
      obtain ⟨i0, i1, i2, i3, rfl⟩ : ∃ i0 i1 i2 i3, int = [i0, i1, i2, i3] := by
        rcases int with _ | ⟨i0, _ | ⟨i1, _ | ⟨i2, _ | ⟨i3, _ | ⟨i4, t⟩⟩⟩⟩⟩
        all_goals first | exact ⟨_, _, _, _, rfl⟩ | (simp only [List.length_cons, List.length_nil] at hgt hlt; omega)
      obtain ⟨hr1, hr2⟩ := hr.head
      rcases frac with _ | ⟨f0, _ | ⟨f1, _ | ⟨f2, fr⟩⟩⟩ <;>
        simp only [List.cons_append, List.nil_append, List.getD_cons_succ, List.getD_cons_zero] at h5 h6
      · rw [hr1] at h5; cases h5
      · rw [hr1, if_neg (by decide)] at h6
        rw [h6] at hr2; cases hr2
      · rw [hf f1 (by simp), if_pos rfl] at h6
        rw [h6] at hr2; cases hr2
      · rw [hf f1 (by simp), if_pos rfl] at h6
        have := digit_not_sep (hf f2 (by simp))
        rw [h6] at this; cases this

end HL.Lex
