import HL.Lemmas.ParserReach
/-
  The default year is changed by `parseYearDirective` only, which runs only when the journal
  loop stands on a Directive token: every other parse function leaves it as it is.  For the
  line-internal functions this is part of `ReachL`.
-/
namespace HL.Parser
open HL HL.Ast

variable {σ : Type} (E : Env σ)

@[simp] theorem advance_dy (st : PState σ) : (advance E st).defaultYear = st.defaultYear := rfl
@[simp] theorem error_dy (st : PState σ) (m) : (error st m).defaultYear = st.defaultYear := rfl

theorem L_dy {α : Type} {F : PState σ → α × PState σ} {st : PState σ} (hF : LineInternal E F st) :
    (F st).2.defaultYear = st.defaultYear := (LineInternal.reachL E hF (ReachL.refl E st)).dy

theorem skipLoopF_dy (n : Nat) (st : PState σ) : (skipLoopF E n st).defaultYear = st.defaultYear :=
  L_dy E (skipLoopF_line E n)

theorem skipUntilF_dy (b : Bool) (n : Nat) (st : PState σ) : (skipUntilF E b n st).defaultYear = st.defaultYear :=
  L_dy E (skipUntilF_line E b n)

theorem skipToNextLine_dy (st : PState σ) : (skipToNextLine E st).defaultYear = st.defaultYear := by
  simp only [skipToNextLine, apply_ite PState.defaultYear, advance_dy, skipLoopF_dy, ite_self]

theorem parsePosting_dy (st : PState σ) : (parsePosting E st).2.defaultYear = st.defaultYear := by
  have hc := postingOpen_closing E (advance E st)
  simp only [parsePosting, apply_ite Prod.snd, apply_ite PState.defaultYear, parseComment, advance_dy, error_dy,
    skipToNextLine_dy, L_dy E (postingTail_line E hc), L_dy E (postingOpen_line E), ite_self]

theorem postingsF_dy (n : Nat) (st : PState σ) : (postingsF E n st).2.defaultYear = st.defaultYear := by
  induction n generalizing st with
  | zero => rfl
  | succ n ih =>
    simp only [postingsF, apply_ite Prod.snd, apply_ite PState.defaultYear, ih, advance_dy, parsePosting_dy, ite_self]

theorem txHeader_dy (st : PState σ) : (txHeader E st).2.defaultYear = st.defaultYear := by
  simp only [txHeader, apply_ite PState.defaultYear, advance_dy, L_dy E (txComment_line E),
    L_dy E (txDescription_line E), L_dy E (txCode_line E), L_dy E (txStatus_line E), L_dy E (txDate2_line E),
    ite_self]

theorem parseTransaction_dy (st : PState σ) : (parseTransaction E st).2.defaultYear = st.defaultYear := by
  have d := L_dy E (parseDate_line E (s1 := st))
  simp only [parseTransaction]
  generalize parseDate E st = r at d ⊢
  rcases r with ⟨_ | dt, st1⟩ <;> simp only at d <;> simp only [skipToNextLine_dy, postingsF_dy, txHeader_dy, d]

theorem parseSubdirectivesF_dy (n : Nat) (st : PState σ) (m : Subdirs) :
    (parseSubdirectivesF E n st m).2.defaultYear = st.defaultYear := by
  induction n generalizing st m with
  | zero => rfl
  | succ n ih =>
    simp only [parseSubdirectivesF, apply_ite Prod.snd, apply_ite PState.defaultYear, ih, skipToNextLine_dy,
      L_dy E (subValueF_line E _ _), advance_dy, ite_self]

theorem parseSubdirectives_dy (st : PState σ) : (parseSubdirectives E st).2.defaultYear = st.defaultYear :=
  parseSubdirectivesF_dy E _ st []

theorem parseAccountDirective_dy (sp : Pos) (st : PState σ) : (parseAccountDirective E sp st).2.defaultYear = st.defaultYear := by
  simp only [parseAccountDirective, apply_ite Prod.snd, apply_ite PState.defaultYear, skipToNextLine_dy,
    parseSubdirectives_dy, skipUntilF_dy, L_dy E (lineComment_line E),
    L_dy E (accountNameRest_line E _), advance_dy, error_dy, ite_self]

theorem parseCommodityDirective_dy (sp : Pos) (st : PState σ) : (parseCommodityDirective E sp st).2.defaultYear = st.defaultYear := by
  simp only [parseCommodityDirective, parseSubdirectives_dy, apply_ite PState.defaultYear, advance_dy,
    skipUntilF_dy, L_dy E (commodityInline_line E), ite_self]

theorem parseIncludeDirective_dy (sp : Pos) (st : PState σ) : (parseIncludeDirective E sp st).2.defaultYear = st.defaultYear := by
  simp only [parseIncludeDirective, apply_ite Prod.snd, apply_ite PState.defaultYear, skipToNextLine_dy, error_dy,
    L_dy E (includePathF_line E _ _), ite_self]

theorem parsePriceDirective_dy (sp : Pos) (st : PState σ) : (parsePriceDirective E sp st).2.defaultYear = st.defaultYear := by
  have d := L_dy E (parseDate_line E (s1 := st))
  simp only [parsePriceDirective]
  generalize parseDate E st = r at d ⊢
  rcases r with ⟨_ | dt, st1⟩ <;> simp only at d ⊢
  · simp only [skipToNextLine_dy, d]
  · have a := L_dy E (parseAmount_line E (s1 := advance E st1))
    split
    · split <;> rename_i e <;> rw [e] at a <;> simp only [advance_dy] at a <;> simp only [skipToNextLine_dy, a, d]
    · simp only [skipToNextLine_dy, error_dy, d]

theorem parseDefaultCommodityDirective_dy (sp : Pos) (st : PState σ) : (parseDefaultCommodityDirective E sp st).2.defaultYear = st.defaultYear := by
  simp only [parseDefaultCommodityDirective, skipToNextLine_dy, apply_ite (fun r : Bytes × Bytes × PState σ => r.2.2),
    apply_ite PState.defaultYear, advance_dy, ite_self]

theorem journalStep_dy (st : PState σ) (h : st.current.ty ≠ .directive) :
    (journalStep E st).2.defaultYear = st.defaultYear := by
  have t := parseTransaction_dy E st
  simp only [journalStep, if_neg h]
  generalize parseTransaction E st = r at t ⊢
  rcases r with ⟨_ | tx, st1⟩ <;> simp only at t <;>
    simp only [apply_ite Prod.snd, apply_ite PState.defaultYear, parseComment, advance_dy, skipToNextLine_dy, error_dy, t,
      ite_self]

end HL.Parser
