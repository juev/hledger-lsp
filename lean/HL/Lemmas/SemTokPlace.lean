/-
  Helper lemmas for C17: from the lexer's contract (extents in bytes, on rune boundaries, line
  numbers) to UTF-16 positions — every piece of text that becomes a token lies between two rune
  boundaries (`emitted_piece`), so the cursor measures it exactly (`measAll_of_cuts`), and a
  plain token covers its lexeme (`plain_covers_cuts`).
-/
import HL.Lemmas.SemTokGeom
namespace HL.Lemmas.SemTok
open HL HL.SemTok HL.SemTokSpec

/-- The span `sp` stands for `body`: it starts where that piece of `s` starts and carries its
    length in bytes and in UTF-16 units. -/
structure SpanOf (s : Bytes) (sp : TagSpan) (body : Bytes) : Prop where
  piece : Piece s sp.off body
  len : sp.len = body.length
  len16 : sp.len16 = u16lenB body

theorem SpanOf.hi {s body : Bytes} {sp : TagSpan} (h : SpanOf s sp body) : Cut s (sp.off + sp.len) :=
  h.len ▸ h.piece.hi

theorem SpanOf.slice {s body : Bytes} {sp : TagSpan} (h : SpanOf s sp body) :
    sliceB s sp.off (sp.off + sp.len) = body := h.len ▸ h.piece.slice

theorem SpanOf.measured {text body : Bytes} {sp : TagSpan} (h : SpanOf text sp body)
    (hsmall : text.length < 2 ^ 32) (hl : NoLfP text sp.off (sp.off + sp.len)) :
    measured text sp = true := by
  have := colAt_add h.piece.lo h.hi (Nat.le_add_right _ _) hl
  rw [h.slice, ← h.len16] at this
  have := colAt_lt text (sp.off + sp.len) hsmall
  exact measured_iff.mpr ⟨by omega, this⟩

theorem chunksF_shape (f : Nat) (s : Bytes) : ∀ c ∈ chunksF f s,
    ∃ b t, c = ((decodeRune (b :: t)).1, (b :: t).take (decodeRune (b :: t)).2) := by
  induction f generalizing s with
  | zero => simp [chunksF]
  | succ f ih =>
    cases s with
    | nil => simp [chunksF]
    | cons b t =>
      intro c hc
      simp only [chunksF, List.mem_cons] at hc
      rcases hc with rfl | hc
      · exact ⟨b, t, rfl⟩
      · exact ih _ c hc

/-- A rune whose last byte is ASCII is that byte. -/
theorem chunk_last_ascii (s : Bytes) (c : Nat × Bytes) (hc : c ∈ chunks s) (x : UInt8)
    (hx : c.2.getLast? = some x) (ha : x.toNat < 128) : c.1 = x.toNat := by
  obtain ⟨b, t, rfl⟩ := chunksF_shape _ _ c hc
  have hk1 := decodeRune_width_pos b t
  have hk2 := decodeRune_width_le b t
  simp only at hx ⊢
  rw [List.getLast?_eq_getElem?, List.length_take, Nat.min_eq_left hk2,
    List.getElem?_take_of_lt (by omega)] at hx
  by_cases hk : (decodeRune (b :: t)).2 - 1 = 0
  · rw [hk] at hx
    simp only [List.getElem?_cons_zero, Option.some.injEq] at hx
    subst hx
    have : b < 0x80 := by rw [UInt8.lt_iff_toNat_lt]; simpa using ha
    simp [decodeRune, this]
  · have := decodeRune_tail (b :: t) _ x (by omega) (by omega) hx
    omega

theorem trimSpace_last_ne_cr (s : Bytes) (x : UInt8) (h : (trimSpace s).getLast? = some x) : x ≠ cr := by
  let p : Nat × Bytes → Bool := fun c => isSpaceRune c.1
  let dw := (chunks s).dropWhile p
  have htr : trimSpace s = unchunk ((dw.reverse.dropWhile p).reverse) := rfl
  cases hL : dw.reverse.dropWhile p with
  | nil => rw [htr, hL] at h; simp [unchunk] at h
  | cons c rest =>
    have hnp : p c = false := by
      have := List.head_dropWhile_not p (l := dw.reverse) (by rw [hL]; simp)
      simpa [hL] using this
    have hmem : c ∈ chunks s := by
      have h1 : c ∈ dw.reverse.dropWhile p := by rw [hL]; exact List.mem_cons_self
      have h2 := (List.dropWhile_suffix p).subset h1
      have h3 : c ∈ dw := List.mem_reverse.mp h2
      exact (List.dropWhile_suffix p).subset h3
    have hpos := chunks_pos s c hmem
    have hne : c.2 ≠ [] := by intro e; rw [e] at hpos; simp at hpos
    rw [htr, hL, List.reverse_cons, unchunk_append, getLast?_append_of_ne_nil _ (by simpa [unchunk] using hne)] at h
    intro e
    subst e
    have := chunk_last_ascii s c hmem cr (by simpa [unchunk] using h) (by decide)
    have hp : p c = true := by
      show isSpaceRune c.1 = true
      rw [this]; decide
    rw [hnp] at hp; cases hp

theorem span_piece {cls : Classes} {comment : Bytes} {sp : TagSpan}
    (h : SpanContent cls comment sp) (hc : SpanCutP comment sp) :
    ∃ body, SpanOf comment sp body ∧ body ≠ [] ∧ ∀ x, body.getLast? = some x → x ≠ cr := by
  rcases h with ⟨_, name, _, hl, h16, hsl⟩ | ⟨_, value, hne, ⟨r, hr⟩, hl, h16, hsl⟩
  · refine ⟨name ++ [colon], ⟨⟨by simpa [hl] using hsl, hc.1, by simpa [hl] using hc.2⟩, by simp [hl], ?_⟩,
      by simp, fun x hx => ?_⟩
    · have : (name ++ [colon])[name.length]? = some colon := by simp
      have hcut := (cut_ascii _ _ _ this (by decide)).1
      rw [h16, u16lenB_cut hcut, List.take_left', List.drop_left', u16lenB_cons_ascii _ _ (by decide)] <;> rfl
    · rw [getLast?_append_of_ne_nil _ (by simp)] at hx
      cases hx; decide
  · exact ⟨value, ⟨⟨hl ▸ hsl, hc.1, hl ▸ hc.2⟩, hl, h16⟩, hne, fun x hx => trimSpace_last_ne_cr r x (hr ▸ hx)⟩

theorem ExtentP.valPiece {text : Bytes} {t : Token} (he : ExtentP text t) (hc : t.ty = .comment)
    (hp : Cut text t.pos.off) (hs : Cut text t.stop.off) : Piece text (t.pos.off + 1) t.val :=
  (Piece.of_cuts hp hs he.le (he.cmt hc)).trans
    (piece_ascii (s := 0x3B :: t.val) (i := 0) rfl (by decide)).2

theorem tag_piece (cls : Classes) {text : Bytes} {t : Token} (he : ExtentP text t)
    (hc : t.ty = .comment) (hp : Cut text t.pos.off) (hs : Cut text t.stop.off) {sp : TagSpan}
    (hsp : sp ∈ extractSpans cls t.val) :
    ∃ body, SpanOf text { sp with off := t.pos.off + 1 + sp.off } body ∧ body ≠ [] ∧
      ∀ x, body.getLast? = some x → x ≠ cr := by
  obtain ⟨hcont, hcut⟩ := (extractSpans_spec cls t.val).2 sp hsp
  obtain ⟨body, h, hne⟩ := span_piece hcont hcut
  exact ⟨body, ⟨(he.valPiece hc hp hs).trans h.piece, h.len, h.len16⟩, hne⟩

theorem plainSpan_piece (text : Bytes) (t : Token) (x : UInt32) (he : ExtentP text t)
    (hp : Cut text t.pos.off) (hs : Cut text t.stop.off) :
    SpanOf text (plainSpan text t x)
      (if t.ty == .comment then 0x3B :: t.val else trimSpace (sliceB text t.pos.off t.stop.off)) := by
  have hsrc : Piece text t.pos.off (sliceB text t.pos.off t.stop.off) := .of_cuts hp hs he.le rfl
  rw [plainSpan]
  split
  · rename_i hc
    rw [he.cmt (beq_iff_eq.mp hc)] at hsrc
    exact ⟨hsrc, rfl, by rw [u16lenB_cons_ascii _ _ (by decide)]; exact Nat.add_comm _ _⟩
  · -- the projections are reduced first: unifying `{ off := a + leadWs s, .. }.off` with
    -- `a + leadWs s` would evaluate `leadWs`
    refine ⟨?_, ?_, ?_⟩ <;> simp only []
    exact hsrc.trans (piece_trim _)

theorem emitted_piece (cls : Classes) (text : Bytes) (t : Token) (he : ExtentP text t)
    (hp : Cut text t.pos.off) (hs : Cut text t.stop.off) :
    ∀ sp ∈ emitted cls text t, ∃ body, SpanOf text sp body ∧ body ≠ [] ∧
      (devCrComment t = false → ∀ x, body.getLast? = some x → x ≠ cr) := by
  by_cases hnil : t.ty = .comment → extractSpans cls t.val = []
  · rw [emitted_plain hnil]
    split
    · exact fun _ h => nomatch h
    · rename_i h0
      intro sp hsp
      rw [List.mem_singleton.mp hsp]
      have h := plainSpan_piece text t 0 he hp hs
      refine ⟨_, h, fun e => h0 (by rw [h.len16, e]; rfl), fun hcr x hx => ?_⟩
      split at hx
      · rename_i hc
        simp only [devCrComment, hc, Bool.true_and, beq_eq_false_iff_ne, ne_eq] at hcr
        cases hv : t.val with
        | nil => rw [hv] at hx; cases hx; decide
        | cons b r =>
          rw [hv, List.getLast?_cons_cons, ← hv] at hx
          exact fun e => hcr (e ▸ hx)
      · exact trimSpace_last_ne_cr _ x hx
  · rw [Classical.not_imp] at hnil
    rw [emitted_tags hnil.1 hnil.2]
    intro sp' hsp'
    obtain ⟨sp, hsp, rfl⟩ := List.mem_map.mp hsp'
    obtain ⟨body, h, hne, hlast⟩ := tag_piece cls he hnil.1 hp hs hsp
    exact ⟨body, h, hne, fun _ => hlast⟩

theorem emitted_inside (cls : Classes) (text : Bytes) (t : Token) (he : ExtentP text t) :
    ∀ sp ∈ emitted cls text t, t.pos.off ≤ sp.off ∧ sp.off + sp.len ≤ t.stop.off :=
  spansFrom_mem_le (emitted_spansFrom cls text t he)

/-- **From the lexer's contract to the UTF-16 geometry.**  Well-formed extents on rune
    boundaries: every piece of text that becomes a token is measured exactly by the cursor. -/
theorem measAll_of_cuts (cls : Classes) (text : Bytes) (toks : List Token)
    (hx : (mappedBody toks).all (extentOk text) = true) (hc : cutsB text toks = true) :
    MeasAll cls text (mappedBody toks) := by
  intro t ht
  have he := extentP_of text t ((List.all_eq_true.mp hx) t ht)
  have hct := (List.all_eq_true.mp hc) t ht
  simp only [cutOk, Bool.and_eq_true] at hct
  rw [List.all_eq_true]
  intro sp hsp
  obtain ⟨body, h, _⟩ := emitted_piece cls text t he (cut_of_isCut hct.1) (cut_of_isCut hct.2) sp hsp
  have hin := emitted_inside cls text t he sp hsp
  exact h.measured he.small (noLfP_sub he.oneLine hin.1 hin.2)

theorem splitOn_length (sep : UInt8) (s : Bytes) : (splitOn sep s).length = s.count sep + 1 := by
  induction s with
  | nil => rfl
  | cons b bs ih =>
    rw [splitOn, List.count_cons]
    split
    · rename_i hb; simp [ih, hb]
    · rename_i hb
      have : (b == sep) = false := beq_false_of_ne hb
      split
      · rename_i p ps hp
        rw [hp] at ih
        simp only [List.length_cons, this, Bool.false_eq_true, if_false] at ih ⊢
        omega
      · rename_i hp
        exact absurd hp (splitOn_ne_nil _ _)

theorem take_eq_take_append_slice (text : Bytes) (p a : Nat) (h : p ≤ a) :
    text.take a = text.take p ++ sliceB text p a := by
  conv => lhs; rw [show a = p + (a - p) by omega, List.take_add]
  rfl

theorem posLine_same (text : Bytes) (p a : Nat) (h : p ≤ a) (hl : NoLfP text p a) :
    (posOfOffset text a).1 = (posOfOffset text p).1 := by
  simp only [posOfOffset, splitOn_length, take_eq_take_append_slice text p a h, List.count_append]
  rw [show (sliceB text p a).count lf = 0 from List.count_eq_zero.mpr (noLf_slice_of_P hl)]

theorem posOfOffset_in_extent {text : Bytes} {t : Token} (he : ExtentP text t)
    (hline : lineOk text t = true) {a : Nat} (ha : Cut text a) (h1 : t.pos.off ≤ a)
    (h2 : a ≤ t.stop.off) : posOfOffset text a = (t.pos.line - 1, colAt text a) := by
  rw [lineOk, beq_iff_eq] at hline
  -- at a rune boundary the cursor's column is the UTF-16 length of the line so far, which is
  -- the LSP character
  rw [← hline, ← posLine_same text t.pos.off a h1 (noLfP_sub he.oneLine (Nat.le_refl _) h2),
    colAt_lastPiece ha]
  rfl

theorem plainSpan_lexemeRange (text : Bytes) (t : Token) (x : UInt32) (he : ExtentP text t)
    (hcr : devCrComment t = false) (hnz : (plainSpan text t x).len16 ≠ 0) :
    lexemeRange text t
      = ((plainSpan text t x).off, (plainSpan text t x).off + (plainSpan text t x).len) := by
  by_cases hc : t.ty = .comment
  · have hc' : (t.ty == TokType.comment) = true := beq_iff_eq.mpr hc
    have hcr' : t.val.getLast? ≠ some cr := by simpa [devCrComment, hc'] using hcr
    have hs : stripCR (0x3B :: t.val) = 0x3B :: t.val := by
      rw [stripCR, if_neg]
      cases hv : t.val with
      | nil => decide
      | cons b r => rwa [List.getLast?_cons_cons, ← hv]
    simp only [lexemeRange, plainSpan, hc, he.cmt hc, hs, List.length_cons]
    rfl
  · have hc' : (t.ty == TokType.comment) = false := beq_false_of_ne hc
    have hne : ¬ (t.ty == TokType.pipe && t.pos.off == t.stop.off) = true := by
      intro hp
      rw [Bool.and_eq_true, beq_iff_eq, beq_iff_eq] at hp
      apply hnz
      simp only [plainSpan, hc', sliceB, hp.2, Nat.sub_self, List.take_zero, Bool.false_eq_true, if_false]
      rfl
    simp only [lexemeRange, plainSpan, hc', hne, Bool.false_eq_true, if_false]

/-- **A plain token covers its lexeme**: the lexer's contract about the token (extent, rune
    boundaries, line number) suffices, unless it is a comment that includes a CR.  On the way:
    the cursor's column at the lexeme's first byte is its LSP character (`placed`). -/
theorem plain_covers_cuts (text : Bytes) (t : Token) (semType mods : UInt32)
    (hty : mapTokenType t.ty = some semType ∨ (t.ty = .text ∧ semType = tyPayee))
    (he : ExtentP text t) (hp : Cut text t.pos.off) (hs : Cut text t.stop.off)
    (hline : lineOk text t = true) (hcr : devCrComment t = false)
    (hnz : u32 (plainSpan text t semType).len16 ≠ 0) :
    placed text t = true ∧ coversTok text t (absOf (plainToken text t semType mods)) = true := by
  have hn0 : (plainSpan text t semType).len16 ≠ 0 := fun e => hnz (by rw [e]; rfl)
  have hr := plainSpan_lexemeRange text t semType he hcr hn0
  have hsp := plainSpan_piece text t semType he hp hs
  have hin := plainSpan_inside text t semType he
  have hpos := posOfOffset_in_extent he hline hsp.piece.lo hin.1 (by omega)
  have h16 : (plainSpan text t semType).len16 < 2 ^ 32 := by
    have := u16lenB_le (sliceB text (plainSpan text t semType).off
      ((plainSpan text t semType).off + (plainSpan text t semType).len))
    rw [hsp.slice, ← hsp.len16, ← hsp.len] at this
    have := he.inText; have := he.small
    omega
  have hkind : (kindTypes t.ty).contains semType.toNat = true := by
    rcases hty with h | ⟨h1, h2⟩
    · exact (mapTokenType_kind h).2
    · rw [h1, h2]; decide
  refine ⟨by rw [placed, hr, hpos]; exact beq_self_eq_true _, ?_⟩
  simp only [coversTok, absOf_plainToken text t semType mods he h16, pieceTok, lexemeSpan, hr, hsp.slice,
    ← hsp.len16, hkind, hpos, Bool.and_true, beq_self_eq_true, decide_eq_true_eq]
  omega

end HL.Lemmas.SemTok
