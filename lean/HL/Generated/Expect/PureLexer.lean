/-
  Expectations about the Go predicates that tools/extract (pure.go) translates into Lean on
  every run (HL/Generated/Pure.lean): each is the model's definition, FOR ALL ARGUMENTS.

  The proofs look only at what the functions compute — every byte is evaluated (`forall_uint8`),
  statements about code points are reduced to linear arithmetic (`bool_arith`), strings are split
  by cases — so a rewrite of the Go function that keeps its meaning (a `switch` for a chain of
  `||`, tests in another order, a helper call) keeps them, and a change of its meaning breaks the
  build HERE, naming the function.  The lexer, text and settings models are tied to the source by
  these theorems in addition to the correspondence runs.
-/
import HL.Generated.Pure
import HL.Generated.Expect.PureTactics
import HL.Model.Lexer
namespace HL.Generated.Expect
open HL HL.Generated

theorem isWhitespace_eq (b : UInt8) : Pure.isWhitespace b.toNat = Lex.isWhitespace b := by
  have := forall_uint8 (fun b => Pure.isWhitespace b.toNat == Lex.isWhitespace b) (by decide +kernel) b
  simpa using this

theorem isDigit_eq (b : UInt8) : Pure.isDigit b.toNat = Lex.isDigit b := by
  have := forall_uint8 (fun b => Pure.isDigit b.toNat == Lex.isDigit b) (by decide +kernel) b
  simpa using this

theorem isLetter_eq (b : UInt8) : Pure.isLetter b.toNat = Lex.isLetter b := by
  have := forall_uint8 (fun b => Pure.isLetter b.toNat == Lex.isLetter b) (by decide +kernel) b
  simpa using this

/-- `isAccountStart` is `isLetter` (the model uses `isLetter` directly). -/
theorem isAccountStart_eq (b : UInt8) : Pure.isAccountStart b.toNat = Lex.isLetter b := by
  have := forall_uint8 (fun b => Pure.isAccountStart b.toNat == Lex.isLetter b) (by decide +kernel) b
  simpa using this

theorem isCurrencySymbol_eq (r : Nat) : Pure.isCurrencySymbol r = Lex.isCurrencySymbol r := by
  unfold Pure.isCurrencySymbol Lex.isCurrencySymbol
  bool_arith

theorem isAccountTerminator_eq (r : Nat) : Pure.isAccountTerminator r = Lex.isAccountTerminator r := by
  unfold Pure.isAccountTerminator Lex.isAccountTerminator
  bool_arith

end HL.Generated.Expect
