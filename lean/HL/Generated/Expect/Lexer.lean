/- Expectations about the regenerated facts on the lexer's tables and token types (how they are used: Expect/Analyzer.lean). -/
import HL.Generated.Facts
import HL.Model.Ast
namespace HL.Generated.Expect
open HL.Generated.Facts

/-- The token type enumeration of the model (HL.TokType) is parser.TokenType, in order. -/
theorem tokenTypes_match :
    tokenTypes = (List.range 25).map (fun i => (HL.TokType.ofCode i).name) := rfl

theorem account_terminators : accountTerminators = [9, 10, 13, 40, 41, 59, 61, 64, 91, 93] := by decide

theorem currency_symbols : currencySymbols = [36, 163, 165, 8364, 8372, 8381] := by decide

theorem directive_set :
    directiveSet = ["D", "P", "Y", "account", "alias", "apply", "assert", "bucket", "capture", "check", "comment",
      "commodity", "decimal-mark", "def", "define", "end", "eval", "expr", "include", "payee", "tag", "test", "year"] := rfl

/-- Amount exponents are bounded (C06: decimal arithmetic cost and int32 exponent overflow). -/
theorem exponent_bounded : 0 < maxAmountExponent ∧ maxAmountExponent ≤ 100000 := by decide

end HL.Generated.Expect
