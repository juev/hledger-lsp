/-
  server.shouldIncludeDiagnostic as translated by tools/extract (pure.go) is the model's, for every
  code and every settings value (see Expect/PureLexer.lean for the method).
-/
import HL.Generated.Pure
import HL.Model.Settings
import HL.Model.Undeclared
namespace HL.Generated.Expect
open HL HL.Generated

def diagField (d : Settings.Diagnostics) : String → Bool
  | "UndeclaredAccounts" => d.undeclaredAccounts
  | "UndeclaredCommodities" => d.undeclaredCommodities
  | "UnbalancedTransactions" => d.unbalancedTransactions
  | _ => false

theorem shouldIncludeDiagnostic_eq (code : String) (d : Settings.Diagnostics) (anyN : String → Nat) :
    Pure.shouldIncludeDiagnostic code anyN (diagField d) = Settings.shouldIncludeDiagnostic code d := by
  simp only [Pure.shouldIncludeDiagnostic, Settings.shouldIncludeDiagnostic, diagField, ← beq_iff_eq (a := code),
    Bool.or_eq_true]
  cases code == "UNDECLARED_ACCOUNT" <;> cases code == "UNDECLARED_COMMODITY" <;>
    cases code == "UNBALANCED" <;> cases code == "MULTIPLE_INFERRED" <;> simp

def undeclField (s : Undeclared.Settings) : String → Bool
  | "UndeclaredAccounts" => s.undeclaredAccounts
  | "UndeclaredCommodities" => s.undeclaredCommodities
  | "UnbalancedTransactions" => s.unbalancedTransactions
  | _ => false

/-- the same for the analyzer-side model of C18, which names the codes by an enumeration -/
theorem shouldIncludeDiagnostic_eq_code (code : Undeclared.Code) (s : Undeclared.Settings) (anyN : String → Nat) :
    Pure.shouldIncludeDiagnostic code.name anyN (undeclField s) = Undeclared.shouldIncludeDiagnostic code s := by
  cases code <;> simp [Pure.shouldIncludeDiagnostic, Undeclared.shouldIncludeDiagnostic, Undeclared.Code.name, undeclField]

end HL.Generated.Expect
