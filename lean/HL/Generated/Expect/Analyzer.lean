/-
  Hand-written expectations about the facts regenerated from /repo (HL/Generated/Facts.lean).
  Each theorem states one thing the model or a proof relies on.  If the Go source changes
  such a fact, `lake build` fails HERE, naming the fact: a proof break attributable to it.
-/
import HL.Generated.Facts
namespace HL.Generated.Expect
open HL.Generated.Facts

/-- The six standard top-level categories of C18. -/
theorem predefined_accounts :
    predefinedAccountTypes = ["assets", "equity", "expenses", "income", "liabilities", "revenues"] := rfl

/-- Codes switched by the three diagnostics settings (C18 `settings_orthogonal`, C02). -/
theorem switched_codes :
    switchedDiagnosticCodes = ["UNDECLARED_ACCOUNT", "UNDECLARED_COMMODITY", "UNBALANCED", "MULTIPLE_INFERRED"] := rfl

end HL.Generated.Expect
