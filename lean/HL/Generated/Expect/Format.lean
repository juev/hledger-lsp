/- Expectations about the regenerated facts on the formatter's constants (how they are used: Expect/Analyzer.lean). -/
import HL.Generated.Facts
namespace HL.Generated.Expect
open HL.Generated.Facts

/-- the model has the literal 2 (`HL.Fmt.minSpaces`): hledger needs two blanks before an amount -/
theorem min_spaces_ge_two : 2 ≤ minSpaces := by decide

theorem default_indent_pos : 0 < defaultIndentSize := by decide

end HL.Generated.Expect
