/- Expectations about the regenerated facts on the dispatch of requests and the goroutines the server starts (how they are used: Expect/Analyzer.lean). -/
import HL.Generated.Facts
namespace HL.Generated.Expect
open HL.Generated.Facts

theorem serial_dispatch : asyncDispatch = false := by decide

theorem goroutines_known :
    serverGoroutines = ["DidChangeConfiguration->refreshConfiguration", "DidOpen->publishDiagnosticsVersion",
      "Initialized->refreshConfiguration", "didChange->publishDiagnosticsVersion"] := rfl

end HL.Generated.Expect
