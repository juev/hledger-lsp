/-
  Hand-written expectations about the regenerated facts on the feature gate (property C19):
  cmd/hledger-lsp/main.go really serves its requests through `Server.FeatureGate`, and the
  gate's table is the one the model has (`HL.Settings.requestFeature`).  If the chaining is
  removed, or a row of the table is dropped or points at another switch, `lake build` fails
  HERE and with it HL.Props.C19, whose theorems on the feature switches speak about requests
  that pass through the gate.
-/
import HL.Generated.Facts
import HL.Model.Settings
namespace HL.Generated.Expect
open HL.Generated.Facts

/-- the names go.lsp.dev/protocol gives the request methods (server.go, `Method…` constants) -/
def methodConstant : List (String × String) := [
  ("textDocument/hover", "MethodTextDocumentHover"),
  ("textDocument/completion", "MethodTextDocumentCompletion"),
  ("textDocument/formatting", "MethodTextDocumentFormatting"),
  ("textDocument/semanticTokens/full", "MethodSemanticTokensFull"),
  ("textDocument/semanticTokens/full/delta", "MethodSemanticTokensFullDelta"),
  ("textDocument/semanticTokens/range", "MethodSemanticTokensRange"),
  ("textDocument/codeAction", "MethodTextDocumentCodeAction"),
  ("textDocument/foldingRange", "MethodTextDocumentFoldingRange"),
  ("textDocument/documentLink", "MethodTextDocumentDocumentLink"),
  ("workspace/symbol", "MethodWorkspaceSymbol")]

def constantOf (m : String) : String := ((methodConstant.find? fun p => p.1 == m).map (·.2)).getD m

/-- the handler that `conn.Go` serves is built from `srv.FeatureGate(…)` wrapped around the
    protocol dispatcher: every request the dispatcher sees has passed the gate -/
theorem feature_gate_chained :
    "FeatureGate" ∈ handlerChain.takeWhile (fun w => w != "ServerHandler") ∧
    "ServerHandler" ∈ handlerChain := by decide +kernel

/-- the gate's table is the model's (as a set of rows: the order in which a map literal lists
    its entries means nothing, so a reordering of the source must not break this) -/
theorem feature_gate_table :
    featureGateTable.isPerm
      (HL.Settings.requestFeature.map fun (m, f) => constantOf m ++ ":" ++ f.goField) = true := by decide +kernel

end HL.Generated.Expect
