/-
  server.isFullChange as translated by tools/extract (pure.go) is the model's isFullChange, for
  every range (see Expect/PureLexer.lean for the method).
-/
import HL.Generated.Pure
import HL.Generated.Expect.PureTactics
import HL.Model.Text
namespace HL.Generated.Expect
open HL HL.Generated

/-- a range read through field names -/
def rangeField (r : Text.Range) : String → Nat
  | "Start.Line" => r.sl
  | "Start.Character" => r.sc
  | "End.Line" => r.el
  | "End.Character" => r.ec
  | _ => 0

theorem isFullChange_eq (r : Text.Range) (anyB : String → Bool) :
    Pure.isFullChange (rangeField r) anyB = Text.isFullChange r := by
  unfold Pure.isFullChange Text.isFullChange rangeField
  bool_arith

end HL.Generated.Expect
