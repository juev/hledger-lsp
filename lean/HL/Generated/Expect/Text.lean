/- Expectations about the regenerated facts on `isFullChange` (how they are used: Expect/Analyzer.lean). -/
import HL.Generated.Facts
namespace HL.Generated.Expect
open HL.Generated.Facts

/-- `isFullChange` is tied to the model through its translation (HL/Generated/Pure.lean), proved
    equal to `HL.Text.isFullChange` for every range: `isFullChange_eq` in
    HL/Generated/Expect/PureText.lean.  The text of its body is recorded as evidence only; all
    that is expected of it is that the extractor found the function. -/
theorem isFullChange_recorded : isFullChangeBody.length > 0 :=
  Nat.pos_of_ne_zero (mt String.length_eq_zero_iff.mp (by decide))

end HL.Generated.Expect
